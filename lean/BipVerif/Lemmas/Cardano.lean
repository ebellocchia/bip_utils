/-
Cardano / BIP32-Ed25519, for C18: what `tweakMasterBits` does to bytes 0 and 31 and why the result
is a clamped scalar; the three master key generators as retry loops; the child-key sum
`8·zL[:28] + kL`, its refusals, and the bound `kL₀ + d·2^227` along a derivation chain; CBOR heads
and the Byron / Shelley address round trips; the AEAD law for the reference ChaCha20-Poly1305.
Of the hashes only the output lengths are used.
-/
import BipVerif.Model.Cardano
import BipVerif.Lemmas.IntBytes
import BipVerif.Lemmas.Addr
import BipVerif.Lemmas.Bech32
import BipVerif.Lemmas.Base58
import BipVerif.Lemmas.Scale
import BipVerif.Lemmas.SS58
import BipVerif.Lemmas.Kholaw
import BipVerif.Prim.ChaCha20Poly1305

namespace BipVerif.Model.CardanoLemmas
open BipVerif BipVerif.Prim BipVerif.Model

theorem setByte_length (b : Bytes) (i : Nat) (f : Nat → Nat) : (setByte b i f).length = b.length := by
  unfold setByte; simp

theorem setByte_getD_ne (b : Bytes) (i j : Nat) (f : Nat → Nat) (d : UInt8) (h : j ≠ i) :
    (setByte b i f).getD j d = b.getD j d := by
  unfold setByte
  simp only [List.getD_eq_getElem?_getD, List.getElem?_mapIdx]
  cases b[j]? with
  | none => rfl
  | some x => simp [h]

theorem setByte_getD_eq (b : Bytes) (i : Nat) (f : Nat → Nat) (d : UInt8) (h : i < b.length) :
    (setByte b i f).getD i d = UInt8.ofNat (f (b.getD i d).toNat) := by
  unfold setByte
  simp only [List.getD_eq_getElem?_getD, List.getElem?_mapIdx]
  rw [List.getElem?_eq_getElem h]; simp

theorem toNatLE_nil : Bytes.toNatLE [] = 0 := Model.toNatLE_nil

theorem toNatLE_top_byte (b : Bytes) (n : Nat) (h : b.length = n + 1) :
    Bytes.toNatLE b / 256 ^ n = (b.getD n 0).toNat := by
  have h1 := toNatLE_lt (b.take n)
  rw [List.length_take_of_le (by omega)] at h1
  rw [toNatLE_split_last b n h, Nat.add_mul_div_left _ _ (Nat.pow_pos (by decide)),
    Nat.div_eq_of_lt h1, Nat.zero_add]

/-- what `tweakMasterBits` makes of byte 31 -/
def tweakByte (mask x : Nat) : Nat := ((x % 256 - (x &&& mask)) ||| 64) % 256

/-- byte 31 under mask 128: bit 7 cleared, bit 6 set, bits 0..5 untouched; so with bit 5 clear the
byte is below 96.  A fact about the 256 bytes, checked on each. -/
theorem tweakByte_128 : ∀ x, x < 256 →
    64 ≤ tweakByte 128 x ∧ tweakByte 128 x < 128 ∧ tweakByte 128 x % 64 = x % 64 ∧
      tweakByte 128 x &&& 32 = x &&& 32 ∧ (tweakByte 128 x &&& 32 = 0 → tweakByte 128 x < 96) := by
  decide +kernel

/-- byte 31 under mask 224: bits 7 and 5 cleared, bit 6 set, bits 0..4 untouched -/
theorem tweakByte_224 : ∀ x, x < 256 →
    64 ≤ tweakByte 224 x ∧ tweakByte 224 x < 96 ∧ tweakByte 224 x % 32 = x % 32 := by
  decide +kernel

theorem tweak_length (mask : Nat) (k : Bytes) : (tweakMasterBits mask k).length = k.length := by
  unfold tweakMasterBits; simp only [setByte_length]

theorem tweak_getD_other (mask : Nat) (k : Bytes) (j : Nat) (h0 : j ≠ 0) (h31 : j ≠ 31) :
    (tweakMasterBits mask k).getD j 0 = k.getD j 0 := by
  unfold tweakMasterBits
  simp only []
  rw [setByte_getD_ne _ _ _ _ _ h31, setByte_getD_ne _ _ _ _ _ h0]

theorem tweak_getD_zero (mask : Nat) (k : Bytes) (hk : 1 ≤ k.length) :
    ((tweakMasterBits mask k).getD 0 0).toNat = (k.getD 0 0).toNat / 8 * 8 := by
  unfold tweakMasterBits
  simp only []
  rw [setByte_getD_ne _ _ _ _ _ (by decide), setByte_getD_eq _ _ _ _ (by omega), UInt8.toNat_ofNat']
  exact Nat.mod_eq_of_lt (Nat.lt_of_le_of_lt (Nat.div_mul_le_self _ 8) (k.getD 0 0).toNat_lt)

theorem tweak_getD_31 (mask : Nat) (k : Bytes) (hk : 32 ≤ k.length) :
    ((tweakMasterBits mask k).getD 31 0).toNat = tweakByte mask (k.getD 31 0).toNat := by
  unfold tweakMasterBits
  simp only []
  rw [setByte_getD_eq _ _ _ _ (by rw [setByte_length]; omega), UInt8.toNat_ofNat',
    setByte_getD_ne _ _ _ _ _ (by decide)]
  rfl

/-- the shape of a BIP32-Ed25519 master secret scalar `kL` (32 little-endian bytes): multiple of 8,
bit 254 set, bits 255 and 253 clear -/
structure Clamped (kL : Bytes) : Prop where
  len : kL.length = 32
  low : Bytes.toNatLE kL % 8 = 0
  ge254 : 2 ^ 254 ≤ Bytes.toNatLE kL
  lt : Bytes.toNatLE kL < 2 ^ 254 + 2 ^ 253

theorem Clamped.lt255 (h : Clamped kL) : Bytes.toNatLE kL < 2 ^ 255 :=
  Nat.lt_trans h.lt (by decide)

theorem Clamped.bit253 (h : Clamped kL) : Bytes.toNatLE kL / 2 ^ 253 % 2 = 0 := by
  rw [Nat.div_eq_of_lt_le (k := 2) h.ge254 h.lt]

/-- 32 bytes with the three low bits of byte 0 clear and byte 31 in `[64, 96)`: the value is
`t + 256^31 · byte 31` with `t < 256^31`, and `2^254 = 64 · 256^31`, `2^253 = 32 · 256^31` -/
theorem clamped_of_bytes (b : Bytes) (hl : b.length = 32) (h0 : (b.getD 0 0).toNat % 8 = 0)
    (h1 : 64 ≤ (b.getD 31 0).toNat) (h2 : (b.getD 31 0).toNat < 96) : Clamped b := by
  have ht := toNatLE_lt (b.take 31)
  rw [List.length_take_of_le (by omega)] at ht
  have hv := toNatLE_split_last b 31 hl
  exact ⟨hl, by rw [toNatLE_mod_8, h0], by omega, by omega⟩

theorem clamped_take_tweak (mask : Nat) (k : Bytes) (hk : 32 ≤ k.length)
    (h1 : 64 ≤ tweakByte mask (k.getD 31 0).toNat) (h2 : tweakByte mask (k.getD 31 0).toNat < 96) :
    Clamped ((tweakMasterBits mask k).take 32) := by
  apply clamped_of_bytes
  · rw [List.length_take_of_le (by rw [tweak_length]; exact hk)]
  · rw [getD_take _ _ _ _ (by decide), tweak_getD_zero mask k (by omega)]; exact Nat.mul_mod_left _ _
  · rw [getD_take _ _ _ _ (by decide), tweak_getD_31 mask k hk]; exact h1
  · rw [getD_take _ _ _ _ (by decide), tweak_getD_31 mask k hk]; exact h2

/-- Both re-hashing generators are loops of this form: without fuel they fail with `fuel`; otherwise
they test the state and stop with `out s` or go on from `next s`.  What such a loop returns has
passed the test, and it fails only by running out of fuel. -/
theorem retry_loop {σ α : Type} (loop : Nat → σ → R α) (bad : σ → Prop) [DecidablePred bad]
    (next : σ → σ) (out : σ → α) (h0 : ∀ s, loop 0 s = .error .fuel)
    (hs : ∀ n s, loop (n + 1) s = if bad s then loop n (next s) else .ok (out s))
    (fuel : Nat) (s : σ) :
    (∀ r, loop fuel s = .ok r → ∃ s', ¬ bad s' ∧ r = out s') ∧
    (∀ e, loop fuel s = .error e → e = .fuel) := by
  induction fuel generalizing s with
  | zero => rw [h0]; exact ⟨fun _ h => (nomatch h), fun e h => (Except.error.inj h).symm⟩
  | succ n ih =>
    rw [hs]
    split
    · exact ih _
    · next hb => exact ⟨fun r h => ⟨s, hb, (Except.ok.inj h).symm⟩, fun _ h => (nomatch h)⟩

theorem kholawHashRepeatedly_succ (fuel : Nat) (data : Bytes) :
    kholawHashRepeatedly (fuel + 1) data =
      if ((hmacSha512Halves kholawHmacKey data).1.getD 31 0).toNat &&& 32 ≠ 0 then
        kholawHashRepeatedly fuel ((hmacSha512Halves kholawHmacKey data).1 ++ (hmacSha512Halves kholawHmacKey data).2)
      else .ok (hmacSha512Halves kholawHmacKey data) := by
  rw [kholawHashRepeatedly]
  -- with the hash an opaque pair, `rfl` does not look into HMAC-SHA512
  generalize hmacSha512Halves kholawHmacKey data = p
  rfl

/-- exit condition of the Khovratovich-Law re-hash loop: bit 5 of byte 31 of the *untweaked* `kL`
is clear; both halves have 32 bytes -/
theorem kholawHashRepeatedly_ok (fuel : Nat) (data kl kr : Bytes)
    (h : kholawHashRepeatedly fuel data = .ok (kl, kr)) :
    kl.length = 32 ∧ kr.length = 32 ∧ (kl.getD 31 0).toNat &&& 32 = 0 := by
  obtain ⟨d, hd, e⟩ :=
    (retry_loop kholawHashRepeatedly _ _ _ (fun _ => rfl) kholawHashRepeatedly_succ fuel data).1 _ h
  rw [show kl = (hmacSha512Halves kholawHmacKey d).1 from congrArg Prod.fst e,
    show kr = (hmacSha512Halves kholawHmacKey d).2 from congrArg Prod.snd e]
  exact ⟨hmacSha512Halves_fst_length _ _, hmacSha512Halves_snd_length _ _, not_not.mp hd⟩

theorem kholawHashRepeatedly_error (fuel : Nat) (data : Bytes) (e : Err)
    (h : kholawHashRepeatedly fuel data = .error e) : e = .fuel :=
  (retry_loop kholawHashRepeatedly _ _ _ (fun _ => rfl) kholawHashRepeatedly_succ fuel data).2 e h

/-- Khovratovich-Law: bit 253 of `kL` is clear by the loop's exit test on the untweaked `kL`, and the
`0x80` tweak does not touch bit 5 of byte 31. -/
theorem kholawMasterKey_ok (seed k cc : Bytes) (h : kholawMasterKey seed = .ok (k, cc)) :
    16 ≤ seed.length ∧ k.length = 64 ∧ cc.length = 32 ∧ Clamped (k.take 32) ∧
      cc = hmacSha256 kholawHmacKey ([1] ++ seed) := by
  unfold kholawMasterKey at h
  obtain ⟨hs, h⟩ := guard_ok_inv h
  obtain ⟨⟨kl, kr⟩, hp, hk⟩ := bind_ok_inv h
  obtain ⟨h1, h2, h3⟩ := kholawHashRepeatedly_ok _ _ _ _ hp
  obtain ⟨rfl, rfl⟩ := Prod.mk.inj (Except.ok.inj hk)
  obtain ⟨a, _, _, d, e⟩ := tweakByte_128 _ (kl.getD 31 0).toNat_lt
  have hc := clamped_take_tweak 128 kl (by omega) a (e (by rw [d]; exact h3))
  have htl : (tweakMasterBits 128 kl).length = 32 := by rw [tweak_length, h1]
  rw [List.take_of_length_le (by omega)] at hc
  refine ⟨by omega, ?_, hmacSha256_length _ _, ?_, rfl⟩
  · rw [List.length_append, htl, h2]
  · rw [List.take_left' htl]; exact hc

theorem kholawMasterKey_error (seed : Bytes) (e : Err) (h : kholawMasterKey seed = .error e) :
    (e = .value ∧ seed.length < 16) ∨ (e = .fuel ∧ 16 ≤ seed.length) := by
  unfold kholawMasterKey at h
  rcases guard_error_inv h with ⟨hs, rfl⟩ | ⟨hs, h⟩
  · exact Or.inl ⟨rfl, hs⟩
  · rcases bind_error_inv h with h' | ⟨p, _, h'⟩
    · exact Or.inr ⟨kholawHashRepeatedly_error _ _ _ h', by omega⟩
    · cases h'

/-- Icarus: PBKDF2 output (96 bytes) tweaked with mask `0xE0`; key = first 64 bytes, chain code =
last 32. -/
theorem icarusMasterKey_ok (seed k cc : Bytes) (h : icarusMasterKey seed = .ok (k, cc)) :
    16 ≤ seed.length ∧ k.length = 64 ∧ cc.length = 32 ∧ Clamped (k.take 32) := by
  unfold icarusMasterKey at h
  obtain ⟨hs, h⟩ := guard_ok_inv h
  obtain ⟨rfl, rfl⟩ := Prod.mk.inj (Except.ok.inj h)
  have hp : (pbkdf2HmacSha512 [] seed 4096 96).length = 96 := pbkdf2HmacSha512_length _ _ _ _
  obtain ⟨a, b, _⟩ := tweakByte_224 _ ((pbkdf2HmacSha512 [] seed 4096 96).getD 31 0).toNat_lt
  refine ⟨by omega, ?_, ?_, ?_⟩
  · rw [List.length_take_of_le (by rw [tweak_length, hp]; decide)]
  · rw [List.length_drop, tweak_length, hp]
  · rw [List.take_take]
    exact clamped_take_tweak 224 _ (by rw [hp]; decide) a b

theorem byronLegacyHashRepeatedly_succ (data : Bytes) (fuel itr : Nat) :
    byronLegacyHashRepeatedly data (fuel + 1) itr =
      if ((tweakMasterBits 128 (sha512 (hmacSha512Halves data
            ("Root Seed Chain " ++ toString itr).toUTF8.toList).1)).getD 31 0).toNat &&& 32 ≠ 0
      then byronLegacyHashRepeatedly data fuel (itr + 1)
      else .ok (tweakMasterBits 128 (sha512 (hmacSha512Halves data
            ("Root Seed Chain " ++ toString itr).toUTF8.toList).1),
          (hmacSha512Halves data ("Root Seed Chain " ++ toString itr).toUTF8.toList).2) := by
  rw [byronLegacyHashRepeatedly]
  generalize hmacSha512Halves data ("Root Seed Chain " ++ toString itr).toUTF8.toList = p
  rfl

/-- exit condition of the Byron-legacy loop: bit 5 of byte 31 of the *tweaked* key is clear -/
theorem byronLegacyHashRepeatedly_ok (data : Bytes) (fuel itr : Nat) (k cc : Bytes)
    (h : byronLegacyHashRepeatedly data fuel itr = .ok (k, cc)) :
    k.length = 64 ∧ cc.length = 32 ∧ Clamped (k.take 32) := by
  obtain ⟨i, hi, e⟩ := (retry_loop (byronLegacyHashRepeatedly data) _ _ _ (fun _ => rfl)
    (byronLegacyHashRepeatedly_succ data) fuel itr).1 _ h
  injection e with ek ec
  -- rewriting, not `subst`: substituting into `h` makes Lean normalise terms that contain SHA-512
  rw [ek, ec]
  have hs := sha512_length (hmacSha512Halves data ("Root Seed Chain " ++ toString i).toUTF8.toList).1
  generalize sha512 (hmacSha512Halves data ("Root Seed Chain " ++ toString i).toUTF8.toList).1 = s
    at hi hs ⊢
  obtain ⟨a, _, _, _, b⟩ := tweakByte_128 _ (s.getD 31 0).toNat_lt
  rw [tweak_getD_31 128 s (by omega)] at hi
  exact ⟨by rw [tweak_length, hs], hmacSha512Halves_snd_length _ _,
    clamped_take_tweak 128 s (by omega) a (b (not_not.mp hi))⟩

theorem byronLegacyHashRepeatedly_error (data : Bytes) (fuel itr : Nat) (e : Err)
    (h : byronLegacyHashRepeatedly data fuel itr = .error e) : e = .fuel :=
  (retry_loop (byronLegacyHashRepeatedly data) _ _ _ (fun _ => rfl)
    (byronLegacyHashRepeatedly_succ data) fuel itr).2 e h

theorem byronLegacyMasterKey_ok (seed k cc : Bytes) (h : byronLegacyMasterKey seed = .ok (k, cc)) :
    seed.length = 32 ∧ k.length = 64 ∧ cc.length = 32 ∧ Clamped (k.take 32) := by
  unfold byronLegacyMasterKey at h
  obtain ⟨hs, h⟩ := guard_ok_inv h
  exact ⟨not_not.mp hs, byronLegacyHashRepeatedly_ok _ _ _ _ _ h⟩

theorem byronLegacyMasterKey_error (seed : Bytes) (e : Err) (h : byronLegacyMasterKey seed = .error e) :
    (e = .value ∧ seed.length ≠ 32) ∨ (e = .fuel ∧ seed.length = 32) := by
  unfold byronLegacyMasterKey at h
  rcases guard_error_inv h with ⟨hs, rfl⟩ | ⟨hs, h⟩
  · exact Or.inl ⟨rfl, hs⟩
  · exact Or.inr ⟨byronLegacyHashRepeatedly_error _ _ _ _ h, not_not.mp hs⟩

/-- the integer the Khovratovich-Law scheme stores as the child's left half: `8·zL[:28] + kL` -/
def childLeftVal (zl kl : Bytes) : Nat := Bytes.toNatLE (zl.take 28) * 8 + Bytes.toNatLE kl

/-- `8·zL[:28] < 2^227`, 28 bytes being below `2^224` -/
theorem childLeftVal_lt (zl kl : Bytes) : childLeftVal zl kl < Bytes.toNatLE kl + 2 ^ 227 := by
  have := kholaw_scalar_lt zl
  rw [kholawPubScalar_kholaw] at this
  unfold childLeftVal; omega

theorem le_childLeftVal (zl kl : Bytes) : Bytes.toNatLE kl ≤ childLeftVal zl kl :=
  Nat.le_add_left _ _

theorem dvd_childLeftVal (zl kl : Bytes) (h : 8 ∣ Bytes.toNatLE kl) : 8 ∣ childLeftVal zl kl :=
  Nat.dvd_add (Dvd.intro_left _ rfl) h

/-- a successful new left half passed both tests of `kholawNewLeft_kholaw`, holds the sum and has 32
bytes.  Being below `2^255` it has bit 255 clear, so libsodium's no-clamp multiplication (which
ignores bit 255) multiplies by the stored value itself. -/
theorem kholaw_child_left_ok (zl kl r : Bytes) (h : kholawNewLeft .kholaw zl kl = .ok r) :
    childLeftVal zl kl % edL ≠ 0 ∧ childLeftVal zl kl < 2 ^ 255 ∧
      Bytes.toNatLE r = childLeftVal zl kl ∧ r.length = 32 := by
  rw [kholawNewLeft_kholaw] at h
  obtain ⟨hn, h⟩ := (ite_error_eq_ok _ _ _ _).mp h
  have hlt := Nat.lt_of_not_le (not_or.mp hn).2
  rw [← Except.ok.inj h]
  exact ⟨(not_or.mp hn).1, hlt, toNatLE_ofNatLE (Nat.lt_trans hlt (by decide)), length_ofNatLE _ _⟩

/-- every failure is a `Bip32KeyError`, raised exactly when the sum is `≡ 0 (mod L)` or `≥ 2^255`
(has bit 255 set or needs more than 32 bytes) -/
theorem kholaw_child_left_error_iff (zl kl : Bytes) (e : Err) :
    kholawNewLeft .kholaw zl kl = .error e ↔
      e = .key ∧ (childLeftVal zl kl % edL = 0 ∨ 2 ^ 255 ≤ childLeftVal zl kl) := by
  rw [kholawNewLeft_kholaw]
  split
  · next hb => exact ⟨fun h => ⟨(Except.error.inj h).symm, hb⟩, fun h => by rw [h.1]⟩
  · next hn => exact ⟨fun h => (nomatch h), fun h => absurd h.2 hn⟩

theorem kholaw_child_left_error_iff_of_lt (zl kl : Bytes) (e : Err) (hv : childLeftVal zl kl < 2 ^ 255) :
    kholawNewLeft .kholaw zl kl = .error e ↔ e = .key ∧ childLeftVal zl kl % edL = 0 := by
  rw [kholaw_child_left_error_iff, or_iff_left (Nat.not_le.mpr hv)]

/-- `d` successive left-half updates (one per derivation level) -/
def kholawLeftChain (zs : List Bytes) (kl : Bytes) : R Bytes :=
  zs.foldlM (fun k z => kholawNewLeft .kholaw z k) kl

theorem kholawLeftChain_cons (z : Bytes) (zs : List Bytes) (kl : Bytes) :
    kholawLeftChain (z :: zs) kl = kholawNewLeft .kholaw z kl >>= kholawLeftChain zs := by
  unfold kholawLeftChain; rw [List.foldlM_cons]

theorem kholawLeftChain_append (pre post : List Bytes) (kl : Bytes) :
    kholawLeftChain (pre ++ post) kl = kholawLeftChain pre kl >>= kholawLeftChain post := by
  unfold kholawLeftChain; rw [List.foldlM_append]

theorem kholaw_depth_bound (zs : List Bytes) (kl r : Bytes) (h : kholawLeftChain zs kl = .ok r) :
    Bytes.toNatLE kl ≤ Bytes.toNatLE r ∧
    Bytes.toNatLE r ≤ Bytes.toNatLE kl + zs.length * 2 ^ 227 ∧
    (8 ∣ Bytes.toNatLE kl → 8 ∣ Bytes.toNatLE r) := by
  induction zs generalizing kl with
  | nil =>
    rw [← Except.ok.inj h]
    exact ⟨Nat.le_refl _, Nat.le_add_right _ _, id⟩
  | cons z zs ih =>
    rw [kholawLeftChain_cons] at h
    obtain ⟨k1, h1, h2⟩ := bind_ok_inv h
    obtain ⟨i1, i2, i3⟩ := ih k1 h2
    rw [(kholaw_child_left_ok z kl k1 h1).2.2.1] at i1 i2 i3
    have := childLeftVal_lt z kl
    have := le_childLeftVal z kl
    refine ⟨by omega, ?_, fun hd => i3 (dvd_childLeftVal z kl hd)⟩
    rw [List.length_cons, Nat.add_mul, Nat.one_mul]; omega

/-- the size refusal (`Bip32KeyError` for a sum `≥ 2^255`) never happens along a chain with
`kL₀ + d·2^227 ≤ 2^255`: at every level of the chain — after any prefix `pre` that succeeded with
`r`, for the next `z` — the sum is below `2^255` -/
theorem kholaw_no_overflow (zs : List Bytes) (kl : Bytes)
    (hm : Bytes.toNatLE kl + zs.length * 2 ^ 227 ≤ 2 ^ 255)
    (pre : List Bytes) (z : Bytes) (post : List Bytes) (hzs : zs = pre ++ z :: post) (r : Bytes)
    (hr : kholawLeftChain pre kl = .ok r) : childLeftVal z r < 2 ^ 255 := by
  have hb := (kholaw_depth_bound pre kl r hr).2.1
  have hlt := childLeftVal_lt z r
  subst hzs
  simp only [List.length_append, List.length_cons, Nat.add_mul, Nat.one_mul] at hm
  omega

/-- along such a chain the only reason for a level to fail is `≡ 0 (mod L)` -/
theorem kholaw_chain_step_error_iff (zs : List Bytes) (kl : Bytes)
    (hm : Bytes.toNatLE kl + zs.length * 2 ^ 227 ≤ 2 ^ 255)
    (pre : List Bytes) (z : Bytes) (post : List Bytes) (hzs : zs = pre ++ z :: post) (r : Bytes)
    (hr : kholawLeftChain pre kl = .ok r) (e : Err) :
    kholawNewLeft .kholaw z r = .error e ↔ e = .key ∧ childLeftVal z r % edL = 0 :=
  kholaw_child_left_error_iff_of_lt z r e (kholaw_no_overflow zs kl hm pre z post hzs r hr)

/-- a failing chain fails with `Bip32KeyError` at a level whose sum is `≡ 0 (mod L)` (and
below `2^255`) -/
theorem kholaw_chain_error (zs : List Bytes) (kl : Bytes)
    (hm : Bytes.toNatLE kl + zs.length * 2 ^ 227 ≤ 2 ^ 255) (e : Err)
    (h : kholawLeftChain zs kl = .error e) :
    e = .key ∧ ∃ pre z post r, zs = pre ++ z :: post ∧ kholawLeftChain pre kl = .ok r ∧
      childLeftVal z r % edL = 0 ∧ childLeftVal z r < 2 ^ 255 := by
  obtain ⟨pre, z, post, r, hzs, hr, he⟩ := foldlM_error_split _ zs kl e h
  obtain ⟨hk, hmod⟩ := (kholaw_chain_step_error_iff zs kl hm pre z post hzs r hr e).mp he
  exact ⟨hk, pre, z, post, r, hzs, hr, hmod, kholaw_no_overflow zs kl hm pre z post hzs r hr⟩

/-- the room a master scalar (`< 2^254 + 2^253`: bit 255 clear, bit 253 clear — `Clamped.lt`) leaves
for 255 levels: `255·2^227 < 2^253`.  `kL < 2^255` alone does not suffice
(`C18.kholaw_size_refusal_below_2_255`). -/
theorem master_room (a n : Nat) (ha : a < 2 ^ 254 + 2 ^ 253) (hn : n ≤ 255) :
    a + n * 2 ^ 227 ≤ 2 ^ 255 :=
  Nat.le_trans (Nat.add_le_add (Nat.le_of_lt ha) (Nat.mul_le_mul_right _ hn)) (by decide)

theorem kholawNewLeft_legacy_eq (zl kl : Bytes) :
    kholawNewLeft .byronLegacy zl kl =
      toBytesLE ((Bytes.toNatLE (mulNoCarry8 zl) + Bytes.toNatLE kl) % edL) 32 := by
  unfold kholawNewLeft; rw [if_pos rfl]

theorem mulNoCarry8_length (b : Bytes) : (mulNoCarry8 b).length = b.length := by
  unfold mulNoCarry8; simp

theorem mulNoCarry8_getD (b : Bytes) (i : Nat) :
    ((mulNoCarry8 b).getD i 0).toNat = (b.getD i 0).toNat * 8 % 256 := by
  unfold mulNoCarry8
  simp only [List.getD_eq_getElem?_getD, List.getElem?_map]
  cases b[i]? with
  | none => rfl
  | some x => simp

/-- the byte-wise product is *not* `8·zL` in general (carries are dropped) -/
theorem mulNoCarry8_not_mul :
    ∃ zl : Bytes, zl.length = 32 ∧ Bytes.toNatLE (mulNoCarry8 zl) ≠ Bytes.toNatLE zl * 8 % 2 ^ 256 :=
  ⟨32 :: List.replicate 31 0, by decide, by decide +kernel⟩

theorem kholawNewRight_legacy_eq (zr kr : Bytes) :
    kholawNewRight .byronLegacy zr kr = .ok (addNoCarry zr kr) := by
  unfold kholawNewRight; rw [if_pos rfl]; rfl

theorem addNoCarry_length (a b : Bytes) : (addNoCarry a b).length = min a.length b.length := by
  unfold addNoCarry; simp

theorem addNoCarry_getD (a b : Bytes) (i : Nat) (ha : i < a.length) (hb : i < b.length) :
    ((addNoCarry a b).getD i 0).toNat = ((a.getD i 0).toNat + (b.getD i 0).toNat) % 256 := by
  unfold addNoCarry
  simp only [List.getD_eq_getElem?_getD, List.getElem?_map,
    List.getElem?_eq_getElem ha, List.getElem?_eq_getElem hb]
  rw [List.getElem?_eq_getElem (by simp; omega)]
  simp

theorem kholawIndexBytes_reverse (idx : Nat) :
    kholawIndexBytes .byronLegacy idx = (kholawIndexBytes .kholaw idx).reverse := by
  unfold kholawIndexBytes; rw [if_pos rfl, if_neg (by decide)]; rfl

/-! ### From the left-half chain to nodes: `kholawCkdPriv`, `kholawChildKey` and whole paths -/

/-- `Z` of a private derivation (hardened: `0x00 ‖ k ‖ i`, soft: `0x02 ‖ A ‖ i`) -/
def ckdZ (nd : Node) (priv : Bytes) (idx : Nat) : Bytes :=
  if isHardened idx then hmacSha512 nd.chainCode ([0] ++ priv ++ kholawIndexBytes nd.scheme idx)
  else hmacSha512 nd.chainCode ([2] ++ nd.pub.drop 1 ++ kholawIndexBytes nd.scheme idx)

/-- child chain code of a private derivation -/
def ckdCC (nd : Node) (priv : Bytes) (idx : Nat) : Bytes :=
  if isHardened idx then (hmacSha512Halves nd.chainCode ([1] ++ priv ++ kholawIndexBytes nd.scheme idx)).2
  else (hmacSha512Halves nd.chainCode ([3] ++ nd.pub.drop 1 ++ kholawIndexBytes nd.scheme idx)).2

theorem kholawCkdPriv_eq (nd : Node) (priv : Bytes) (idx : Nat) :
    kholawCkdPriv nd priv idx =
      (kholawNewLeft nd.scheme ((ckdZ nd priv idx).take 32) (priv.take 32) >>= fun kl =>
       kholawNewRight nd.scheme ((ckdZ nd priv idx).drop 32) (priv.drop 32) >>= fun kr =>
       .ok (kl ++ kr, ckdCC nd priv idx)) := by
  unfold kholawCkdPriv ckdZ ckdCC
  cases isHardened idx <;>
    simp only [Bool.false_eq_true, if_false, if_true, bind, Except.bind, pure, Except.pure]

/-- one private derivation step of the Khovratovich-Law scheme: the first 32 bytes of the child key
are the new left half (the right half never fails) -/
theorem kholawCkdPriv_kholaw_ok (nd : Node) (priv : Bytes) (idx : Nat) (k cc : Bytes)
    (hs : nd.scheme = .kholaw) (h : kholawCkdPriv nd priv idx = .ok (k, cc)) :
    kholawNewLeft .kholaw ((ckdZ nd priv idx).take 32) (priv.take 32) = .ok (k.take 32) := by
  rw [kholawCkdPriv_eq, hs, kholawNewRight_kholaw] at h
  obtain ⟨kl, h1, h⟩ := bind_ok_inv h
  obtain ⟨rfl, -⟩ := Prod.mk.inj (Except.ok.inj h)
  rwa [List.take_left' (kholaw_child_left_ok _ _ _ h1).2.2.2]

/-- it fails exactly as its left half does -/
theorem kholawCkdPriv_kholaw_error_iff (nd : Node) (priv : Bytes) (idx : Nat) (e : Err)
    (hs : nd.scheme = .kholaw) :
    kholawCkdPriv nd priv idx = .error e ↔
      kholawNewLeft .kholaw ((ckdZ nd priv idx).take 32) (priv.take 32) = .error e := by
  rw [kholawCkdPriv_eq, hs, kholawNewRight_kholaw, bind_eq_error_iff]
  constructor
  · rintro (h | ⟨_, _, h⟩)
    · exact h
    · cases h
  · exact Or.inl

theorem kholawChildKey_kholaw_priv_ok (nd c : Node) (idx : Nat) (k : Bytes)
    (hs : nd.scheme = .kholaw) (hp : nd.priv = some k) (h : kholawChildKey nd idx = .ok c) :
    ∃ k', c.priv = some k' ∧ c.scheme = .kholaw ∧
      kholawNewLeft .kholaw ((ckdZ nd k idx).take 32) (k.take 32) = .ok (k'.take 32) := by
  have hi := kholawChildKey_idx_lt nd idx c h
  rw [kholawChildKey_priv nd idx k hi hp] at h
  obtain ⟨⟨k', cc⟩, h1, h2⟩ := bind_ok_inv h
  obtain ⟨_, h2⟩ := (ite_error_eq_ok ..).mp h2
  obtain ⟨_, pub, _, rfl⟩ := (nodeOfPriv_ok_iff ..).mp h2
  exact ⟨k', rfl, hs, kholawCkdPriv_kholaw_ok nd k idx k' cc hs h1⟩

/-- `ChildKey` never raises `OverflowError` on a private Khovratovich-Law node (at any size of the
left scalar: a sum `≥ 2^255`, in particular one that needs more than 32 bytes, is refused with
`Bip32KeyError`) -/
theorem kholawChildKey_kholaw_never_overflow (nd : Node) (idx : Nat) (k : Bytes)
    (hs : nd.scheme = .kholaw) (hp : nd.priv = some k) :
    kholawChildKey nd idx ≠ .error .overflow := by
  intro h
  by_cases hi : idx < 2 ^ 32
  swap
  · rw [kholawChildKey_range nd idx (by omega)] at h; cases h
  rw [kholawChildKey_priv nd idx k hi hp] at h
  rcases bind_error_inv h with h1 | ⟨x, _, h2⟩
  · rw [kholawCkdPriv_kholaw_error_iff nd k idx _ hs, kholaw_child_left_error_iff] at h1
    cases h1.1
  · split at h2
    · cases h2
    · rcases nodeOfPriv_error _ _ _ _ _ _ _ _ h2 with ⟨e, _⟩ | ⟨e, _⟩ <;> cases e

/-- on the left scalars a path from a private Khovratovich-Law node is a `kholawLeftChain` with one
level per index (any mix of hardened and soft), so what holds of chains holds of paths -/
theorem kholaw_path_chain (l : List Nat) (nd c : Node) (k : Bytes)
    (hs : nd.scheme = .kholaw) (hp : nd.priv = some k)
    (h : l.foldlM kholawChildKey nd = .ok c) :
    ∃ k' zs, c.priv = some k' ∧ c.scheme = .kholaw ∧ zs.length = l.length ∧
      kholawLeftChain zs (k.take 32) = .ok (k'.take 32) := by
  induction l generalizing nd k with
  | nil =>
    rw [← Except.ok.inj h]
    exact ⟨k, [], hp, hs, rfl, rfl⟩
  | cons i l ih =>
    rw [List.foldlM_cons] at h
    obtain ⟨n1, h1, h2⟩ := bind_ok_inv h
    obtain ⟨k1, p1, s1, hleft⟩ := kholawChildKey_kholaw_priv_ok nd n1 i k hs hp h1
    obtain ⟨k', zs, p', s', hlen, hch⟩ := ih n1 k1 s1 p1 h2
    refine ⟨k', (ckdZ nd k i).take 32 :: zs, p', s', by rw [List.length_cons, hlen, List.length_cons], ?_⟩
    rw [kholawLeftChain_cons, hleft]; exact hch

theorem kholaw_path_never_overflow (l : List Nat) (nd : Node) (k : Bytes)
    (hs : nd.scheme = .kholaw) (hp : nd.priv = some k) :
    l.foldlM kholawChildKey nd ≠ .error .overflow := by
  intro h
  obtain ⟨pre, i, post, n, -, hn, he⟩ := foldlM_error_split _ l nd _ h
  obtain ⟨k', _, p', s', -, -⟩ := kholaw_path_chain pre nd n k hs hp hn
  exact kholawChildKey_kholaw_never_overflow n i k' s' p' he

/-- the size refusal never happens anywhere along a path `l` from a left scalar `kL` with
`kL + |l|·2^227 ≤ 2^255`: at every node `n` reached by a prefix `pre` of the path, the next
derivation step (index `i`) computes a left half below `2^255`, so it can fail only with
`Bip32KeyError` and only for `≡ 0 (mod L)` -/
theorem kholaw_path_no_overflow (l : List Nat) (nd : Node) (k : Bytes)
    (hs : nd.scheme = .kholaw) (hp : nd.priv = some k)
    (hk : Bytes.toNatLE (k.take 32) + l.length * 2 ^ 227 ≤ 2 ^ 255)
    (pre : List Nat) (i : Nat) (post : List Nat) (hl : l = pre ++ i :: post) (n : Node)
    (hn : pre.foldlM kholawChildKey nd = .ok n) :
    ∃ k', n.priv = some k' ∧ n.scheme = .kholaw ∧
      childLeftVal ((ckdZ n k' i).take 32) (k'.take 32) < 2 ^ 255 ∧
      ∀ e, kholawCkdPriv n k' i = .error e ↔
        e = .key ∧ childLeftVal ((ckdZ n k' i).take 32) (k'.take 32) % edL = 0 := by
  obtain ⟨k', zs, p', s', hlen, hch⟩ := kholaw_path_chain pre nd n k hs hp hn
  have b := (kholaw_depth_bound zs _ _ hch).2.1
  rw [hlen] at b
  have hv : childLeftVal ((ckdZ n k' i).take 32) (k'.take 32) < 2 ^ 255 := by
    have := childLeftVal_lt ((ckdZ n k' i).take 32) (k'.take 32)
    subst hl
    simp only [List.length_append, List.length_cons, Nat.add_mul, Nat.one_mul] at hk
    omega
  exact ⟨k', p', s', hv, fun e => by
    rw [kholawCkdPriv_kholaw_error_iff n k' i e s', kholaw_child_left_error_iff_of_lt _ _ e hv]⟩

theorem kholawMaster_ok (s : Scheme) (gen : Bytes → R (Bytes × Bytes)) (seed : Bytes) (m : Node)
    (h : kholawMaster s gen seed = .ok m) :
    ∃ k cc, gen seed = .ok (k, cc) ∧ m.priv = some k ∧ m.chainCode = cc ∧ m.scheme = s ∧
      m.curve = .ed25519Kholaw ∧ m.depth = 0 ∧ m.index = 0 ∧ pubOfPriv .ed25519Kholaw k = some m.pub := by
  unfold kholawMaster at h
  obtain ⟨⟨k, cc⟩, h1, h2⟩ := bind_ok_inv h
  obtain ⟨_, pub, hpub, rfl⟩ := (nodeOfPriv_ok_iff ..).mp h2
  exact ⟨k, cc, h1, rfl, rfl, rfl, rfl, rfl, rfl, hpub⟩

theorem shelleyPrefix_eq (hdrType netTag : Nat) (h : hdrType * 16 + netTag < 256) :
    shelleyPrefix hdrType netTag = [UInt8.ofNat (hdrType * 16 + netTag)] := by
  unfold shelleyPrefix; exact toBytesAuto_of_lt_256 h

/-- both Shelley decoders are this chain — Bech32, length check, header removal — which inverts
Bech32 of `header ‖ body` for a body of the right length -/
theorem bech32_header_decode (hrp : List Char) (hv : ValidHrp hrp) (hdr : UInt8) (body : Bytes)
    (n : Nat) (hn : body.length + 1 = n) (a : List Char)
    (h : bech32Encode hrp ([hdr] ++ body) = .ok a) :
    (ckToValue (bech32Decode asciiCase hrp a) >>= fun dec =>
      validateLength dec n >>= fun _ => removePrefix dec [hdr]) = .ok body := by
  have hdec := bech32_decode_encode hrp hv ([hdr] ++ body) (List.cons_ne_nil _ _)
  rw [h, ok_bind] at hdec
  rw [hdec]
  simp only [ckToValue, ok_bind, validateLength_ok ([hdr] ++ body) n (by rw [← hn]; rfl)]
  exact removePrefix_append _ _

/-- the payment address is Bech32 of `header ‖ H(pub) ‖ H(stake)` (57 bytes, header = network tag
for type 0) and decodes back to the two 28-byte key hashes. -/
theorem shelley_decode_encode (hrp : List Char) (hv : ValidHrp hrp) (netTag : Nat) (hn : netTag < 256)
    (pub stake : Bytes) (a : List Char) (h : shelleyEncode hrp netTag pub stake = .ok a) :
    ∃ k s, addrKey .ed25519 pub = .ok k ∧ addrKey .ed25519 stake = .ok s ∧
      bech32Encode hrp ([UInt8.ofNat netTag] ++ blake2b224 (k.drop 1) ++ blake2b224 (s.drop 1)) = .ok a ∧
      shelleyDecode hrp netTag a = .ok (blake2b224 (k.drop 1) ++ blake2b224 (s.drop 1)) := by
  unfold shelleyEncode at h
  obtain ⟨k, hk, h⟩ := bind_ok_inv h
  obtain ⟨s, hs, h⟩ := bind_ok_inv h
  have hp : shelleyPrefix 0 netTag = [UInt8.ofNat netTag] := by
    rw [shelleyPrefix_eq 0 netTag (by omega), Nat.zero_mul, Nat.zero_add]
  rw [hp] at h
  refine ⟨k, s, hk, hs, h, ?_⟩
  rw [List.append_assoc] at h
  unfold shelleyDecode
  rw [hp]
  exact bech32_header_decode hrp hv _ _ 57
    (by rw [List.length_append, blake2b224_length, blake2b224_length]) a h

/-- staking address: header `0xE0 + netTag`, 29-byte payload -/
theorem staking_decode_encode (hrp : List Char) (hv : ValidHrp hrp) (netTag : Nat) (hn : netTag < 32)
    (pub : Bytes) (a : List Char) (h : shelleyStakingEncode hrp netTag pub = .ok a) :
    ∃ k, addrKey .ed25519 pub = .ok k ∧
      bech32Encode hrp ([UInt8.ofNat (0xE0 + netTag)] ++ blake2b224 (k.drop 1)) = .ok a ∧
      shelleyStakingDecode hrp netTag a = .ok (blake2b224 (k.drop 1)) := by
  unfold shelleyStakingEncode at h
  obtain ⟨k, hk, h⟩ := bind_ok_inv h
  have hp : shelleyPrefix 14 netTag = [UInt8.ofNat (0xE0 + netTag)] :=
    shelleyPrefix_eq 14 netTag (by omega)
  rw [hp] at h
  refine ⟨k, hk, h, ?_⟩
  unfold shelleyStakingDecode
  rw [hp]
  exact bech32_header_decode hrp hv _ _ 29 (by rw [blake2b224_length]) a h

/-- Shelley encoders only fail through the key validation (`ValueError`) -/
theorem shelleyEncode_ok_iff (hrp : List Char) (netTag : Nat) (pub stake : Bytes) :
    (∃ a, shelleyEncode hrp netTag pub stake = .ok a) ↔
      (∃ k, pubFromBytes .ed25519 pub = some k) ∧ (∃ s, pubFromBytes .ed25519 stake = some s) := by
  unfold shelleyEncode
  constructor
  · rintro ⟨a, h⟩
    obtain ⟨k, hk, h⟩ := bind_ok_inv h
    obtain ⟨s, hs, h⟩ := bind_ok_inv h
    exact ⟨⟨k, (addrKey_ok_iff _ _ _).mp hk⟩, ⟨s, (addrKey_ok_iff _ _ _).mp hs⟩⟩
  · rintro ⟨⟨k, hk⟩, ⟨s, hs⟩⟩
    rw [(addrKey_ok_iff _ _ _).mpr hk, (addrKey_ok_iff _ _ _).mpr hs]
    simp only [ok_bind]
    unfold bech32Encode
    rw [toBase32_eq]
    exact ⟨_, rfl⟩

/-! ## CBOR heads (for the Byron addresses) -/

/-- the two fields of an initial byte `major·32 + info` -/
theorem cborInitialByte (m k : Nat) (hm : m < 8) (hk : k < 32) :
    (UInt8.ofNat (m * 32 + k)).toNat / 32 = m ∧ (UInt8.ofNat (m * 32 + k)).toNat % 32 = k := by
  rw [uint8_toNat_ofNat_lt (by omega)]
  omega

theorem cborReadHead_small (m k : Nat) (hm : m < 8) (hk : k < 24) (rest : Bytes) :
    cborReadHead (UInt8.ofNat (m * 32 + k) :: rest) = some (m, k, rest) := by
  obtain ⟨e1, e2⟩ := cborInitialByte m k hm (by omega)
  unfold cborReadHead
  simp only [e1, e2, hk, if_true]

/-- additional information `24 ≤ info ≤ 27` announces a big-endian argument of `2^(info-24)` bytes -/
theorem cborReadHead_arg (m info w : Nat) (hm : m < 8) (h1 : 24 ≤ info) (h2 : info ≤ 27)
    (hw : w = 1 <<< (info - 24)) (v : Nat) (hv : v < 256 ^ w) (rest : Bytes) :
    cborReadHead (UInt8.ofNat (m * 32 + info) :: (Bytes.ofNatBE w v ++ rest)) = some (m, v, rest) := by
  obtain ⟨e1, e2⟩ := cborInitialByte m info hm (by omega)
  have hl : (Bytes.ofNatBE w v).length = w := length_ofNatBE w v
  unfold cborReadHead
  simp only [e1, e2, ← hw]
  rw [if_neg (by omega), if_pos h2, if_neg (by rw [List.length_append]; omega),
    List.take_left' hl, List.drop_left' hl, toNatBE_ofNatBE hv]

/-- a head is one initial byte, followed — unless the argument fits into it — by the argument in
1, 2, 4 or 8 big-endian bytes -/
theorem cborHead_shape (m n : Nat) :
    (n < 24 ∧ cborHead m n = [UInt8.ofNat (m * 32 + n)]) ∨
    ∃ info w, 24 ≤ info ∧ info ≤ 27 ∧ w = 1 <<< (info - 24) ∧ w ≤ 8 ∧ (n < 2 ^ 64 → n < 256 ^ w) ∧
      cborHead m n = UInt8.ofNat (m * 32 + info) :: Bytes.ofNatBE w n := by
  unfold cborHead
  by_cases h1 : n < 24
  · exact Or.inl ⟨h1, if_pos h1⟩
  refine Or.inr ?_
  simp only [if_neg h1]
  by_cases h2 : n < 2 ^ 8
  · exact ⟨24, 1, by decide, by decide, rfl, by decide, fun _ => h2, if_pos h2⟩
  simp only [if_neg h2]
  by_cases h3 : n < 2 ^ 16
  · exact ⟨25, 2, by decide, by decide, rfl, by decide, fun _ => h3, if_pos h3⟩
  simp only [if_neg h3]
  by_cases h4 : n < 2 ^ 32
  · exact ⟨26, 4, by decide, by decide, rfl, by decide, fun _ => h4, if_pos h4⟩
  exact ⟨27, 8, by decide, by decide, rfl, by decide, fun h => h, if_neg h4⟩

theorem cborHead_length_le (m n : Nat) : (cborHead m n).length ≤ 9 := by
  rcases cborHead_shape m n with ⟨_, h⟩ | ⟨info, w, _, _, _, hw, _, h⟩
  · rw [h, List.length_singleton]; decide
  · rw [h, List.length_cons, length_ofNatBE]; omega

theorem cborReadHead_cborHead (m n : Nat) (hm : m < 8) (hn : n < 2 ^ 64) (rest : Bytes) :
    cborReadHead (cborHead m n ++ rest) = some (m, n, rest) := by
  rcases cborHead_shape m n with ⟨h24, h⟩ | ⟨info, w, h1, h2, hw, _, hv, h⟩
  · rw [h]; exact cborReadHead_small m n hm h24 rest
  · rw [h]; exact cborReadHead_arg m info w hm h1 h2 hw n (hv hn) rest

theorem cborReadBytes_item (b rest : Bytes) (hb : b.length < 2 ^ 64) :
    cborReadBytes (cborBytesItem b ++ rest) = some (b, rest) := by
  unfold cborReadBytes cborBytesItem
  rw [List.append_assoc, cborReadHead_cborHead 2 _ (by omega) hb]
  simp

theorem cborBytesItem_length_le (b : Bytes) : (cborBytesItem b).length ≤ b.length + 9 := by
  unfold cborBytesItem; rw [List.length_append]; have := cborHead_length_le 2 b.length; omega

/-- `cbor2.dumps` of an unsigned integer is its major-type-0 head -/
theorem cborBytes_eq_cborHead (n : Nat) : cborBytes n = cborHead 0 n := by
  unfold cborBytes cborHead
  simp only [Nat.zero_mul, Nat.zero_add]
  rfl

/-- the CBOR-serialised address root `[0, [0, pub ‖ cc], attrs]` -/
def byronRoot (pub cc : Bytes) (hdEnc : Option Bytes) : Bytes :=
  cborHead 4 3 ++ cborHead 0 0 ++ (cborHead 4 2 ++ cborHead 0 0 ++ cborBytesItem (pub ++ cc)) ++ byronAttrs hdEnc

/-- `blake2b-224(sha3-256(root))` -/
def byronRootHash (pub cc : Bytes) (hdEnc : Option Bytes) : Bytes :=
  blake2b224 (sha3_256 (byronRoot pub cc hdEnc))

/-- the address payload `[rootHash, attrs, 0]` -/
def byronPayload (pub cc : Bytes) (hdEnc : Option Bytes) : Bytes :=
  cborHead 4 3 ++ cborBytesItem (byronRootHash pub cc hdEnc) ++ byronAttrs hdEnc ++ cborHead 0 0

theorem byronAddrBytes_eq (pub cc : Bytes) (hdEnc : Option Bytes) :
    byronAddrBytes pub cc hdEnc =
      cborHead 4 2 ++ (cborHead 6 24 ++ cborBytesItem (byronPayload pub cc hdEnc)) ++
        cborHead 0 (crc32 (byronPayload pub cc hdEnc)) := rfl

theorem byronRootHash_length (pub cc : Bytes) (hdEnc : Option Bytes) :
    (byronRootHash pub cc hdEnc).length = 28 := blake2b224_length _

theorem byronAttrs_length_le (hdEnc : Option Bytes) :
    (byronAttrs hdEnc).length ≤ (hdEnc.getD []).length + 36 := by
  cases hdEnc with
  | none => exact Nat.le_trans (cborHead_length_le 5 0) (Nat.le_add_left _ _)
  | some e =>
    unfold byronAttrs
    simp only [List.length_append, Option.getD_some]
    have := cborHead_length_le 5 1
    have := cborHead_length_le 0 1
    have := cborBytesItem_length_le (cborBytesItem e)
    have := cborBytesItem_length_le e
    omega

/-- The readers find, in the Base58 decoding of `addr`, the outer wrapper
`[tag 24 (bytes payload), crc]` and nothing after it.  `byronDecode` follows one path through its
nest of matches on an address of the shape the encoder writes; the lemmas below say what it returns
when the readers deliver the items of that path, whatever bytes they deliver them from — the shape
itself enters only through `byronWrapped_encode` and in `byronDecode_of_payload`. -/
inductive ByronWrapped (addr : List Char) (payload : Bytes) (crc : Nat) : Prop
  | intro {raw r1 r2 r3 : Bytes} (h0 : b58Decode btcAlphabet addr = .ok raw)
      (h1 : cborReadHead raw = some (4, 2, r1)) (h2 : cborReadHead r1 = some (6, 24, r2))
      (h3 : cborReadBytes r2 = some (payload, r3)) (h4 : cborReadHead r3 = some (0, crc, []))

theorem byronWrapped_encode (payload : Bytes) (crc : Nat) (hp : payload.length < 2 ^ 64)
    (hc : crc < 2 ^ 64) :
    ByronWrapped (b58Encode btcAlphabet
      (cborHead 4 2 ++ (cborHead 6 24 ++ cborBytesItem payload) ++ cborHead 0 crc)) payload crc := by
  refine ⟨b58_decode_encode btcAlphabet btcAlphabet_nodup btcAlphabet_length _, ?_,
    cborReadHead_cborHead 6 24 (by decide) (by decide) _,
    cborReadBytes_item payload (cborHead 0 crc) hp, ?_⟩
  · rw [List.append_assoc, List.append_assoc]
    exact cborReadHead_cborHead 4 2 (by decide) (by decide) _
  · have := cborReadHead_cborHead 0 crc (by omega) hc []
    rwa [List.append_nil] at this

theorem byronDecode_crc_ne {addr : List Char} {payload : Bytes} {crc : Nat}
    (w : ByronWrapped addr payload crc) (hne : crc ≠ crc32 payload) :
    byronDecode addr = .error .value := by
  obtain ⟨h0, h1, h2, h3, h4⟩ := w
  unfold byronDecode
  simp only [h0, bind, Except.bind, h1, h2, h3, h4, ne_eq, hne, not_false_eq_true, if_true]
  rfl

theorem byronDecode_no_path {addr : List Char} {payload p1 rootHash p2 : Bytes}
    (w : ByronWrapped addr payload (crc32 payload))
    (h5 : cborReadHead payload = some (4, 3, p1)) (h6 : cborReadBytes p1 = some (rootHash, p2))
    (hl : rootHash.length = 28) (h7 : cborReadHead p2 = some (5, 0, [0])) :
    byronDecode addr = .ok rootHash := by
  obtain ⟨h0, h1, h2, h3, h4⟩ := w
  unfold byronDecode
  simp only [h0, bind, Except.bind, h1, h2, h3, h4, h5, h6, h7, hl, ne_eq, not_true_eq_false,
    if_false, if_true]
  rfl

theorem byronDecode_path {addr : List Char} {payload p1 rootHash p2 p3 p4 inner hdEnc : Bytes}
    (w : ByronWrapped addr payload (crc32 payload))
    (h5 : cborReadHead payload = some (4, 3, p1)) (h6 : cborReadBytes p1 = some (rootHash, p2))
    (hl : rootHash.length = 28) (h7 : cborReadHead p2 = some (5, 1, p3))
    (h8 : cborReadHead p3 = some (0, 1, p4)) (h9 : cborReadBytes p4 = some (inner, [0]))
    (h10 : cborReadBytes inner = some (hdEnc, [])) :
    byronDecode addr = .ok (rootHash ++ hdEnc) := by
  obtain ⟨h0, h1, h2, h3, h4⟩ := w
  unfold byronDecode
  simp only [h0, bind, Except.bind, h1, h2, h3, h4, h5, h6, h7, h8, h9, h10, hl, ne_eq,
    not_true_eq_false, if_false, if_true]
  rfl

/-- decoding inverts the encoder's layout around any 28-byte root hash: the hashes that make up the
real one play no part -/
theorem byronDecode_of_payload (rootHash : Bytes) (hdEnc : Option Bytes) (payload : Bytes)
    (hr : rootHash.length = 28) (hl : (hdEnc.getD []).length + 200 < 2 ^ 64)
    (hpay : payload = cborHead 4 3 ++ cborBytesItem rootHash ++ byronAttrs hdEnc ++ cborHead 0 0) :
    byronDecode (b58Encode btcAlphabet
      (cborHead 4 2 ++ (cborHead 6 24 ++ cborBytesItem payload) ++ cborHead 0 (crc32 payload))) =
      .ok (rootHash ++ hdEnc.getD []) := by
  have hp : payload.length < 2 ^ 64 := by
    have := cborHead_length_le 4 3
    have := cborHead_length_le 0 0
    have := cborBytesItem_length_le rootHash
    have := byronAttrs_length_le hdEnc
    rw [hpay]; simp only [List.length_append]; omega
  have w := byronWrapped_encode payload (crc32 payload) hp (by have := crc32_lt payload; omega)
  have h5 : cborReadHead payload =
      some (4, 3, cborBytesItem rootHash ++ (byronAttrs hdEnc ++ cborHead 0 0)) := by
    rw [hpay, List.append_assoc, List.append_assoc]
    exact cborReadHead_cborHead 4 3 (by decide) (by decide) _
  have h6 := cborReadBytes_item rootHash (byronAttrs hdEnc ++ cborHead 0 0) (by omega)
  cases hdEnc with
  | none =>
    rw [Option.getD_none, List.append_nil]
    exact byronDecode_no_path w h5 h6 hr (cborReadHead_cborHead 5 0 (by decide) (by decide) [0])
  | some e =>
    rw [Option.getD_some] at hl
    have := cborBytesItem_length_le e
    have h7 : cborReadHead (byronAttrs (some e) ++ cborHead 0 0) =
        some (5, 1, cborHead 0 1 ++ (cborBytesItem (cborBytesItem e) ++ [0])) := by
      unfold byronAttrs
      rw [List.append_assoc, List.append_assoc]
      exact cborReadHead_cborHead 5 1 (by decide) (by decide) _
    have h10 := cborReadBytes_item e [] (by omega)
    rw [List.append_nil] at h10
    exact byronDecode_path w h5 h6 hr h7
      (cborReadHead_cborHead 0 1 (by decide) (by decide) _)
      (cborReadBytes_item (cborBytesItem e) [0] (by omega)) h10

/-- the decoder returns `rootHash ‖ encrypted path` (or just the root hash
when there is no path attribute); the CRC-32 of the payload verifies on the way.  Holds for every
`pub`, `cc` (they are only hashed) and every encrypted path of less than `2^64 - 200` bytes. -/
theorem byron_decode_encode (pub cc : Bytes) (hdEnc : Option Bytes)
    (hl : (hdEnc.getD []).length + 200 < 2 ^ 64) :
    byronDecode (b58Encode btcAlphabet (byronAddrBytes pub cc hdEnc)) =
      .ok (byronRootHash pub cc hdEnc ++ hdEnc.getD []) :=
  byronDecode_of_payload (byronRootHash pub cc hdEnc) hdEnc (byronPayload pub cc hdEnc)
    (byronRootHash_length pub cc hdEnc) hl rfl

theorem byronPayload_layout (rootHash attrs : Bytes) (h : rootHash.length = 28) :
    cborHead 4 3 ++ cborBytesItem rootHash ++ attrs ++ cborHead 0 0 =
      [0x83, 0x58, 0x1c] ++ rootHash ++ attrs ++ [0x00] := by
  unfold cborBytesItem
  rw [h]
  rfl

theorem byronIcarusEncode_ok (pub cc : Bytes) (a : List Char) (h : byronIcarusEncode pub cc = .ok a) :
    ∃ k, pubFromBytes .ed25519 pub = some k ∧ cc.length = 32 ∧
      a = b58Encode btcAlphabet (byronAddrBytes (k.drop 1) cc none) := by
  unfold byronIcarusEncode at h
  obtain ⟨k, hk, h⟩ := bind_ok_inv h
  obtain ⟨hc, h⟩ := guard_ok_inv h
  exact ⟨k, (addrKey_ok_iff _ _ _).mp hk, not_not.mp hc, (Except.ok.inj h).symm⟩

/-- a Byron-legacy address with a path is the Base58 of the address bytes around the validated key
and the AEAD ciphertext of the CBOR-encoded path -/
theorem byronLegacyEncode_ok (aead : Aead) (pub cc : Bytes) (path : List Nat) (key : Bytes)
    (a : List Char) (h : byronLegacyEncode aead pub cc path (some key) = .ok a) :
    ∃ k plain, pubFromBytes .ed25519 pub = some k ∧ cborIndefEncode path = .ok plain ∧
      key.length = 32 ∧ cc.length = 32 ∧
      a = b58Encode btcAlphabet (byronAddrBytes (k.drop 1) cc (some (aead key byronNonce [] plain))) := by
  unfold byronLegacyEncode at h
  obtain ⟨hk, h⟩ := guard_ok_inv h
  obtain ⟨k, hkk, h⟩ := bind_ok_inv h
  obtain ⟨hc, h⟩ := guard_ok_inv h
  obtain ⟨plain, hplain, h⟩ := bind_ok_inv h
  exact ⟨k, plain, (addrKey_ok_iff _ _ _).mp hkk, hplain, not_not.mp hk, not_not.mp hc,
    (Except.ok.inj h).symm⟩

/-- AEAD decryption as the decoder calls it: `(key, nonce, aad, ciphertext, tag)` -/
abbrev AeadDec := Bytes → Bytes → Bytes → Bytes → Bytes → Option Bytes

/-- what the path recovery needs from the AEAD pair (both are third-party code in the library):
decrypting `ciphertext ‖ tag` split 16 bytes from the end returns the plaintext, and the
ciphertext is 16 bytes longer than the plaintext -/
structure AeadLaw (aead : Aead) (dec : AeadDec) : Prop where
  dec_enc : ∀ key nonce aad p,
    dec key nonce aad (dropLast (aead key nonce aad p) 16) (takeLast (aead key nonce aad p) 16) = some p
  length : ∀ key nonce aad p, (aead key nonce aad p).length = p.length + 16

/-- `CardanoByronLegacy.HdPathFromAddress` (the model in `Driver/Cardano.lean`, with the decryption
function as a parameter) -/
def byronRecoverPathWith (dec : AeadDec) (master : Node) (addr : List Char) : R (List Nat) := do
  let d ← byronDecode addr
  let enc := d.drop 28
  let key := byronHdPathKey master
  match dec key byronNonce [] (dropLast enc 16) (takeLast enc 16) with
  | none => throw .value
  | some plain =>
    let items ← cborIndefDecode cborLoadsUint plain
    let vals ← items.mapM fun it => match it with
      | .uint n => pure n
      | .other => throw Err.path
    if vals.any (· > 2 ^ 32 - 1) then throw .path
    pure vals

theorem mapM_uint (l : List Nat) :
    (l.map CborItem.uint).mapM (fun it => match it with
      | .uint n => (pure n : R Nat)
      | .other => throw Err.path) = .ok l := by
  induction l with
  | nil => rfl
  | cons a t ih => rw [List.map_cons, List.mapM_cons, ih]; rfl

/-- the recovery returns the path `l` when the address decodes, the part after the 28-byte root
hash decrypts, and the plaintext is the CBOR array of `l`, all of whose entries are 32-bit -/
theorem byronRecoverPathWith_ok {dec : AeadDec} {master : Node} {addr : List Char} {d plain : Bytes}
    {l : List Nat} (hd : byronDecode addr = .ok d)
    (hdec : dec (byronHdPathKey master) byronNonce [] (dropLast (d.drop 28) 16)
      (takeLast (d.drop 28) 16) = some plain)
    (hitems : cborIndefDecode cborLoadsUint plain = .ok (l.map .uint))
    (hrange : ∀ n ∈ l, n ≤ 2 ^ 32 - 1) : byronRecoverPathWith dec master addr = .ok l := by
  have hany : l.any (· > 2 ^ 32 - 1) = false := by
    rw [List.any_eq_false]
    intro n hn
    have := hrange n hn
    simp only [gt_iff_lt, decide_eq_true_eq]; omega
  unfold byronRecoverPathWith
  simp only [hd, ok_bind, hdec, hitems, mapM_uint, hany, Bool.false_eq_true, if_false]
  rfl

theorem byronLegacyAddress_ok (aead : Aead) (master : Node) (first second : Nat) (addr : List Char)
    (h : byronLegacyAddress aead master first second = .ok addr) :
    first ≤ 2 ^ 32 - 1 ∧ second ≤ 2 ^ 32 - 1 ∧
    ∃ nd, [harden first, harden second].foldlM kholawChildKey master = .ok nd ∧
      byronLegacyEncode aead nd.pub nd.chainCode [harden first, harden second]
        (some (byronHdPathKey master)) = .ok addr := by
  unfold byronLegacyAddress at h
  obtain ⟨hc, h⟩ := guard_ok_inv h
  obtain ⟨nd, h1, h2⟩ := bind_ok_inv h
  simp only [Bool.or_eq_true, decide_eq_true_eq, not_or, Nat.not_lt] at hc
  exact ⟨hc.1, hc.2, nd, h1, h2⟩

theorem flatten_cborBytes_length_le (l : List Nat) :
    ((l.map cborBytes).flatten).length ≤ 9 * l.length := by
  induction l with
  | nil => exact Nat.le_refl 0
  | cons a t ih =>
    have := cborHead_length_le 0 a
    rw [← cborBytes_eq_cborHead] at this
    simp only [List.map_cons, List.flatten_cons, List.length_append, List.length_cons]; omega

/-! ## ChaCha20-Poly1305: the AEAD law holds for the reference implementation

Only the *structure* of the construction is used (xor with a key stream that depends on key,
nonce, counter and position only; tag recomputed from the ciphertext) — no property of the
ChaCha20 block function or of Poly1305 beyond their output lengths. -/

/-- the key stream of `k` blocks starting at block `c` -/
def keyStream (key nonce : Array UInt8) : Nat → Nat → Bytes
  | 0, _ => []
  | k + 1, c => ChaCha.block key (UInt32.ofNat c) nonce ++ keyStream key nonce k (c + 1)

theorem keyStream_length (key nonce : Array UInt8) (k c : Nat) :
    (keyStream key nonce k c).length = 64 * k := by
  induction k generalizing c with
  | zero => rfl
  | succ n ih => rw [keyStream, List.length_append, ChaCha.block_length, ih, Nat.mul_succ, Nat.add_comm]

theorem xorLoop_eq_zipWith (key nonce : Array UInt8) (k c : Nat) (data : Bytes) :
    ChaCha.xorLoop key nonce k c data = List.zipWith (· ^^^ ·) data (keyStream key nonce k c) := by
  induction k generalizing c data with
  | zero => exact List.zipWith_nil_right.symm
  | succ n ih =>
    have h := zipWith_take_drop_append (· ^^^ ·) data (ChaCha.block key (UInt32.ofNat c) nonce)
      (keyStream key nonce n (c + 1))
    rw [ChaCha.block_length] at h
    rw [keyStream, ← h, ← ih]
    rfl

/-- the number of key-stream blocks depends on the length of the input only, and covers it -/
theorem chacha20Xor_eq_zipWith (key : Bytes) (counter : Nat) (nonce data : Bytes) :
    chacha20Xor key counter nonce data =
      List.zipWith (· ^^^ ·) data
        (keyStream key.toArray nonce.toArray ((data.length + 63) / 64) counter) := by
  unfold chacha20Xor; rw [xorLoop_eq_zipWith]

theorem chacha20Xor_length (key : Bytes) (counter : Nat) (nonce data : Bytes) :
    (chacha20Xor key counter nonce data).length = data.length := by
  rw [chacha20Xor_eq_zipWith, List.length_zipWith, keyStream_length]; omega

/-- ChaCha20 encryption is its own inverse (same key, counter, nonce): both passes xor with the same
key stream -/
theorem chacha20Xor_involutive (key : Bytes) (counter : Nat) (nonce data : Bytes) :
    chacha20Xor key counter nonce (chacha20Xor key counter nonce data) = data := by
  rw [chacha20Xor_eq_zipWith key counter nonce (chacha20Xor key counter nonce data),
    chacha20Xor_length, chacha20Xor_eq_zipWith]
  exact zipWith_xor_cancel data _ (by rw [keyStream_length]; omega)

theorem aeadTag_length (key nonce aad cipher : Bytes) : (ChaCha.aeadTag key nonce aad cipher).length = 16 := by
  unfold ChaCha.aeadTag poly1305; exact length_ofNatLE _ _

/-- RFC 8439 decryption inverts encryption (the tag is recomputed from the same ciphertext) -/
theorem chacha20Poly1305_decrypt_encrypt (key nonce aad plain : Bytes) :
    chacha20Poly1305Decrypt key nonce aad (chacha20Poly1305Encrypt key nonce aad plain).1
      (chacha20Poly1305Encrypt key nonce aad plain).2 = some plain := by
  unfold chacha20Poly1305Decrypt chacha20Poly1305Encrypt
  simp only [if_true, chacha20Xor_involutive]

/-- the AEAD as the library applies it: `ciphertext ‖ tag` (identical to `Driver.chachaAead`) -/
def chachaAead : Aead := fun key nonce aad plain =>
  (chacha20Poly1305Encrypt key nonce aad plain).1 ++ (chacha20Poly1305Encrypt key nonce aad plain).2

theorem chacha_aeadLaw : AeadLaw chachaAead chacha20Poly1305Decrypt where
  dec_enc key nonce aad p := by
    have ht : (chacha20Poly1305Encrypt key nonce aad p).2.length = 16 := aeadTag_length _ _ _ _
    unfold chachaAead
    rw [dropLast_append_of_length _ _ _ ht, takeLast_append_of_length _ _ _ ht]
    exact chacha20Poly1305_decrypt_encrypt key nonce aad p
  length key nonce aad p := by
    unfold chachaAead
    rw [List.length_append]
    show (chacha20Xor key 1 nonce p).length + (ChaCha.aeadTag _ _ _ _).length = _
    rw [chacha20Xor_length, aeadTag_length]

end BipVerif.Model.CardanoLemmas
