/-
Electrum v2 mnemonics.  `v2BitsEnough` (`AreEntropyBitsEnough`) holds exactly on `[2^121, 2^132)` and
`[2^253, 2^264)`, the values with 12 or 24 digits in base 2048; `digitsLE` and `ofDigitsBE` of the
reversed list are inverse to each other when the most significant digit is not zero;
`electrumV2EncodeIdx` and `electrumV2DecodeIdx` in closed form.
-/
import BipVerif.Lemmas.MnemonicsAlgo
import BipVerif.Lemmas.Bip39

namespace BipVerif.Model
open BipVerif

set_option exponentiation.threshold 300 in
theorem v2BitsEnough_iff (v : Nat) :
    v2BitsEnough v = true ↔ (2 ^ 121 ≤ v ∧ v < 2 ^ 132) ∨ (2 ^ 253 ≤ v ∧ v < 2 ^ 264) := by
  unfold v2BitsEnough
  by_cases hv : v = 0
  · subst hv
    constructor
    · intro h; exact absurd h (by decide)
    · rintro (⟨h, _⟩ | ⟨h, _⟩) <;> exact absurd h (Nat.not_le.mpr (Nat.two_pow_pos _))
  · simp only [hv, if_false, Bool.or_eq_true, Bool.and_eq_true, decide_eq_true_eq]
    rw [Nat.le_log2 hv, Nat.log2_lt hv, Nat.le_log2 hv, Nat.log2_lt hv]

theorem pow2048_11 : (2048 : Nat) ^ 11 = 2 ^ 121 := pow_2048 11
theorem pow2048_12 : (2048 : Nat) ^ 12 = 2 ^ 132 := pow_2048 12
theorem pow2048_23 : (2048 : Nat) ^ 23 = 2 ^ 253 := pow_2048 23
set_option exponentiation.threshold 300 in
theorem pow2048_24 : (2048 : Nat) ^ 24 = 2 ^ 264 := pow_2048 24

theorem digitsLE_eq (n : Nat) (hn : 2 ≤ n) (v : Nat) : digitsLE n v = Nat.digits n v := by
  unfold digitsLE; rw [digitsBE_eq n hn]; simp

theorem digitsLE_lt (n : Nat) (hn : 2 ≤ n) (v : Nat) : ∀ d ∈ digitsLE n v, d < n := by
  intro d hd
  unfold digitsLE at hd
  exact digitsBE_lt n hn v d (List.mem_reverse.mp hd)

theorem digitsLE_length_eq_iff (n : Nat) (hn : 2 ≤ n) (v k : Nat) :
    (digitsLE n v).length = k + 1 ↔ n ^ k ≤ v ∧ v < n ^ (k + 1) := by
  rw [digitsLE_eq n hn]
  have h1 := Nat.digits_length_le_iff (b := n) (k := k) (by omega) v
  have h2 := Nat.digits_length_le_iff (b := n) (k := k + 1) (by omega) v
  constructor
  · intro h
    exact ⟨by by_contra hc; have := h1.mpr (by omega); omega, h2.mp (by omega)⟩
  · rintro ⟨ha, hb⟩
    have := h2.mpr hb
    have : ¬ (Nat.digits n v).length ≤ k := fun hc => by have := h1.mp hc; omega
    omega

theorem digitsLE_length_of_bits {v : Nat} (h : v2BitsEnough v = true) :
    (digitsLE 2048 v).length = 12 ∨ (digitsLE 2048 v).length = 24 := by
  rcases (v2BitsEnough_iff v).mp h with ⟨h1, h2⟩ | ⟨h1, h2⟩
  · left
    exact (digitsLE_length_eq_iff 2048 (by omega) v 11).mpr
      ⟨by rw [pow2048_11]; exact h1, by rw [pow2048_12]; exact h2⟩
  · right
    exact (digitsLE_length_eq_iff 2048 (by omega) v 23).mpr
      ⟨by rw [pow2048_23]; exact h1, by rw [pow2048_24]; exact h2⟩

theorem ofDigitsBE_cons_zero (r : Nat) (ds : List Nat) : ofDigitsBE r (0 :: ds) = ofDigitsBE r ds :=
  ofDigitsBE_zeros_append r 1 ds

theorem digitsLE_getLast_ne_zero (n : Nat) (hn : 2 ≤ n) (v : Nat) :
    (digitsLE n v).getLast? ≠ some 0 := by
  unfold digitsLE
  rw [List.getLast?_reverse]
  exact digitsBE_head_ne_zero n hn v

theorem digitsLE_ofDigitsBE_reverse (n : Nat) (hn : 2 ≤ n) (idxs : List Nat)
    (hlt : ∀ d ∈ idxs, d < n) (hlast : idxs.getLast? ≠ some 0) :
    digitsLE n (ofDigitsBE n idxs.reverse) = idxs := by
  unfold digitsLE
  rw [digitsBE_ofDigitsBE n hn idxs.reverse (by simpa using hlt) (by
    rw [List.head?_reverse]; exact hlast), List.reverse_reverse]

theorem v2Encode_eq (wl : List Nat) (hwl : 2 ≤ wl.length) (ent : Bytes) :
    electrumV2EncodeIdx wl ent =
      if v2BitsEnough (Bytes.toNatBE ent) = true then
        .ok ((digitsLE wl.length (Bytes.toNatBE ent)).map fun i => wl.getD i 0)
      else .error .value := by
  unfold electrumV2EncodeIdx
  by_cases h : v2BitsEnough (Bytes.toNatBE ent) = true
  · simp only [h, Bool.not_true, Bool.false_eq_true, if_false, if_true]
    exact mapM_pyIdx wl _ (digitsLE_lt _ hwl _)
  · simp only [Bool.not_eq_true] at h
    simp only [h, Bool.not_false, if_true, Bool.false_eq_true, if_false]
    rfl

theorem v2Encode_ok {wl : List Nat} (hwl : 2 ≤ wl.length) {ent : Bytes} {ws : List Nat}
    (h : electrumV2EncodeIdx wl ent = .ok ws) :
    v2BitsEnough (Bytes.toNatBE ent) = true
      ∧ ws = (digitsLE wl.length (Bytes.toNatBE ent)).map fun i => wl.getD i 0 := by
  rw [v2Encode_eq wl hwl] at h
  split at h
  · exact ⟨‹_›, (Except.ok.inj h).symm⟩
  · cases h

theorem v2Decode_eq (langs : List (List Nat)) (lang : Option (List Nat)) (ws : List Nat) :
    electrumV2DecodeIdx langs lang ws = (pickLang langs lang ws >>= fun wl =>
      ws.mapM (wordIdx wl) >>= fun idxs => pure (toBytesAuto (ofDigitsBE wl.length idxs.reverse))) := by
  unfold electrumV2DecodeIdx
  cases lang <;> rfl

/-- with the language given, the decoder reads the word indexes as little-endian digits in base
`wl.length` -/
theorem v2Decode_some (langs : List (List Nat)) (wl ws : List Nat) :
    electrumV2DecodeIdx langs (some wl) ws
      = if ∀ w ∈ ws, w ∈ wl then
          .ok (toBytesAuto (ofDigitsBE wl.length (ws.map (wl.idxOf ·)).reverse))
        else .error .value := by
  rw [v2Decode_eq, pickLang_some, ok_bind, mapM_wordIdx_eq]
  split <;> rfl

end BipVerif.Model
