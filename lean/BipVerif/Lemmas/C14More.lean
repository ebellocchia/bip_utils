/-
Error kinds of the model entry points behind `Props/C14More.lean`.  Each lemma `f_only` bounds the errors
of `f` by an arbitrary family `P` that contains the kinds `f` can raise (hypotheses `P .key`, `P .value`, …,
found by `decide` when `P` is concrete), so that a caller whose own family is larger uses it as it stands.
The Cardano address codecs raise `ValueError` only and are `f_ov` (`OnlyValue`) lemmas.
-/
import BipVerif.Lemmas.AddrBech32
import BipVerif.Lemmas.AddrBase58
import BipVerif.Lemmas.AddrMisc
import BipVerif.Lemmas.Escape
import BipVerif.Lemmas.Slip10
import BipVerif.Lemmas.Cardano
import BipVerif.Lemmas.Bip38
import BipVerif.Lemmas.Monero
import BipVerif.Lemmas.Electrum
import BipVerif.Lemmas.Substrate
import BipVerif.Model.Bip44
import BipVerif.Model.Electrum

namespace BipVerif.Model.C14MoreLemmas
open BipVerif BipVerif.Prim BipVerif.Model

@[ov] theorem shelleyDecode_ov (hrp : List Char) (netTag : Nat) (addr : List Char) :
    OnlyValue (shelleyDecode hrp netTag addr) := by
  unfold shelleyDecode; simp only [ov]

@[ov] theorem shelleyStakingDecode_ov (hrp : List Char) (netTag : Nat) (addr : List Char) :
    OnlyValue (shelleyStakingDecode hrp netTag addr) := by
  unfold shelleyStakingDecode; simp only [ov]

@[ov] theorem shelleyEncode_ov (hrp : List Char) (netTag : Nat) (pub stake : Bytes) :
    OnlyValue (shelleyEncode hrp netTag pub stake) := by
  unfold shelleyEncode; simp only [ov]

@[ov] theorem shelleyStakingEncode_ov (hrp : List Char) (netTag : Nat) (pub : Bytes) :
    OnlyValue (shelleyStakingEncode hrp netTag pub) := by
  unfold shelleyStakingEncode; simp only [ov]

@[ov] theorem byronIcarusEncode_ov (pub cc : Bytes) : OnlyValue (byronIcarusEncode pub cc) := by
  unfold byronIcarusEncode; simp only [ov]

@[ov] theorem byronLegacyEncode_ov (aead : Aead) (pub cc : Bytes) (path : List Nat)
    (hp : ∀ n ∈ path, n < 2 ^ 64) (hdKey : Option Bytes) :
    OnlyValue (byronLegacyEncode aead pub cc path hdKey) := by
  unfold byronLegacyEncode
  rw [cborIndefEncode_ok hp]
  cases hdKey <;> simp only [ov]

variable {P : Err → Prop}

/-- `byronDecode`: `ValueError`, or the input is outside the modelled CBOR fragment -/
theorem byronDecode_only (addr : List Char) (hv : P .value := by decide) (ho : P .oracleMiss := by decide) :
    Only P (byronDecode addr) := by
  unfold byronDecode
  refine .bind (.of_ov (OnlyValue.b58Decode _ _) hv) fun raw _ => ?_
  have miss : Only P (throw .oracleMiss : R Bytes) := .throw ho
  have bad : Only P (throw .value : R Bytes) := .throw hv
  -- One `split` per CBOR read, in the order of the model.  The two guards are taken by `Only.guard`: a
  -- `split` there would go into the continuation, which the `do` block shares between both branches.
  split
  · split
    · split
      · split
        · exact bad
        · exact bad
        · refine .guard hv ?_
          split
          · split
            · refine .guard hv ?_
              split
              · simp only [ov, hv, ho]
              · split
                · split
                  · split
                    · simp only [ov, hv, ho]
                    · exact bad
                    · exact miss
                  · exact miss
                · exact miss
              · exact miss
            · exact miss
          · exact miss
        · exact miss
      · exact miss
    · exact miss
  · exact miss

theorem nodeOfPriv_only (c : CurveT) (s : Scheme) (k : Bytes) (d i : Nat) (cc fp : Bytes)
    (hk : P .key := by decide) (hv : P .value := by decide) : Only P (nodeOfPriv c s k d i cc fp) :=
  .of_or (fun e h => (nodeOfPriv_error c s k d i cc fp e h).imp And.left And.left) hk hv

theorem nodeOfPub_only (c : CurveT) (s : Scheme) (p : Bytes) (d i : Nat) (cc fp : Bytes)
    (hk : P .key := by decide) : Only P (nodeOfPub c s p d i cc fp) :=
  .of_eq (fun e h => (nodeOfPub_error c s p d i cc fp e h).1) hk

theorem slip10Retry_only (n : Nat) (cc : Bytes) (idx : Nat) (kpar : Option Nat) (fuel : Nat)
    (s : Bytes × Bytes) (hf : P .fuel := by decide) : Only P (slip10Retry n cc idx kpar fuel s) :=
  .of_eq (slip10Retry_error n cc idx kpar fuel s) hf

theorem slip10CkdPriv_only (nd : Node) (priv : Bytes) (idx : Nat) (hk : P .key := by decide)
    (hf : P .fuel := by decide) : Only P (slip10CkdPriv nd priv idx) := by
  by_cases hc : nd.curve.isEcdsa = true
  · exact .of_eq (slip10CkdPriv_ecdsa_error nd priv idx hc) hf
  · unfold slip10CkdPriv
    rw [if_neg hc]
    simp only [ov, hk]

theorem slip10CkdPub_only (nd : Node) (idx : Nat) (hk : P .key := by decide) (hf : P .fuel := by decide) :
    Only P (slip10CkdPub nd idx) := by
  unfold slip10CkdPub
  simp only [ov, slip10Retry_only _ _ _ _ _ _ hf, hk]
  intros
  split <;> simp only [ov, hk]

theorem slip10ChildKey_only (nd : Node) (idx : Nat) (hk : P .key := by decide) (hv : P .value := by decide)
    (hf : P .fuel := by decide) : Only P (slip10ChildKey nd idx) := by
  unfold slip10ChildKey
  simp only [ov, hv]
  split <;>
    simp only [ov, hk, hv, slip10CkdPriv_only _ _ _ hk hf, slip10CkdPub_only _ _ hk hf,
      nodeOfPriv_only _ _ _ _ _ _ _ hk hv, nodeOfPub_only _ _ _ _ _ _ _ hk]

theorem toBytesLE_total {v n : Nat} (h : v < 256 ^ n) : Only P (toBytesLE v n) := by
  obtain ⟨b, hb⟩ := (toBytesLE_ok_iff v n).mpr h
  rw [hb]; exact Only.ok _

/-- `_NewPrivateKeyLeftPart`: neither `int.to_bytes(32)` can overflow, the value is reduced mod `edL` (Byron
legacy) or checked to be below 2^255 first -/
theorem kholawNewLeft_only (s : Scheme) (zl kl : Bytes) (hk : P .key := by decide) :
    Only P (kholawNewLeft s zl kl) := by
  unfold kholawNewLeft
  simp only [ov, hk]
  refine ⟨fun _ => toBytesLE_total (Nat.lt_trans (Nat.mod_lt _ EccLemmas.edL_pos) EccLemmas.edL_lt),
    fun _ _ h => toBytesLE_total ?_⟩
  have : (2 : Nat) ^ 255 < 256 ^ 32 := by norm_num
  omega

theorem kholawNewRight_only (s : Scheme) (zr kr : Bytes) : Only P (kholawNewRight s zr kr) := by
  unfold kholawNewRight
  simp only [ov]
  exact fun _ => toBytesLE_total (by rw [show (256 : Nat) ^ 32 = 2 ^ 256 by norm_num]; exact Nat.mod_lt _ (by positivity))

theorem kholawCkdPriv_only (nd : Node) (priv : Bytes) (idx : Nat) (hk : P .key := by decide) :
    Only P (kholawCkdPriv nd priv idx) := by
  unfold kholawCkdPriv
  simp only [ov, kholawNewLeft_only _ _ _ hk, kholawNewRight_only]

theorem kholawCkdPub_only (nd : Node) (idx : Nat) (hk : P .key := by decide) :
    Only P (kholawCkdPub nd idx) := by
  unfold kholawCkdPub
  dsimp only
  split <;> simp only [ov, hk]

theorem kholawChildKey_only (nd : Node) (idx : Nat) (hk : P .key := by decide) (hv : P .value := by decide) :
    Only P (kholawChildKey nd idx) := by
  unfold kholawChildKey
  simp only [ov, hv]
  split <;>
    simp only [ov, hk, hv, kholawCkdPriv_only _ _ _ hk, kholawCkdPub_only _ _ hk,
      nodeOfPriv_only _ _ _ _ _ _ _ hk hv, nodeOfPub_only _ _ _ _ _ _ _ hk]

theorem childKey_only (nd : Node) (idx : Nat) (hk : P .key := by decide) (hv : P .value := by decide)
    (hf : P .fuel := by decide) : Only P (childKey nd idx) := by
  unfold childKey
  split
  · exact slip10ChildKey_only nd idx hk hv hf
  · exact kholawChildKey_only nd idx hk hv

theorem derivePathWith_only (child : Node → Nat → R Node) (hc : ∀ nd i, Only P (child nd i))
    (nd : Node) (p : Path) (hv : P .value := by decide) : Only P (derivePathWith child nd p) := by
  unfold derivePathWith
  simp only [ov, hv, Only.foldlM hc]

theorem slip10Master_only (c : CurveT) (seed : Bytes) (hv : P .value := by decide) (hf : P .fuel := by decide) :
    Only P (slip10Master c seed) :=
  ⟨fun e h => by
    rcases slip10Master_error c seed e h with ⟨_, rfl⟩ | ⟨_, rfl | ⟨rfl, _⟩⟩
    exacts [hv, hf, hv]⟩

theorem kholawMaster_only (s : Scheme) (gen : Bytes → R (Bytes × Bytes)) (hg : ∀ seed, Only P (gen seed))
    (seed : Bytes) (hk : P .key := by decide) (hv : P .value := by decide) :
    Only P (kholawMaster s gen seed) := by
  unfold kholawMaster
  simp only [ov, hg, nodeOfPriv_only _ _ _ _ _ _ _ hk hv]

theorem kholawMasterKey_only (seed : Bytes) (hv : P .value := by decide) (hf : P .fuel := by decide) :
    Only P (kholawMasterKey seed) :=
  .of_or (fun e h => (CardanoLemmas.kholawMasterKey_error seed e h).imp And.left And.left) hv hf

theorem byronLegacyMasterKey_only (seed : Bytes) (hv : P .value := by decide) (hf : P .fuel := by decide) :
    Only P (byronLegacyMasterKey seed) :=
  .of_or (fun e h => (CardanoLemmas.byronLegacyMasterKey_error seed e h).imp And.left And.left) hv hf

theorem icarusMasterKey_only (seed : Bytes) (hv : P .value := by decide) : Only P (icarusMasterKey seed) := by
  unfold icarusMasterKey
  simp only [ov, hv]

theorem masterOf_only (b : String) (hb : (bip32ClassOf b).isSome = true) (seed : Bytes)
    (hk : P .key := by decide) (hv : P .value := by decide) (hf : P .fuel := by decide) :
    Only P (masterOf b seed) := by
  unfold masterOf
  split
  iterate 4 exact slip10Master_only _ _ hv hf
  · exact kholawMaster_only _ _ (kholawMasterKey_only · hv hf) _ hk hv
  · exact kholawMaster_only _ _ (icarusMasterKey_only · hv) _ hk hv
  · exfalso
    unfold bip32ClassOf at hb
    split at hb <;> simp_all

theorem b44Admit_only (nd : Node) (hd : P .depth := by decide) : Only P (b44Admit nd) := by
  unfold b44Admit
  simp only [ov, hd]

theorem b44Child_only (nd : Node) (idx : Nat) (hd : P .depth := by decide) (hk : P .key := by decide)
    (hv : P .value := by decide) (hf : P .fuel := by decide) : Only P (b44Child nd idx) := by
  unfold b44Child
  simp only [ov, childKey_only _ _ hk hv hf, b44Admit_only _ hd]

/-- The `TypeError` of `Change(x)` is in the family only if the argument can be a
non-member: `ht` asks for `P .type` under exactly that condition. -/
theorem b44Step_only (purpose coinIdx : Nat) (defPath : Path) (nd : Node) (op : B44Op)
    (ht : ∀ c, op = .change c → c > 1 → P .type) (hd : P .depth := by decide) (hk : P .key := by decide)
    (hv : P .value := by decide) (hf : P .fuel := by decide) :
    Only P (b44Step purpose coinIdx defPath nd op) := by
  have hchild := fun nd i => b44Child_only (P := P) nd i hd hk hv hf
  cases op <;> unfold b44Step <;>
    simp only [ov, hd, hchild, b44Admit_only _ hd, derivePathWith_only childKey (childKey_only · · hk hv hf) _ _ hv]
  exact fun hc => ht _ rfl hc

theorem b44Run_only (purpose coinIdx : Nat) (defPath : Path) (nd : Node) (ops : List B44Op)
    (ht : P .type := by decide) (hd : P .depth := by decide) (hk : P .key := by decide)
    (hv : P .value := by decide) (hf : P .fuel := by decide) :
    Only P (b44Run purpose coinIdx defPath nd ops) :=
  Only.foldlM (fun nd op => b44Step_only purpose coinIdx defPath nd op (fun _ _ _ => ht) hd hk hv hf) _ _

theorem bip38Intermediate_only (pass salt : Bytes) (lotSeq : Option (Nat × Nat)) (hv : P .value := by decide) :
    Only P (bip38Intermediate pass salt lotSeq) := by
  unfold bip38Intermediate
  rcases lotSeq with _ | ⟨lot, seq⟩ <;> simp only [ov, hv]

theorem bip38EcGenerate_only (intPass : List Char) (seedb : Bytes) (compressed : Bool)
    (hv : P .value := by decide) (hc : P .checksum := by decide) :
    Only P (bip38EcGenerate intPass seedb compressed) := by
  unfold bip38EcGenerate
  simp only [ov, hv, Only.of_or (fun _ h => Bip38Lemmas.b58c_error h) hv hc]

theorem ev1FromPriv_only (k : Bytes) (hv : P .value := by decide) : Only P (ev1FromPriv k) := by
  unfold ev1FromPriv
  simp only [ov, hv]

theorem ev1FromPub_only (b : Bytes) (hv : P .value := by decide) : Only P (ev1FromPub b) := by
  unfold ev1FromPub
  simp only [ov, hv]

theorem ev1PrivateKey_only (w : Ev1) (change addr : Nat) (hv : P .value := by decide) :
    Only P (ev1PrivateKey w change addr) :=
  .of_eq (fun _ h => ElectrumLemmas.ev1PrivateKey_error h) hv

theorem ev1PublicKey_only (w : Ev1) (change addr : Nat) (hv : P .value := by decide) :
    Only P (ev1PublicKey w change addr) := by
  unfold ev1PublicKey
  split
  · simp only [ov, hv, ev1PrivateKey_only _ _ _ hv]
  · simp only [ov, hv, Only.of_eq (fun _ h => ElectrumLemmas.ev1Sequence_error h) hv]
    intros
    split <;> simp only [ov, hv]

theorem ev1Address_only (w : Ev1) (change addr : Nat) (hv : P .value := by decide) :
    Only P (ev1Address w change addr) := by
  unfold ev1Address
  simp only [ov, hv, ev1PublicKey_only _ _ _ hv]

theorem ev2Derive_only (segwit : Bool) (master : Node) (change addr : Nat) (hk : P .key := by decide)
    (hv : P .value := by decide) (hp : P .path := by decide) (hf : P .fuel := by decide) :
    Only P (ev2Derive segwit master change addr) := by
  unfold ev2Derive
  simp only [ov, hv, hp, slip10ChildKey_only _ _ hk hv hf]

theorem ev2Address_only (segwit : Bool) (nd : Node) (hv : P .value := by decide) : Only P (ev2Address segwit nd) := by
  unfold ev2Address
  simp only [ov, hv]

theorem findPda_only (seeds : List Bytes) (prog : List Char) (hv : P .value := by decide) :
    Only P (findPda seeds prog) := by
  unfold findPda
  simp only [ov, hv, Only.of_eq (fun _ h => ElectrumLemmas.findPdaLoop_error h) hv]

theorem associatedTokenAddress_only (w m t : List Char) (hv : P .value := by decide) :
    Only P (associatedTokenAddress w m t) := by
  unfold associatedTokenAddress
  simp only [ov, hv, findPda_only _ _ hv]

theorem xmrFromBip44Priv_only (k : Bytes) (hk : P .key := by decide) (hv : P .value := by decide) :
    Only P (xmrFromBip44Priv k) :=
  .of_or (fun _ h => MoneroLemmas.xmrFromSpend_error h) hk hv

theorem xmrPrivateSpend_only (w : XmrWallet) (hk : P .key := by decide) : Only P (xmrPrivateSpend w) := by
  unfold xmrPrivateSpend
  split <;> simp only [ov, hk]

theorem xmrPrimaryAddress_only (w : XmrWallet) (nv : Bytes) (hv : P .value := by decide) :
    Only P (xmrPrimaryAddress w nv) :=
  .of_ov (xmrAddrEncode_ov _ _ _ _) hv

theorem xmrIntegratedAddress_only (w : XmrWallet) (nv pid : Bytes) (hv : P .value := by decide) :
    Only P (xmrIntegratedAddress w nv pid) :=
  .of_ov (xmrAddrEncode_ov _ _ _ _) hv

theorem xmrSubaddress_only (w : XmrWallet) (nv snv : Bytes) (minor major : Nat) (hv : P .value := by decide) :
    Only P (xmrSubaddress w nv snv minor major) := by
  unfold xmrSubaddress
  simp only [ov, hv, xmrPrimaryAddress_only _ _ hv, Only.of_eq (fun _ h => MoneroLemmas.xmrSubaddrKeys_error h) hv]

theorem askOr_only (o : Oracle) (fn : String) (inp : Bytes) (ho : P .oracleMiss := by decide) :
    Only P (askOr o fn inp) := by
  unfold askOr
  split <;> simp only [ov, ho]

theorem subFromSeed_only (o : Oracle) (seed : Bytes) (hv : P .value := by decide) (ho : P .oracleMiss := by decide) :
    Only P (subFromSeed o seed) := by
  unfold subFromSeed
  simp only [ov, hv, askOr_only _ _ _ ho]

theorem subFromPriv_only (o : Oracle) (priv : Bytes) (hk : P .key := by decide) (ho : P .oracleMiss := by decide) :
    Only P (subFromPriv o priv) := by
  unfold subFromPriv
  simp only [ov, hk, askOr_only _ _ _ ho]

theorem subFromPub_only (pub : Bytes) (hk : P .key := by decide) : Only P (subFromPub pub) := by
  unfold subFromPub
  simp only [ov, hk]

theorem subChildKey_only (o : Oracle) (nd : SubNode) (el : SubElem) (hp : P .path := by decide)
    (hv : P .value := by decide) (hk : P .key := by decide) (ho : P .oracleMiss := by decide) :
    Only P (subChildKey o nd el) := by
  unfold subChildKey
  split <;>
    simp only [ov, hk, askOr_only _ _ _ ho, EscapeLemmas.subChainCode_only _ hp hv]

theorem subDerivePath_only (o : Oracle) (nd : SubNode) (p : List SubElem) (hp : P .path := by decide)
    (hv : P .value := by decide) (hk : P .key := by decide) (ho : P .oracleMiss := by decide) :
    Only P (subDerivePath o nd p) :=
  Only.foldlM (subChildKey_only o · · hp hv hk ho) _ _

theorem subAddress_only (fmt : Nat) (nd : SubNode) (hv : P .value := by decide) : Only P (subAddress fmt nd) :=
  .of_ov (OnlyValue.ss58Encode _ _ _) hv

theorem normToken_only (o : List (List Char × List Char)) (t : List Char) (ho : P .oracleMiss := by decide) :
    Only P (normToken o t) := by
  unfold normToken
  simp only [ov]
  intro
  split <;> simp only [ov, ho]

theorem bip39Sentence_only (o : List (List Char × List Char)) (s : List Char) (ho : P .oracleMiss := by decide) :
    Only P (bip39Sentence o s) := by
  unfold bip39Sentence
  simp only [ov, Only.mapM (normToken_only o · ho)]

theorem bip39DecodeWithChecksum_only (H : Bytes → Bytes) (hH : ∀ x, (H x).length = 32)
    (langs : List (List Nat)) (hlangs : ∀ L ∈ langs, L.length ≤ 2048) (lang : Option (List Nat))
    (hlang : ∀ L, lang = some L → L.length ≤ 2048) (ws : List Nat) (hv : P .value := by decide)
    (hc : P .checksum := by decide) : Only P (bip39DecodeWithChecksum H langs lang ws) :=
  .intro fun e he => (bip39Decode_error_kind H hH langs hlangs lang hlang ws e
    ((bip39DecodeWithChecksum_error_iff H hH langs hlangs lang hlang ws e).mp he)).elim (· ▸ hv) (· ▸ hc)

theorem byronLegacyAddress_only (aead : Aead) (master : Node) (first second : Nat) (hp : P .path := by decide)
    (hk : P .key := by decide) (hv : P .value := by decide) :
    Only P (byronLegacyAddress aead master first second) := by
  unfold byronLegacyAddress
  simp only [ov, hp, Bool.or_eq_true, decide_eq_true_eq, not_or, Only.foldlM (kholawChildKey_only · · hk hv)]
  -- both indices are below 2^32, so the hardened path elements fit the CBOR encoder
  rintro ⟨h1, h2⟩ nd _
  refine .of_ov (byronLegacyEncode_ov aead _ _ _ ?_ _) hv
  simp only [List.mem_cons, List.not_mem_nil, or_false, forall_eq_or_imp, forall_eq]
  have hh : ∀ i, ¬ i > 2 ^ 32 - 1 → harden i < 2 ^ 64 := fun i h =>
    Nat.lt_trans (harden_lt i (by omega)) (by decide)
  exact ⟨hh _ h1, hh _ h2⟩

theorem cborIndefEncode_only (l : List Nat) (ho : P .overflow := by decide) : Only P (cborIndefEncode l) := by
  by_cases h : ∃ n ∈ l, 2 ^ 64 ≤ n
  · rw [cborIndefEncode_error h]
    exact .error ho
  · rw [cborIndefEncode_ok fun n hn => Nat.lt_of_not_le fun hle => h ⟨n, hn, hle⟩]
    exact .ok _

end BipVerif.Model.C14MoreLemmas
