/-
`parsePath` is reduced to its non-empty '/'-separated tokens (`pathTokens`, `parseTokens`). A
`Spelling` is an explicit family of ways to write a path: extra '/', blanks around an element,
leading zeros, digits of any Unicode `Nd` block, the three hardened markers.
`parsePath_respell`: every admissible spelling parses back to the path; `printPath` is one of them
(`printPath_eq_respell`). The last lemmas give the rejections. Used by C06.
-/
import BipVerif.Lemmas.Bip32Nodes

namespace BipVerif.Model
open BipVerif

theorem splitOnChar_go_append_sep (sep : Char) (a b cur : List Char) :
    splitOnChar.go sep (a ++ sep :: b) cur = splitOnChar.go sep a cur ++ splitOnChar.go sep b [] := by
  induction a generalizing cur with
  | nil => simp [splitOnChar.go]
  | cons c a ih =>
    by_cases h : c = sep
    · simp [splitOnChar.go, h, ih]
    · simp [splitOnChar.go, h, ih]

theorem splitOnChar_go_of_not_mem (sep : Char) (a cur : List Char) (h : sep ∉ a) :
    splitOnChar.go sep a cur = [cur.reverse ++ a] := by
  induction a generalizing cur with
  | nil => simp [splitOnChar.go]
  | cons c a ih =>
    have hc : c ≠ sep := fun e => h (by simp [e])
    have ha : sep ∉ a := fun e => h (by simp [e])
    simp [splitOnChar.go, hc, ih _ ha]

theorem splitOnChar_append_sep (sep : Char) (a b : List Char) :
    splitOnChar sep (a ++ sep :: b) = splitOnChar sep a ++ splitOnChar sep b :=
  splitOnChar_go_append_sep sep a b []

theorem splitOnChar_of_not_mem (sep : Char) (a : List Char) (h : sep ∉ a) :
    splitOnChar sep a = [a] := by
  simpa [splitOnChar] using splitOnChar_go_of_not_mem sep a [] h

/-- the non-empty pieces of a path string (the list `parsePath` works on) -/
def pathTokens (s : List Char) : List (List Char) :=
  (splitOnChar '/' s).filter (fun e => !e.isEmpty)

theorem pathTokens_append_sep (a b : List Char) :
    pathTokens (a ++ '/' :: b) = pathTokens a ++ pathTokens b := by
  simp [pathTokens, splitOnChar_append_sep]

theorem pathTokens_of_not_mem (a : List Char) (h : '/' ∉ a) :
    pathTokens a = if a.isEmpty then [] else [a] := by
  simp only [pathTokens, splitOnChar_of_not_mem _ _ h]
  cases a <;> simp

theorem pathTokens_nil : pathTokens [] = [] := by
  simp [pathTokens_of_not_mem]

theorem pathTokens_strip_trailing (s : List Char) :
    pathTokens (if s.getLast? = some '/' then s.dropLast else s) = pathTokens s := by
  split
  · next h =>
    obtain ⟨ys, rfl⟩ := List.getLast?_eq_some_iff.mp h
    rw [List.dropLast_concat]
    have : ys ++ ['/'] = ys ++ '/' :: [] := rfl
    rw [this, pathTokens_append_sep, pathTokens_nil, List.append_nil]
  · rfl

theorem pathTokens_join (L : List (List Char)) (h : ∀ t ∈ L, '/' ∉ t) :
    pathTokens (L.intersperse ['/']).flatten = L.filter (fun e => !e.isEmpty) := by
  induction L with
  | nil => simp [pathTokens_nil]
  | cons t L ih =>
    cases L with
    | nil =>
      have ht := h t (by simp)
      simp only [List.intersperse_singleton, List.flatten_cons, List.flatten_nil, List.append_nil,
        pathTokens_of_not_mem _ ht]
      cases t <;> simp
    | cons t' L =>
      have ht := h t (by simp)
      have ih' := ih (fun x hx => h x (by simp [hx]))
      simp only [List.intersperse_cons_cons, List.flatten_cons, List.singleton_append,
        pathTokens_append_sep, ih', pathTokens_of_not_mem _ ht]
      cases t <;> simp

/-- the second half of `parsePath`: parse every token, then the `Bip32Path` range check -/
def parseTokens (toks : List (List Char)) (abs : Bool) : R Path :=
  toks.mapM parsePathElem >>= fun vals =>
    if ∀ v ∈ vals, v < 2 ^ 32 then .ok ⟨vals, abs⟩ else .error .path

/-- the range check of `Bip32Path` as the parser writes it -/
theorem any_gt_iff (vals : List Nat) :
    (vals.any fun v => decide (v > 2 ^ 32 - 1)) = true ↔ ¬ ∀ v ∈ vals, v < 2 ^ 32 := by
  rw [List.any_eq_true]
  constructor
  · rintro ⟨x, hx, hgt⟩ hall
    have := hall x hx
    simp only [decide_eq_true_eq] at hgt
    omega
  · intro hn
    refine Classical.byContradiction fun hany => hn fun v hv => Nat.lt_of_not_le fun hle => hany ?_
    exact ⟨v, hv, by simp only [decide_eq_true_eq]; omega⟩

theorem parsePath_eq (s : List Char) :
    parsePath s = match pathTokens s with
      | ['m'] :: rest => parseTokens rest true
      | l => parseTokens l false := by
  unfold parsePath
  simp only [← pathTokens.eq_1, pathTokens_strip_trailing]
  generalize pathTokens s = l
  have key : ∀ (toks : List (List Char)) (abs : Bool),
      (do let vals ← toks.mapM parsePathElem
          if (vals.any fun v => decide (v > 2 ^ 32 - 1)) = true then do
            throw Err.path
            pure ({ elems := vals, absolute := abs } : Path)
          else pure { elems := vals, absolute := abs }) = parseTokens toks abs := by
    intro toks abs
    unfold parseTokens
    refine bind_congr fun vals => ?_
    by_cases hall : ∀ v ∈ vals, v < 2 ^ 32
    · rw [if_pos hall, if_neg (fun h => (any_gt_iff vals).mp h hall)]
      rfl
    · rw [if_neg hall, if_pos ((any_gt_iff vals).mpr hall)]
      rfl
  split
  · exact key _ _
  · next h =>
    split
    · exact absurd rfl (h _)
    · exact key _ _

theorem parsePath_of_tokens_abs (s : List Char) (rest : List (List Char))
    (h : pathTokens s = ['m'] :: rest) : parsePath s = parseTokens rest true := by
  rw [parsePath_eq, h]
  rfl

theorem parsePath_of_tokens_rel (s : List Char) (h : (pathTokens s).head? ≠ some ['m']) :
    parsePath s = parseTokens (pathTokens s) false := by
  rw [parsePath_eq]
  split
  · next heq => simp [heq] at h
  · rfl

theorem parsePathElem_error (t : List Char) (e : Err) (h : parsePathElem t = .error e) : e = .path := by
  unfold parsePathElem at h
  simp only at h
  split at h
  · cases h
  · cases h; rfl

theorem parseTokens_error (toks : List (List Char)) (abs : Bool) (e : Err)
    (h : parseTokens toks abs = .error e) : e = .path := by
  rcases bind_error_inv h with hm | ⟨es, _, h2⟩
  · exact mapM_error_of (P := (· = Err.path)) parsePathElem_error toks hm
  · split at h2
    · cases h2
    · cases h2; rfl

theorem parseTokens_ok_range (toks : List (List Char)) (abs : Bool) (p : Path)
    (h : parseTokens toks abs = .ok p) : p.absolute = abs ∧ ∀ e ∈ p.elems, e < 2 ^ 32 := by
  obtain ⟨es, _, h2⟩ := bind_ok_inv h
  split at h2
  · next hall => cases h2; exact ⟨rfl, hall⟩
  · cases h2

theorem parseTokens_ok (toks : List (List Char)) (es : List Nat) (abs : Bool)
    (hm : toks.mapM parsePathElem = .ok es) (hr : ∀ e ∈ es, e < 2 ^ 32) :
    parseTokens toks abs = .ok ⟨es, abs⟩ := by
  rw [parseTokens, hm, ok_bind, if_pos hr]

theorem parseTokens_out_of_range (toks : List (List Char)) (es : List Nat) (abs : Bool)
    (hm : toks.mapM parsePathElem = .ok es) (e : Nat) (he : e ∈ es) (hr : 2 ^ 32 ≤ e) :
    parseTokens toks abs = .error .path := by
  rw [parseTokens, hm, ok_bind, if_neg fun hall => Nat.not_lt.mpr hr (hall e he)]

theorem parseTokens_bad_token (toks : List (List Char)) (abs : Bool) (t : List Char) (e : Err)
    (ht : t ∈ toks) (hf : parsePathElem t = .error e) : parseTokens toks abs = .error .path := by
  cases hm : toks.mapM parsePathElem with
  | error e' =>
    rw [parseTokens, hm, error_bind, mapM_error_of (P := (· = Err.path)) parsePathElem_error toks hm]
  | ok es =>
    obtain ⟨b, hb⟩ := (mapM_ok_iff _ _).mp ⟨es, hm⟩ t ht
    rw [hf] at hb
    cases hb

theorem dropWhile_eq_nil_of_all {α} (p : α → Bool) (a : List α) (h : ∀ c ∈ a, p c = true) :
    a.dropWhile p = [] := by
  simpa using List.dropWhile_append_of_pos (l₂ := []) h

theorem dropWhile_of_head {α} (p : α → Bool) (l : List α) (h : ∀ c, l.head? = some c → p c = false) :
    l.dropWhile p = l := by
  cases l with
  | nil => rfl
  | cons c l => simp [h c rfl]

theorem stripSpaces_pad (pre body post : List Char)
    (hpre : ∀ c ∈ pre, isSpaceChar c = true) (hpost : ∀ c ∈ post, isSpaceChar c = true)
    (hhead : ∀ c, body.head? = some c → isSpaceChar c = false)
    (hlast : ∀ c, body.getLast? = some c → isSpaceChar c = false) :
    stripSpaces (pre ++ body ++ post) = body := by
  unfold stripSpaces
  rw [List.append_assoc, List.dropWhile_append_of_pos hpre]
  cases hb : body with
  | nil =>
    simp [dropWhile_eq_nil_of_all _ _ hpost]
  | cons c l =>
    rw [← hb]
    have h1 : (body ++ post).dropWhile isSpaceChar = body ++ post := by
      apply dropWhile_of_head
      intro d hd
      apply hhead
      simpa [hb] using hd
    rw [h1, List.reverse_append,
      List.dropWhile_append_of_pos (fun x hx => hpost x (List.mem_reverse.mp hx))]
    have h2 : body.reverse.dropWhile isSpaceChar = body.reverse := by
      apply dropWhile_of_head
      intro d hd
      apply hlast
      simpa using hd
    rw [h2, List.reverse_reverse]

/-! `decimalDigit` follows `str.isdecimal()`: a digit of any Unicode `Nd` block counts. `Gen.digitZeros`
lists the code point of the zero of each block. -/

theorem isDigit_iff_toNat (c : Char) : c.isDigit = true ↔ 48 ≤ c.toNat ∧ c.toNat ≤ 57 := by
  simp [Char.isDigit, UInt32.le_iff_toNat_le]

theorem pairwise_of_adjacent {α} {R : α → α → Prop} (trans : ∀ a b c, R a b → R b c → R a c) :
    ∀ l : List α, (∀ p ∈ l.zip l.tail, R p.1 p.2) → l.Pairwise R
  | [], _ => .nil
  | [_], _ => List.pairwise_singleton _ _
  | a :: b :: l, h => by
    have hab : R a b := h (a, b) (by simp)
    have ih := pairwise_of_adjacent trans (b :: l) (fun p hp => h p (List.mem_cons_of_mem _ hp))
    refine List.pairwise_cons.mpr ⟨fun c hc => ?_, ih⟩
    rcases List.mem_cons.mp hc with rfl | hc
    · exact hab
    · exact trans _ _ _ hab ((List.pairwise_cons.mp ih).1 c hc)

theorem digitZeros_blocks : Gen.digitZeros.Pairwise (fun a b => a + 10 ≤ b) :=
  pairwise_of_adjacent (fun _ _ _ h₁ h₂ => by omega) _ (by decide +kernel)

/-- among increasing disjoint blocks of ten, the search of `decimalDigit` finds the block of `n` -/
theorem find?_block {l : List Nat} (hl : l.Pairwise (fun a b => a + 10 ≤ b)) {z n : Nat}
    (hz : z ∈ l) (hn : z ≤ n ∧ n < z + 10) :
    l.find? (fun a => a ≤ n ∧ n < a + 10) = some z := by
  induction hl with
  | nil => cases hz
  | @cons a l ha _ ih =>
    rcases List.mem_cons.mp hz with rfl | hz
    · exact List.find?_cons_of_pos (by simpa using hn)
    · have := ha z hz
      rw [List.find?_cons_of_neg (by simp only [decide_eq_true_eq]; omega)]
      exact ih hz

theorem decimalDigit_of_block (c : Char) (z d : Nat) (hz : z ∈ Gen.digitZeros)
    (hc : c.toNat = z + d) (hd : d < 10) : decimalDigit c = some d := by
  have hfind := find?_block digitZeros_blocks hz (n := c.toNat) (by omega)
  unfold decimalDigit
  simp only [hfind]
  split
  · -- an ASCII digit: its block is the one that starts at 48
    have h48 := find?_block digitZeros_blocks (z := 48) (by decide) (n := c.toNat) (by omega)
    have : z = 48 := Option.some.inj (hfind.symm.trans h48)
    rw [hc, this, Nat.add_sub_cancel_left]
  · rw [hc, Nat.add_sub_cancel_left]

theorem decimalDigit_of_isDigit (c : Char) (h : c.isDigit = true) :
    decimalDigit c = some (c.toNat - 48) := by
  have := (isDigit_iff_toNat c).mp h
  exact decimalDigit_of_block c 48 _ (by decide) (by omega) (by omega)

theorem decimalDigit_some (c : Char) (d : Nat) (h : decimalDigit c = some d) :
    ∃ z ∈ Gen.digitZeros, z ≤ c.toNat ∧ c.toNat < z + 10 := by
  unfold decimalDigit at h
  simp only at h
  split at h
  · next h48 => exact ⟨48, by decide, by omega⟩
  · split at h
    · next z hz =>
      have := List.find?_some hz
      exact ⟨z, List.mem_of_find?_eq_some hz, by simpa using this⟩
    · cases h

theorem digitZeros_ascii : ∀ z ∈ Gen.digitZeros, z = 48 ∨ 128 ≤ z := by decide +kernel

/-- below 128 the only decimal digits are `0`…`9`, so a decimal digit is none of the path syntax's
own characters -/
theorem decimalDigit_ne {c : Char} {d : Nat} (h : decimalDigit c = some d) (a : Char)
    (ha : a.toNat < 128 := by decide) (hd : a.isDigit = false := by decide) : c ≠ a := by
  rintro rfl
  obtain ⟨z, hz, hr⟩ := decimalDigit_some c d h
  have := digitZeros_ascii z hz
  have : c.isDigit = true := (isDigit_iff_toNat c).mpr (by omega)
  rw [this] at hd
  cases hd

theorem spaceChars_digitZeros_disjoint :
    ∀ n ∈ Gen.spaceChars, ∀ z ∈ Gen.digitZeros, n < z ∨ z + 10 ≤ n := by
  -- the Boolean form of the sweep over both tables is several times cheaper to evaluate
  have : (Gen.spaceChars.all fun n => Gen.digitZeros.all fun z => n < z || z + 10 ≤ n) = true := by
    decide +kernel
  simpa using this

theorem decimalDigit_not_space (c : Char) (d : Nat) (h : decimalDigit c = some d) :
    isSpaceChar c = false := by
  obtain ⟨z, hz, hr⟩ := decimalDigit_some c d h
  cases hs : isSpaceChar c with
  | false => rfl
  | true =>
    have hm : c.toNat ∈ Gen.spaceChars := by simpa [isSpaceChar] using hs
    have := spaceChars_digitZeros_disjoint _ hm z hz
    omega

theorem isSpaceChar_ne_slash (c : Char) (h : isSpaceChar c = true) : c ≠ '/' := by
  rintro rfl; revert h; decide

theorem isSpaceChar_ne_m (c : Char) (h : isSpaceChar c = true) : c ≠ 'm' := by
  rintro rfl; revert h; decide

theorem mapM_option_some {α β} (f : α → Option β) (l : List α) (r : List β)
    (h : l.mapM f = some r) : ∀ x ∈ l, ∃ y, f x = some y := by
  induction l generalizing r with
  | nil => simp
  | cons a t ih =>
    rw [List.mapM_cons] at h
    cases ha : f a with
    | none => simp [ha] at h
    | some y =>
      cases ht : t.mapM f with
      | none => simp [ha, ht] at h
      | some ys =>
        intro x hx
        rcases List.mem_cons.mp hx with rfl | hx
        · exact ⟨y, ha⟩
        · exact ih ys ht x hx

theorem parseDecimal_some (l : List Char) (v : Nat) (h : parseDecimal l = some v) :
    l ≠ [] ∧ ∀ c ∈ l, ∃ d, decimalDigit c = some d := by
  unfold parseDecimal at h
  split at h
  · cases h
  · next hne =>
    refine ⟨by rintro rfl; simp at hne, ?_⟩
    cases hm : l.mapM decimalDigit with
    | none => simp [hm] at h
    | some r => exact mapM_option_some _ _ _ hm

theorem foldl_digits_eq_ofDigitChars (l : List Char) (init : Nat) :
    (l.map (fun c => c.toNat - 48)).foldl (fun acc d => acc * 10 + d) init
      = Nat.ofDigitChars 10 l init := by
  induction l generalizing init with
  | nil => rfl
  | cons c l ih =>
    rw [Nat.ofDigitChars_cons, List.map_cons, List.foldl_cons, ih]
    congr 1
    simp [Nat.mul_comm]

theorem toNat_ofNat_valid (n : Nat) (h : n.isValidChar) : (Char.ofNat n).toNat = n := by
  rw [Char.ofNat, dif_pos h]; rfl

/-- no block of the table meets the surrogate range or leaves the code space -/
theorem digitZeros_valid :
    ∀ z ∈ Gen.digitZeros, z + 9 < 0xd800 ∨ 0xdfff < z ∧ z + 9 < 0x110000 := by decide +kernel

/-- the ASCII digit `c` written in the `k`-th `Nd` block of `Gen.digitZeros` (ASCII is block 0;
`k` out of range falls back to ASCII) -/
def digitInBlock (k : Nat) (c : Char) : Char :=
  Char.ofNat (Gen.digitZeros.getD k 48 + (c.toNat - 48))

/-- an ASCII numeral with the digit at position `i` moved to the `Nd` block number `blk i` -/
def respellDigits (blk : Nat → Nat) : List Char → List Char
  | [] => []
  | c :: cs => digitInBlock (blk 0) c :: respellDigits (fun i => blk (i + 1)) cs

theorem digitZeros_getD_mem (k : Nat) : Gen.digitZeros.getD k 48 ∈ Gen.digitZeros := by
  rw [List.getD_eq_getElem?_getD]
  cases h : Gen.digitZeros[k]? with
  | none => decide
  | some z => exact List.mem_of_getElem? h

theorem decimalDigit_digitInBlock (k : Nat) (c : Char) (h : c.isDigit = true) :
    decimalDigit (digitInBlock k c) = some (c.toNat - 48) := by
  have hc := (isDigit_iff_toNat c).mp h
  have hz := digitZeros_getD_mem k
  have hv := digitZeros_valid _ hz
  exact decimalDigit_of_block _ _ _ hz (toNat_ofNat_valid _ (by unfold Nat.isValidChar; omega))
    (by omega)

theorem digitInBlock_zero (c : Char) (h : c.isDigit = true) : digitInBlock 0 c = c := by
  have := (isDigit_iff_toNat c).mp h
  have h0 : Gen.digitZeros.getD 0 48 = 48 := rfl
  rw [digitInBlock, h0, show 48 + (c.toNat - 48) = c.toNat by omega, Char.ofNat_toNat]

theorem respellDigits_ascii (l : List Char) (h : ∀ c ∈ l, c.isDigit = true) :
    respellDigits (fun _ => 0) l = l := by
  induction l with
  | nil => rfl
  | cons c l ih =>
    rw [respellDigits, digitInBlock_zero c (h c (by simp)), ih (fun x hx => h x (by simp [hx]))]

theorem mapM_decimalDigit_respellDigits (blk : Nat → Nat) (l : List Char)
    (h : ∀ c ∈ l, c.isDigit = true) :
    (respellDigits blk l).mapM decimalDigit = some (l.map (fun c => c.toNat - 48)) := by
  induction l generalizing blk with
  | nil => rfl
  | cons c l ih =>
    rw [respellDigits, List.mapM_cons, decimalDigit_digitInBlock _ c (h c (by simp)),
      ih _ (fun x hx => h x (by simp [hx]))]
    rfl

theorem parseDecimal_respellDigits (blk : Nat → Nat) (l : List Char) (hne : l ≠ [])
    (h : ∀ c ∈ l, c.isDigit = true) :
    parseDecimal (respellDigits blk l) = some (Nat.ofDigitChars 10 l 0) := by
  unfold parseDecimal
  have : (respellDigits blk l).isEmpty = false := by
    cases l with
    | nil => exact absurd rfl hne
    | cons _ _ => rfl
  rw [this, mapM_decimalDigit_respellDigits blk l h]
  simp [foldl_digits_eq_ofDigitChars]

theorem parseDecimal_of_isDigit (l : List Char) (hne : l ≠ []) (h : ∀ c ∈ l, c.isDigit = true) :
    parseDecimal l = some (Nat.ofDigitChars 10 l 0) := by
  simpa only [respellDigits_ascii l h] using parseDecimal_respellDigits (fun _ => 0) l hne h

theorem natToDec_eq (n : Nat) : natToDec n = Nat.toDigits 10 n := by
  simp [natToDec]

theorem natToDec_ne_nil (n : Nat) : natToDec n ≠ [] := by
  rw [natToDec_eq]; exact Nat.toDigits_ne_nil

theorem natToDec_isDigit (n : Nat) : ∀ c ∈ natToDec n, c.isDigit = true := by
  intro c hc
  rw [natToDec_eq] at hc
  exact Nat.isDigit_of_mem_toDigits (by decide) (by decide) hc

theorem parseDecimal_respell_zeros_natToDec (blk : Nat → Nat) (k n : Nat) :
    parseDecimal (respellDigits blk (List.replicate k '0' ++ natToDec n)) = some n := by
  rw [parseDecimal_respellDigits]
  · rw [Nat.ofDigitChars_append, Nat.ofDigitChars_replicate_zero, natToDec_eq]
    simp
  · simp [natToDec_ne_nil]
  · intro c hc
    rcases List.mem_append.mp hc with h | h
    · rw [(List.mem_replicate.mp h).2]; rfl
    · exact natToDec_isDigit n c h

theorem parseDecimal_natToDec (n : Nat) : parseDecimal (natToDec n) = some n := by
  simpa [respellDigits_ascii _ (natToDec_isDigit n)]
    using parseDecimal_respell_zeros_natToDec (fun _ => 0) 0 n

/-- the printed numeral: non-empty, ASCII digits only (so no '/' and no blank), value `n` -/
theorem natToDec_spec (n : Nat) :
    natToDec n ≠ []
    ∧ (∀ c ∈ natToDec n, c.isDigit = true ∧ c ≠ '/' ∧ isSpaceChar c = false)
    ∧ parseDecimal (natToDec n) = some n :=
  ⟨natToDec_ne_nil n,
   fun c hc =>
    have h := natToDec_isDigit n c hc
    have hd := decimalDigit_of_isDigit c h
    ⟨h, decimalDigit_ne hd '/', decimalDigit_not_space c _ hd⟩,
   parseDecimal_natToDec n⟩

/-- the three hardened markers accepted by the parser -/
inductive Marker | apos | h | p
  deriving DecidableEq, Repr

def Marker.char : Marker → Char
  | .apos => '\''
  | .h => 'h'
  | .p => 'p'

theorem Marker.char_not_space (m : Marker) : isSpaceChar m.char = false := by
  cases m <;> decide

theorem Marker.char_is_marker (m : Marker) :
    (m.char = '\'' || m.char = 'h' || m.char = 'p') = true := by
  cases m <;> decide

theorem Marker.char_ne_slash (m : Marker) : m.char ≠ '/' := by
  cases m <;> decide

theorem parsePathElem_of_strip (t body : List Char) (h : stripSpaces t = body) :
    parsePathElem t =
      let hard := match body.getLast? with
        | some c => c = '\'' || c = 'h' || c = 'p'
        | none => false
      match parseDecimal (if hard then body.dropLast else body) with
      | some v => .ok (if hard then harden v else v)
      | none => .error .path := by
  unfold parsePathElem
  simp only [h]
  rfl

theorem stripSpaces_numeral (pre body post : List Char) (ms : List Marker) (v : Nat)
    (hpre : ∀ c ∈ pre, isSpaceChar c = true) (hpost : ∀ c ∈ post, isSpaceChar c = true)
    (hv : parseDecimal body = some v) :
    stripSpaces (pre ++ (body ++ ms.map Marker.char) ++ post) = body ++ ms.map Marker.char := by
  have hns : ∀ c ∈ body ++ ms.map Marker.char, isSpaceChar c = false := by
    intro c hc
    rcases List.mem_append.mp hc with hc | hc
    · obtain ⟨d, hd⟩ := (parseDecimal_some body v hv).2 c hc
      exact decimalDigit_not_space c d hd
    · obtain ⟨m, _, rfl⟩ := List.mem_map.mp hc
      exact m.char_not_space
  exact stripSpaces_pad _ _ _ hpre hpost (fun c hc => hns c (List.mem_of_mem_head? hc))
    (fun c hc => hns c (List.mem_of_getLast? hc))

theorem parsePathElem_plain (pre body post : List Char) (v : Nat)
    (hpre : ∀ c ∈ pre, isSpaceChar c = true) (hpost : ∀ c ∈ post, isSpaceChar c = true)
    (hv : parseDecimal body = some v) : parsePathElem (pre ++ body ++ post) = .ok v := by
  have hstrip : stripSpaces (pre ++ body ++ post) = body := by
    simpa using stripSpaces_numeral pre body post [] v hpre hpost hv
  rw [parsePathElem_of_strip _ _ hstrip]
  -- the last character is a digit, so not a marker
  obtain ⟨hne, hd⟩ := parseDecimal_some body v hv
  obtain ⟨c, hc⟩ : ∃ c, body.getLast? = some c := by
    cases hl : body.getLast? with
    | none => exact absurd (List.getLast?_eq_none_iff.mp hl) hne
    | some c => exact ⟨c, rfl⟩
  obtain ⟨d, hcd⟩ := hd c (List.mem_of_getLast? hc)
  have hnm : (c = '\'' || c = 'h' || c = 'p') = false := by
    simp [decimalDigit_ne hcd '\'', decimalDigit_ne hcd 'h', decimalDigit_ne hcd 'p']
  simp [hc, hnm, hv]

theorem parsePathElem_marked (pre body post : List Char) (m : Marker) (v : Nat)
    (hpre : ∀ c ∈ pre, isSpaceChar c = true) (hpost : ∀ c ∈ post, isSpaceChar c = true)
    (hv : parseDecimal body = some v) :
    parsePathElem (pre ++ (body ++ [m.char]) ++ post) = .ok (harden v) := by
  have hstrip : stripSpaces (pre ++ (body ++ [m.char]) ++ post) = body ++ [m.char] :=
    stripSpaces_numeral pre body post [m] v hpre hpost hv
  rw [parsePathElem_of_strip _ _ hstrip]
  simp [m.char_is_marker, hv]

theorem isHardened_iff (e : Nat) : isHardened e = true ↔ (e / 2 ^ 31) % 2 = 1 :=
  decide_eq_true_iff.trans (le_mod_two_mul_iff (2 ^ 31) e (Nat.two_pow_pos 31))

theorem harden_of_isHardened (e : Nat) (h : isHardened e = true) : harden e = e :=
  if_pos ((isHardened_iff e).mp h)

theorem harden_unharden (e : Nat) (h : isHardened e = true) : harden (unharden e) = e := by
  have h1 := (isHardened_iff e).mp h
  have hge : 2 ^ 31 ≤ e := Nat.le_of_not_lt fun hlt => by rw [Nat.div_eq_of_lt hlt] at h1; cases h1
  -- write `e = x + 2^31`: bit 31 of `x` is clear, so `harden` adds `2^31` back
  obtain ⟨x, rfl⟩ : ∃ x, e = x + 2 ^ 31 := ⟨e - 2 ^ 31, (Nat.sub_add_cancel hge).symm⟩
  have hx : ¬ (x / 2 ^ 31) % 2 = 1 := by
    rw [Nat.add_div_right x (Nat.two_pow_pos 31)] at h1
    generalize x / 2 ^ 31 = q at h1 ⊢
    omega
  rw [unharden, if_pos h1, Nat.add_sub_cancel, harden, if_neg hx]

theorem lt_of_not_isHardened (e : Nat) (h : isHardened e = false) (hr : e < 2 ^ 32) : e < 2 ^ 31 := by
  rw [isHardened, decide_eq_false_iff_not, Nat.mod_eq_of_lt hr] at h
  exact Nat.lt_of_not_le h

/-- how one index is written: `gap` extra '/' in front of it (besides the mandatory separator),
blanks `pre`/`post` around it, `zeros` leading ASCII zeros, the `i`-th digit of the numeral taken
from the `Nd` block number `blocks i` of `Gen.digitZeros` (0 = ASCII), and either no marker (the
numeral is the full index) or one of the three markers (the numeral is the index minus `2^31`, or,
with `full`, the full index again, which the parser also accepts). -/
structure ElemSpelling where
  gap : Nat := 0
  pre : List Char := []
  zeros : Nat := 0
  blocks : Nat → Nat := fun _ => 0
  marker : Option Marker := none
  full : Bool := false
  post : List Char := []

def ElemSpelling.numeralOf (σ : ElemSpelling) (e : Nat) : Nat :=
  match σ.marker with
  | some _ => if σ.full then e else unharden e
  | none => e

def ElemSpelling.markerChars (σ : ElemSpelling) : List Char :=
  match σ.marker with
  | some m => [m.char]
  | none => []

def ElemSpelling.numeral (σ : ElemSpelling) (e : Nat) : List Char :=
  respellDigits σ.blocks (List.replicate σ.zeros '0' ++ natToDec (σ.numeralOf e))

def spellElem (σ : ElemSpelling) (e : Nat) : List Char :=
  σ.pre ++ (σ.numeral e ++ σ.markerChars) ++ σ.post

/-- admissible spelling of the index `e`: the padding consists of blanks (`str.isspace()`), and a
marker is used only for a hardened index -/
structure ElemSpelling.Ok (σ : ElemSpelling) (e : Nat) : Prop where
  pre_blank : ∀ c ∈ σ.pre, isSpaceChar c = true
  post_blank : ∀ c ∈ σ.post, isSpaceChar c = true
  marker_hardened : σ.marker.isSome = true → isHardened e = true

theorem parseDecimal_numeral (σ : ElemSpelling) (e : Nat) :
    parseDecimal (σ.numeral e) = some (σ.numeralOf e) :=
  parseDecimal_respell_zeros_natToDec _ _ _

theorem parsePathElem_spellElem (σ : ElemSpelling) (e : Nat) (h : σ.Ok e) :
    parsePathElem (spellElem σ e) = .ok e := by
  have hnum := parseDecimal_numeral σ e
  unfold spellElem
  unfold ElemSpelling.markerChars
  unfold ElemSpelling.numeralOf at hnum
  cases hm : σ.marker with
  | none =>
    simp only [List.append_nil]
    rw [hm] at hnum
    exact parsePathElem_plain _ _ _ e h.pre_blank h.post_blank hnum
  | some m =>
    have hh := h.marker_hardened (by simp [hm])
    rw [hm] at hnum
    simp only at hnum ⊢
    rw [parsePathElem_marked _ _ _ m _ h.pre_blank h.post_blank hnum]
    split
    · rw [harden_of_isHardened e hh]
    · rw [harden_unharden e hh]

theorem slash_not_mem_spellElem (σ : ElemSpelling) (e : Nat) (h : σ.Ok e) : '/' ∉ spellElem σ e := by
  obtain ⟨_, hd⟩ := parseDecimal_some _ _ (parseDecimal_numeral σ e)
  unfold spellElem ElemSpelling.markerChars
  simp only [List.mem_append, not_or]
  refine ⟨⟨fun hc => isSpaceChar_ne_slash _ (h.pre_blank _ hc) rfl, ?_, ?_⟩,
    fun hc => isSpaceChar_ne_slash _ (h.post_blank _ hc) rfl⟩
  · intro hc
    obtain ⟨d, hd⟩ := hd _ hc
    exact (decimalDigit_ne hd '/') rfl
  · cases σ.marker with
    | none => simp
    | some m => simpa using fun e => m.char_ne_slash e.symm

theorem spellElem_has_digit (σ : ElemSpelling) (e : Nat) :
    ∃ c ∈ spellElem σ e, ∃ d, decimalDigit c = some d := by
  obtain ⟨hne, hd⟩ := parseDecimal_some _ _ (parseDecimal_numeral σ e)
  cases hl : σ.numeral e with
  | nil => exact absurd hl hne
  | cons c l =>
    exact ⟨c, by simp [spellElem, hl], hd c (by simp [hl])⟩

theorem spellElem_ne_nil (σ : ElemSpelling) (e : Nat) : spellElem σ e ≠ [] := by
  obtain ⟨c, hc, _⟩ := spellElem_has_digit σ e
  exact List.ne_nil_of_mem hc

theorem spellElem_ne_m (σ : ElemSpelling) (e : Nat) : spellElem σ e ≠ ['m'] := by
  obtain ⟨c, hc, d, hd⟩ := spellElem_has_digit σ e
  intro heq
  rw [heq] at hc
  exact (decimalDigit_ne hd 'm') (by simpa using hc)

inductive ElemsOk : List ElemSpelling → List Nat → Prop
  | nil : ElemsOk [] []
  | cons {σ e σs es} : σ.Ok e → ElemsOk σs es → ElemsOk (σ :: σs) (e :: es)

theorem elemsOk_of_forall (σs : List ElemSpelling) (es : List Nat) (hl : σs.length = es.length)
    (h : ∀ x ∈ σs.zip es, x.1.Ok x.2) : ElemsOk σs es := by
  induction σs generalizing es with
  | nil =>
    cases es with
    | nil => exact .nil
    | cons _ _ => simp at hl
  | cons σ σs ih =>
    cases es with
    | nil => simp at hl
    | cons e es =>
      exact .cons (h (σ, e) (by simp)) (ih es (by simpa using hl) (fun x hx => h x (by simp [hx])))

/-- a spelling of a whole path: `lead` extra '/' before the leading "m" (absolute paths only; for a
relative path the leading '/' are the `gap` of the first element), one spelling per element, and
`trail` trailing empty pieces (i.e. `trail` trailing '/'). -/
structure Spelling where
  lead : Nat := 0
  elems : List ElemSpelling
  trail : Nat := 0

/-- the '/'-separated pieces of the respelt path (empty pieces make the extra '/') -/
def spellPieces (σ : Spelling) (p : Path) : List (List Char) :=
  (if p.absolute then List.replicate σ.lead [] ++ [['m']] else [])
    ++ (List.zipWith (fun s e => List.replicate s.gap [] ++ [spellElem s e]) σ.elems p.elems).flatten
    ++ List.replicate σ.trail []

def respell (σ : Spelling) (p : Path) : List Char :=
  ((spellPieces σ p).intersperse ['/']).flatten

def Spelling.Ok (σ : Spelling) (p : Path) : Prop := ElemsOk σ.elems p.elems

theorem filter_nonempty_replicate_nil (k : Nat) :
    (List.replicate k ([] : List Char)).filter (fun e => !e.isEmpty) = [] := by
  simp

theorem slash_not_mem_replicate_nil (k : Nat) : ∀ t ∈ List.replicate k ([] : List Char), '/' ∉ t := by
  intro t ht
  rw [(List.mem_replicate.mp ht).2]
  simp

theorem elemPieces_props (σs : List ElemSpelling) (es : List Nat) (h : ElemsOk σs es) :
    (∀ t ∈ (List.zipWith (fun s e => List.replicate s.gap [] ++ [spellElem s e]) σs es).flatten,
        '/' ∉ t)
    ∧ ((List.zipWith (fun s e => List.replicate s.gap [] ++ [spellElem s e]) σs es).flatten.filter
        (fun e => !e.isEmpty) = List.zipWith spellElem σs es)
    ∧ (List.zipWith spellElem σs es).mapM parsePathElem = .ok es := by
  induction h with
  | nil => exact ⟨by simp, by simp, rfl⟩
  | @cons σ e σs es hσ _ ih =>
    obtain ⟨ih1, ih2, ih3⟩ := ih
    refine ⟨?_, ?_, ?_⟩
    · intro t ht
      simp only [List.zipWith_cons_cons, List.flatten_cons, List.mem_append, List.mem_singleton] at ht
      rcases ht with (ht | ht) | ht
      · exact slash_not_mem_replicate_nil _ t ht
      · rw [ht]; exact slash_not_mem_spellElem σ e hσ
      · exact ih1 t ht
    · simp only [List.zipWith_cons_cons, List.flatten_cons, List.filter_append,
        filter_nonempty_replicate_nil, List.nil_append, ih2]
      have : (spellElem σ e).isEmpty = false := by
        cases hs : spellElem σ e with
        | nil => exact absurd hs (spellElem_ne_nil σ e)
        | cons _ _ => rfl
      simp [this]
    · simp only [List.zipWith_cons_cons, List.mapM_cons, parsePathElem_spellElem σ e hσ, ih3]
      rfl

theorem pathTokens_respell (σ : Spelling) (p : Path) (h : σ.Ok p) :
    pathTokens (respell σ p)
      = (if p.absolute then [['m']] else []) ++ List.zipWith spellElem σ.elems p.elems := by
  obtain ⟨h1, h2, _⟩ := elemPieces_props σ.elems p.elems h
  unfold respell
  rw [pathTokens_join]
  · unfold spellPieces
    rw [List.filter_append, List.filter_append, h2, filter_nonempty_replicate_nil, List.append_nil]
    congr 1
    split
    · rw [List.filter_append, filter_nonempty_replicate_nil]; rfl
    · rfl
  · intro t ht
    unfold spellPieces at ht
    simp only [List.mem_append] at ht
    rcases ht with (ht | ht) | ht
    · split at ht
      · rcases List.mem_append.mp ht with ht | ht
        · exact slash_not_mem_replicate_nil _ t ht
        · rw [List.mem_singleton.mp ht]; decide
      · simp at ht
    · exact h1 t ht
    · exact slash_not_mem_replicate_nil _ t ht

theorem parsePath_respell_eq (σ : Spelling) (p : Path) (h : σ.Ok p) :
    parsePath (respell σ p) = parseTokens (List.zipWith spellElem σ.elems p.elems) p.absolute := by
  have htok := pathTokens_respell σ p h
  obtain ⟨es, abs⟩ := p
  cases abs with
  | true => rw [parsePath_of_tokens_abs _ _ (by simpa using htok)]
  | false =>
    simp only [Bool.false_eq_true, if_false, List.nil_append] at htok
    rw [parsePath_of_tokens_rel, htok]
    rw [htok]
    have h' : ElemsOk σ.elems es := h
    generalize σ.elems = σs at h'
    cases h' with
    | nil => simp
    | cons hσ _ =>
      simp only [List.zipWith_cons_cons, List.head?_cons, ne_eq, Option.some.injEq]
      exact spellElem_ne_m _ _

theorem parsePath_respell (σ : Spelling) (p : Path) (h : σ.Ok p) (hr : ∀ e ∈ p.elems, e < 2 ^ 32) :
    parsePath (respell σ p) = .ok p := by
  rw [parsePath_respell_eq σ p h]
  exact parseTokens_ok _ _ _ (elemPieces_props σ.elems p.elems h).2.2 hr

/-- the spelling used by `printPath`: no padding, `'` for hardened indices -/
def canonElem (e : Nat) : ElemSpelling := { marker := if isHardened e then some .apos else none }

def canonSpelling (p : Path) : Spelling := { elems := p.elems.map canonElem }

theorem canonElem_ok (e : Nat) : (canonElem e).Ok e := by
  refine ⟨by simp [canonElem], by simp [canonElem], ?_⟩
  unfold canonElem
  split <;> simp_all

theorem spellElem_canonElem (e : Nat) :
    spellElem (canonElem e) e
      = if isHardened e then natToDec (unharden e) ++ ['\''] else natToDec e := by
  have hasc : ∀ n, respellDigits (fun _ => 0) (natToDec n) = natToDec n :=
    fun n => respellDigits_ascii _ (natToDec_isDigit n)
  unfold spellElem ElemSpelling.numeral ElemSpelling.numeralOf ElemSpelling.markerChars canonElem
  split <;> simp_all [Marker.char]

theorem canonSpelling_ok (p : Path) : (canonSpelling p).Ok p := by
  unfold Spelling.Ok canonSpelling
  simp only
  induction p.elems with
  | nil => exact .nil
  | cons e es ih => exact .cons (canonElem_ok e) ih

theorem canon_pieces (es : List Nat) :
    (List.zipWith (fun s e => List.replicate s.gap [] ++ [spellElem s e]) (es.map canonElem) es).flatten
      = es.map (fun e => if isHardened e then natToDec (unharden e) ++ ['\''] else natToDec e) := by
  induction es with
  | nil => rfl
  | cons e es ih =>
    simp only [List.map_cons, List.zipWith_cons_cons, List.flatten_cons, ih, spellElem_canonElem]
    rfl

theorem printPath_eq_respell (p : Path) : printPath p = respell (canonSpelling p) p := by
  unfold printPath respell spellPieces
  simp only [canonSpelling, canon_pieces, List.replicate_zero, List.nil_append, List.append_nil]

theorem parsePath_respell_out_of_range (σ : Spelling) (p : Path) (h : σ.Ok p)
    (e : Nat) (he : e ∈ p.elems) (hr : 2 ^ 32 ≤ e) : parsePath (respell σ p) = .error .path := by
  rw [parsePath_respell_eq σ p h]
  exact parseTokens_out_of_range _ _ _ (elemPieces_props σ.elems p.elems h).2.2 e he hr

/-- an element whose stripped text has a non-decimal character before its last character is
rejected (doubled markers, inner blanks, letters, signs, ...) -/
theorem parsePathElem_reject (t : List Char) (c : Char) (hc : c ∈ (stripSpaces t).dropLast)
    (hd : decimalDigit c = none) : parsePathElem t = .error .path := by
  rw [parsePathElem_of_strip t _ rfl]
  simp only
  have hnone : ∀ l : List Char, c ∈ l → parseDecimal l = none := by
    intro l hl
    cases hp : parseDecimal l with
    | none => rfl
    | some v =>
      obtain ⟨d, hd'⟩ := (parseDecimal_some l v hp).2 c hl
      rw [hd] at hd'; cases hd'
  have hmem : ∀ b : Bool, c ∈ (if b = true then (stripSpaces t).dropLast else stripSpaces t) := by
    intro b
    cases b
    · exact (List.dropLast_sublist _).subset hc
    · exact hc
  rw [hnone _ (hmem _)]

theorem Marker.char_not_decimal (m : Marker) : decimalDigit m.char = none := by
  cases m <;> decide +kernel

theorem parsePathElem_double_marker (pre body post : List Char) (m₁ m₂ : Marker) (v : Nat)
    (hpre : ∀ c ∈ pre, isSpaceChar c = true) (hpost : ∀ c ∈ post, isSpaceChar c = true)
    (hv : parseDecimal body = some v) :
    parsePathElem (pre ++ (body ++ [m₁.char, m₂.char]) ++ post) = .error .path := by
  have hstrip : stripSpaces (pre ++ (body ++ [m₁.char, m₂.char]) ++ post)
      = (body ++ [m₁.char]) ++ [m₂.char] := by
    simpa using stripSpaces_numeral pre body post [m₁, m₂] v hpre hpost hv
  apply parsePathElem_reject _ m₁.char _ m₁.char_not_decimal
  rw [hstrip, List.dropLast_concat]
  simp

theorem parsePath_bad_token (s t : List Char) (e : Err) (ht : t ∈ pathTokens s) (hm : t ≠ ['m'])
    (hbad : parsePathElem t = .error e) : parsePath s = .error .path := by
  rw [parsePath_eq]
  split
  · next rest heq =>
    rw [heq] at ht
    rcases List.mem_cons.mp ht with h | h
    · exact absurd h hm
    · exact parseTokens_bad_token _ _ t e h hbad
  · exact parseTokens_bad_token _ _ t e ht hbad

end BipVerif.Model
