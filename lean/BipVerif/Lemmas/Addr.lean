/-
Address layer: the shared combinators (`ckToValue`, `validateLength`, `removePrefix`,
`splitCkEnd`, hex text), their error kinds for the C14 clause "address decoders only ever raise
`ValueError`" (simp set `ov`), the key-layer facts the address proofs rely on, and the lemmas that
read a successful decoder `do` block backwards, one per combinator.

Of hashes and curve arithmetic only output lengths are used here.  The key layer enters
through `addrKey c pub = .ok k` (the canonical key of accepted key bytes).  For the ed25519 family
"the canonical key re-validates" is proved here (the canonical form is `0x00 ‖ 32 bytes` and the
32-byte form is accepted unchanged); for the two ECDSA curves the lemmas of this layer take it as
the hypothesis `KeyCanon c` (decompress ∘ compress = id is curve arithmetic), which
`Lemmas/KeyCanon.lean` proves (`keyCanon_secp256k1`, `keyCanon_nist256p1`) and `Props/C09Group.lean`
discharges.
-/
import BipVerif.Model.Addr
import BipVerif.Lemmas.Except
import BipVerif.Lemmas.IntBytes
import BipVerif.Lemmas.Chunks
import BipVerif.Lemmas.Base58Check
import BipVerif.Lemmas.SS58
import BipVerif.Lemmas.Ecc

namespace BipVerif.Model
open BipVerif BipVerif.Prim

namespace OnlyValue
universe u
variable {α β : Type u}

/-- `except XChecksumError: raise ValueError` closes the `{value, checksum}` family to `value`. -/
theorem ckToValue {r : R α} (h : ∀ e, r = .error e → e = .value ∨ e = .checksum) :
    OnlyValue (ckToValue r) := by
  constructor
  intro e he
  unfold Model.ckToValue at he
  split at he
  · cases he; rfl
  · rename_i r' hne
    rcases h e he with h | h
    · exact h
    · subst h; exact absurd he (by intro h'; exact hne h')

@[ov] theorem ckToValue' {r : R α} (h : OnlyValue r) : OnlyValue (Model.ckToValue r) :=
  ckToValue (fun e he => Or.inl (h.h e he))

end OnlyValue

theorem ckToValue_ok {α} (a : α) : ckToValue (Except.ok a : R α) = .ok a := rfl

theorem ckToValue_ok_inv {α} {r : R α} {a : α} (h : ckToValue r = .ok a) : r = .ok a := by
  unfold ckToValue at h
  split at h
  · cases h
  · exact h

theorem ckToValue_checksum {α} : ckToValue (Except.error .checksum : R α) = .error .value := rfl

theorem ckToValue_ne_checksum {α} (r : R α) : ckToValue r ≠ .error .checksum := by
  unfold ckToValue
  split
  · intro h; cases h
  · rename_i hne; exact hne

theorem validateLength_ok {α} (a : List α) (n : Nat) (h : a.length = n) :
    validateLength a n = .ok () := by
  unfold validateLength; rw [if_neg (by simpa using h)]; rfl

theorem validateLength_ok_iff {α} (a : List α) (n : Nat) :
    validateLength a n = .ok () ↔ a.length = n := by
  constructor
  · intro h
    unfold validateLength at h
    by_cases hl : a.length = n
    · exact hl
    · rw [if_pos hl] at h; cases h
  · exact validateLength_ok a n

theorem validateLength_error {α} (a : List α) (n : Nat) (h : a.length ≠ n) :
    validateLength a n = .error .value := by
  unfold validateLength; rw [if_pos h]; rfl

@[ov] theorem OnlyValue.validateLength {α} (a : List α) (n : Nat) : OnlyValue (validateLength a n) := by
  unfold Model.validateLength; simp only [ov]

theorem removePrefix_append {α} [DecidableEq α] (pfx x : List α) :
    removePrefix (pfx ++ x) pfx = .ok x := by
  unfold removePrefix
  rw [if_neg (by simp)]
  simp [pure, Except.pure]

theorem removePrefix_ok_inv {α} [DecidableEq α] {a pfx x : List α}
    (h : removePrefix a pfx = .ok x) : a = pfx ++ x := by
  unfold removePrefix at h
  by_cases hp : a.take pfx.length = pfx
  · rw [if_neg (by simpa using hp)] at h
    have : x = a.drop pfx.length := by cases h; rfl
    rw [this]
    conv_lhs => rw [← List.take_append_drop pfx.length a, hp]
  · rw [if_pos hp] at h; cases h

theorem removePrefix_nil {α} [DecidableEq α] (a : List α) : removePrefix a [] = .ok a := by
  simpa using removePrefix_append ([] : List α) a

@[ov] theorem OnlyValue.removePrefix {α} [DecidableEq α] (a pfx : List α) :
    OnlyValue (removePrefix a pfx) := by
  unfold Model.removePrefix; simp only [ov]

theorem splitCkEnd_append {α} (a b : List α) (n : Nat) (h : b.length = n) :
    splitCkEnd (a ++ b) n = (a, b) := by
  unfold splitCkEnd
  rw [dropLast_append_of_length a b n h, takeLast_append_of_length a b n h]

theorem splitCkEnd_fst {α} (a : List α) (n : Nat) : (splitCkEnd a n).1 = dropLast a n := rfl
theorem splitCkEnd_snd {α} (a : List α) (n : Nat) : (splitCkEnd a n).2 = takeLast a n := rfl

theorem dropLast_length {α} (l : List α) (k : Nat) : (dropLast l k).length = l.length - k := by
  unfold dropLast; rw [List.length_take]; omega

theorem takeLast_length {α} (l : List α) (k : Nat) : (takeLast l k).length = min k l.length := by
  unfold takeLast; rw [List.length_drop]; omega

theorem takeLast_length_of_le {α} (l : List α) (k : Nat) (h : k ≤ l.length) :
    (takeLast l k).length = k := by
  rw [takeLast_length]; omega

theorem ne_nil_of_length_pos {α} {l : List α} {n : Nat} (h : l.length = n) (hn : 0 < n) : l ≠ [] := by
  intro e; rw [e] at h; simp at h; omega

theorem bytesOfHex_hexOfBytes (b : Bytes) : bytesOfHex (hexOfBytes b) = .ok b := by
  unfold bytesOfHex hexOfBytes
  have := ofHex_toHex b
  unfold Bytes.ofHex at this
  rw [this]; rfl

theorem hexOfBytes_length (b : Bytes) : (hexOfBytes b).length = 2 * b.length := toHex_length b

@[ov] theorem OnlyValue.bytesOfHex (s : List Char) : OnlyValue (bytesOfHex s) := by
  unfold Model.bytesOfHex
  cases Bytes.ofHexChars s with
  | none => exact .throw
  | some b => exact .pure _

theorem hexOfBytes_eq (b : Bytes) : hexOfBytes b =
    b.flatMap fun x => [Bytes.hexDigit (x.toNat / 16), Bytes.hexDigit (x.toNat % 16)] := by
  unfold hexOfBytes Bytes.toHex; rw [String.toList_ofList]

theorem hexOfBytes_append (a b : Bytes) : hexOfBytes (a ++ b) = hexOfBytes a ++ hexOfBytes b := by
  simp [hexOfBytes_eq]

theorem hexOfBytes_drop (b : Bytes) (n : Nat) : (hexOfBytes b).drop (2 * n) = hexOfBytes (b.drop n) := by
  induction b generalizing n with
  | nil => simp [hexOfBytes_eq]
  | cons a t ih =>
    cases n with
    | zero => simp
    | succ n =>
      have : hexOfBytes (a :: t) = [Bytes.hexDigit (a.toNat / 16), Bytes.hexDigit (a.toNat % 16)]
          ++ hexOfBytes t := by simp [hexOfBytes_eq]
      rw [this, show 2 * (n + 1) = 2 + 2 * n by omega]
      simp only [List.drop_succ_cons, List.cons_append, List.nil_append]
      rw [show (2 : Nat) + 2 * n = (2 * n + 1) + 1 by omega]
      simp only [List.drop_succ_cons]
      exact ih n

theorem ofHexChars_cons_cons {x y : Char} {rest : List Char} {b : Bytes}
    (h : Bytes.ofHexChars (x :: y :: rest) = some b) :
    ∃ vx vy r, Bytes.hexVal x = some vx ∧ Bytes.hexVal y = some vy ∧
      Bytes.ofHexChars rest = some r ∧ b = UInt8.ofNat (vx * 16 + vy) :: r := by
  unfold Bytes.ofHexChars at h
  simp only [Option.bind_eq_bind, Option.bind_eq_some_iff, Option.pure_def, Option.some.injEq] at h
  obtain ⟨vx, hx, vy, hy, r, hr, rfl⟩ := h
  exact ⟨vx, vy, r, hx, hy, hr, rfl⟩

theorem ofHexChars_length : ∀ (s : List Char) (b : Bytes), Bytes.ofHexChars s = some b →
    s.length = 2 * b.length
  | [], b, h => by
    have : b = [] := by simpa [Bytes.ofHexChars] using h.symm
    subst this; rfl
  | [_], b, h => by simp [Bytes.ofHexChars] at h
  | x :: y :: rest, b, h => by
    obtain ⟨_, _, r, _, _, hr, rfl⟩ := ofHexChars_cons_cons h
    have := ofHexChars_length rest r hr
    simp only [List.length_cons]; omega

theorem bytesOfHex_ok_iff {a : List Char} {b : Bytes} :
    bytesOfHex a = .ok b ↔ Bytes.ofHexChars a = some b := by
  unfold bytesOfHex
  cases Bytes.ofHexChars a with
  | none => exact ⟨nofun, nofun⟩
  | some r => exact ⟨fun h => congrArg some (pure_ok_inv h), fun h => congrArg Except.ok (Option.some.inj h)⟩

theorem bytesOfHex_length {s : List Char} {b : Bytes} (h : bytesOfHex s = .ok b) :
    s.length = 2 * b.length :=
  ofHexChars_length s b (bytesOfHex_ok_iff.mp h)

theorem addrKey_ok_iff (c : CurveT) (pub k : Bytes) :
    addrKey c pub = .ok k ↔ pubFromBytes c pub = some k := by
  unfold addrKey
  cases pubFromBytes c pub with
  | none => constructor <;> intro h <;> cases h
  | some k' =>
    constructor
    · intro h; cases h; rfl
    · intro h; cases h; rfl

@[ov] theorem OnlyValue.addrKey (c : CurveT) (pub : Bytes) : OnlyValue (addrKey c pub) := by
  unfold Model.addrKey
  cases pubFromBytes c pub with
  | none => exact .throw
  | some b => exact .pure _

@[ov] theorem OnlyValue.uncompressedOf (c : CurveT) (k : Bytes) : OnlyValue (uncompressedOf c k) := by
  unfold Model.uncompressedOf
  cases pubUncompressed c k with
  | none => exact .throw
  | some b => exact .pure _

@[ov] theorem OnlyValue.validatePubKey (c : CurveT) (k : Bytes) : OnlyValue (validatePubKey c k) := by
  unfold Model.validatePubKey; simp only [ov]

theorem validatePubKey_ok (c : CurveT) (k : Bytes) (h : pubValid c k = true) :
    validatePubKey c k = .ok () := by
  unfold validatePubKey; rw [if_pos h]; rfl

theorem validatePubKey_ok_iff (c : CurveT) (k : Bytes) :
    validatePubKey c k = .ok () ↔ pubValid c k = true := by
  constructor
  · intro h
    unfold validatePubKey at h
    by_cases hv : pubValid c k = true
    · exact hv
    · rw [if_neg hv] at h; cases h
  · exact validatePubKey_ok c k

theorem pubValid_of_some {c : CurveT} {b k : Bytes} (h : pubFromBytes c b = some k) :
    pubValid c b = true := by
  unfold pubValid; rw [h]; rfl

/-- "Canonical keys re-validate": the canonical compressed encoding returned by
`PublicKey.FromBytes` is itself accepted and is its own canonical form.  This is
`decode ∘ compress = id` on curve points, i.e. curve arithmetic (a modular square root).  The lemmas
of the address layer take it as a hypothesis wherever a decoder re-validates a secp256k1 /
nist256p1 key (EOS, Ergo); `Lemmas/KeyCanon.lean` proves it for both curves. -/
def KeyCanon (c : CurveT) : Prop :=
  ∀ pub k, pubFromBytes c pub = some k → pubFromBytes c k = some k

theorem coordLen_secp : (CurveT.secp256k1).wcurve.coordLen = 32 := by decide
theorem coordLen_nist : (CurveT.nist256p1).wcurve.coordLen = 32 := by decide

theorem addrKey_secp_length {pub k : Bytes} (h : addrKey .secp256k1 pub = .ok k) : k.length = 33 := by
  rw [addrKey_ok_iff] at h
  unfold pubFromBytes at h
  simp only at h
  cases hd : wDecodePub .secp256k1 pub with
  | none => rw [hd] at h; cases h
  | some p =>
    rw [hd] at h
    have := EccLemmas.compress_length _ p k h
    rw [coordLen_secp] at this; exact this

theorem addrKey_nist_length {pub k : Bytes} (h : addrKey .nist256p1 pub = .ok k) : k.length = 33 := by
  rw [addrKey_ok_iff] at h
  unfold pubFromBytes at h
  simp only at h
  cases hd : wDecodePub .nist256p1 pub with
  | none => rw [hd] at h; cases h
  | some p =>
    rw [hd] at h
    have := EccLemmas.compress_length _ p k h
    rw [coordLen_nist] at this; exact this

theorem uncompressedOf_secp_length {k u : Bytes} (h : uncompressedOf .secp256k1 k = .ok u) :
    u.length = 65 := by
  unfold uncompressedOf at h
  cases hp : pubUncompressed .secp256k1 k with
  | none => rw [hp] at h; cases h
  | some u' =>
    rw [hp] at h
    have : u' = u := by cases h; rfl
    subst this
    unfold pubUncompressed at hp
    simp only at hp
    cases hd : (CurveT.secp256k1).wcurve.decode k with
    | none => rw [hd] at hp; cases hp
    | some p =>
      rw [hd] at hp
      have := EccLemmas.uncompressed_length _ p u' hp
      rw [coordLen_secp] at this; exact this

/-- the ed25519 flavours with the library's `0x00` prefix -/
def CurveT.isEdPrefixed : CurveT → Bool
  | .ed25519 | .ed25519Blake2b | .ed25519Kholaw => true
  | _ => false

theorem isEd_of_isEdPrefixed {c : CurveT} (hc : c.isEdPrefixed = true) :
    EccLemmas.IsEd c ∧ c ≠ .ed25519Monero := by
  cases c <;> simp [CurveT.isEdPrefixed, EccLemmas.IsEd] at hc ⊢

/-- The ed25519 counterpart of `KeyCanon`, without hypothesis: the canonical key is `0x00 ‖ k32`
and the bare 32-byte form `k.drop 1` is accepted with the same canonical key. -/
theorem addrKey_ed_inv {c : CurveT} (hc : c.isEdPrefixed = true) {pub k : Bytes}
    (h : addrKey c pub = .ok k) :
    k.length = 33 ∧ (k.drop 1).length = 32 ∧ k = 0 :: k.drop 1 ∧
      pubFromBytes c (k.drop 1) = some k ∧ pubValid c (k.drop 1) = true := by
  rw [addrKey_ok_iff] at h
  obtain ⟨hed, hne⟩ := isEd_of_isEdPrefixed hc
  obtain ⟨hon, hlen, hk⟩ := EccLemmas.pubFromBytes_ed_ok c hed pub k h
  rw [if_neg hne] at hk
  subst hk
  have hp : pubFromBytes c (edStripPrefix pub) = some (0 :: edStripPrefix pub) := by
    rw [EccLemmas.pubFromBytes_ed_eq c hed, EccLemmas.edStripPrefix_of_length_32 _ hlen,
      if_pos ⟨hon, hlen⟩, if_neg hne]
  refine ⟨by simp [hlen], by simpa using hlen, by simp, by simpa using hp, ?_⟩
  simp only [List.drop_succ_cons, List.drop_zero]
  exact pubValid_of_some hp

theorem addrKey_monero_inv {pub k : Bytes} (h : addrKey .ed25519Monero pub = .ok k) :
    k.length = 32 ∧ pubFromBytes .ed25519Monero k = some k ∧ pubValid .ed25519Monero k = true := by
  rw [addrKey_ok_iff] at h
  have hed : EccLemmas.IsEd .ed25519Monero := .inr (.inr (.inr rfl))
  obtain ⟨hon, hlen, hk⟩ := EccLemmas.pubFromBytes_ed_ok _ hed pub k h
  rw [if_pos rfl] at hk
  subst hk
  have hp : pubFromBytes .ed25519Monero (edStripPrefix pub) = some (edStripPrefix pub) := by
    rw [EccLemmas.pubFromBytes_ed_eq _ hed, EccLemmas.edStripPrefix_of_length_32 _ hlen,
      if_pos ⟨hon, hlen⟩, if_pos rfl]
  exact ⟨hlen, hp, pubValid_of_some hp⟩

@[ov] theorem OnlyValue.alphaIndex (alph : List Char) (c : Char) : OnlyValue (alphaIndex alph c) := by
  unfold Model.alphaIndex
  cases alph.idxOf? c with
  | none => exact .throw
  | some b => exact .pure _

@[ov] theorem OnlyValue.b58Decode (alph : List Char) (s : List Char) : OnlyValue (b58Decode alph s) :=
  ⟨fun _ h => b58Decode_error h⟩

@[ov] theorem OnlyValue.b58Check (H : Bytes → Bytes) (alph s : List Char) :
    OnlyValue (Model.ckToValue (b58CheckDecode H alph s)) :=
  OnlyValue.ckToValue (b58CheckDecode_error H alph s)

theorem OnlyValue.pyIdx_zero {α} {l : List α} (h : l ≠ []) : OnlyValue (pyIdx l 0) := by
  cases l with
  | nil => exact absurd rfl h
  | cons a t => exact .pure _

section Inversion
variable {α β γ : Type}

theorem validateLength_bind_inv {a : List γ} {n : Nat} {f : Unit → R β} {b : β}
    (h : (validateLength a n >>= f) = .ok b) : a.length = n ∧ f () = .ok b := by
  obtain ⟨u, hu, h⟩ := bind_ok_inv h
  exact ⟨(validateLength_ok_iff a n).mp hu, h⟩

theorem validatePubKey_bind_inv {c : CurveT} {k : Bytes} {f : Unit → R β} {b : β}
    (h : (validatePubKey c k >>= f) = .ok b) : pubValid c k = true ∧ f () = .ok b := by
  obtain ⟨u, hu, h⟩ := bind_ok_inv h
  exact ⟨(validatePubKey_ok_iff c k).mp hu, h⟩

end Inversion

end BipVerif.Model
