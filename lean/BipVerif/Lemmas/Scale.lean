/- Substrate SCALE integers and the CBOR indefinite-length array of unsigned integers.
Compact integers (`SubstrateScaleCUintEncoder`): the encoder is put in closed form in each of its
four modes, the specification decoder `scaleCompactDecode` is run on that form, and the two are
joined into the round trip on `[0, 2^536)`, the length of an encoding, and the exact domain.
Fixed width (`SubstrateScaleUintEncoder`): little-endian bytes, refused from `256 ^ n` on.
CBOR (`CborIndefiniteLenArrayEncoder`/`Decoder`): `cborBytes` is what `cbor2.dumps` gives for
`n < 2^64`; the decoding loop is followed item by item over `9f ‖ items ‖ ff` (`cbor_go`). -/
import BipVerif.Lemmas.IntBytes
import BipVerif.Lemmas.Except
import BipVerif.Model.Scale

namespace BipVerif.Model
open BipVerif

theorem shl2_or (v k : Nat) (hk : k < 4) : (v <<< 2) ||| k = 4 * v + k := by
  rw [← Nat.shiftLeft_add_eq_or_of_lt (by simpa using hk), Nat.shiftLeft_eq]; omega

theorem shl2 (v : Nat) : v <<< 2 = 4 * v := by rw [Nat.shiftLeft_eq]; omega

theorem ofNatLE_succ (n x : Nat) :
    Bytes.ofNatLE (n + 1) x = UInt8.ofNat (x % 256) :: Bytes.ofNatLE n (x / 256) := rfl

/-! ### compact integers: the encoder in each of its four modes -/

theorem scaleCompact_mode0 {v : Nat} (h : v ≤ 2 ^ 6 - 1) :
    scaleCompact v = .ok [UInt8.ofNat (4 * v)] := by
  unfold scaleCompact
  rw [if_pos h, shl2, toBytesLE_eq_ofNatLE (by omega)]
  simp only [Bytes.ofNatLE]
  rw [Nat.mod_eq_of_lt (by omega)]

theorem scaleCompact_mode1 {v : Nat} (h0 : ¬ v ≤ 2 ^ 6 - 1) (h : v ≤ 2 ^ 14 - 1) :
    scaleCompact v = .ok (Bytes.ofNatLE 2 (4 * v + 1)) := by
  unfold scaleCompact
  rw [if_neg h0, if_pos h, shl2_or v 1 (by omega), toBytesLE_eq_ofNatLE (by omega)]

theorem scaleCompact_mode2 {v : Nat} (h0 : ¬ v ≤ 2 ^ 6 - 1) (h1 : ¬ v ≤ 2 ^ 14 - 1)
    (h : v ≤ 2 ^ 30 - 1) : scaleCompact v = .ok (Bytes.ofNatLE 4 (4 * v + 2)) := by
  unfold scaleCompact
  rw [if_neg h0, if_neg h1, if_pos h, shl2_or v 2 (by omega), toBytesLE_eq_ofNatLE (by omega)]

/-- `2^536 = 256^67`: in the big mode the first byte carries `length - 4` in its upper six bits,
and `67 - 4 = 63` is the most they hold. -/
theorem toBytesAuto_length_big {v : Nat} (h2 : ¬ v ≤ 2 ^ 30 - 1) (h : v ≤ 2 ^ 536 - 1) :
    4 ≤ (toBytesAuto v).length ∧ (toBytesAuto v).length ≤ 67 := by
  have hv0 : v ≠ 0 := by omega
  rw [toBytesAuto_of_ne_zero hv0]
  constructor
  · by_contra hc
    have := (natToBytesMin_length_le_iff v 3).mp (by omega)
    omega
  · exact (natToBytesMin_length_le_iff v 67).mpr (by omega)

set_option exponentiation.threshold 600 in
theorem scaleCompact_mode3 {v : Nat} (h0 : ¬ v ≤ 2 ^ 6 - 1) (h1 : ¬ v ≤ 2 ^ 14 - 1)
    (h2 : ¬ v ≤ 2 ^ 30 - 1) (h : v ≤ 2 ^ 536 - 1) :
    scaleCompact v = .ok (UInt8.ofNat (4 * ((toBytesAuto v).length - 4) + 3)
      :: (toBytesAuto v).reverse) := by
  obtain ⟨hl1, hl2⟩ := toBytesAuto_length_big h2 h
  unfold scaleCompact
  rw [if_neg h0, if_neg h1, if_neg h2, if_pos h]
  simp only [List.length_reverse]
  rw [shl2_or _ 3 (by omega), toBytesLE_eq_ofNatLE (by omega)]
  simp only [Bytes.ofNatLE, bind, Except.bind, pure, Except.pure]
  rw [Nat.mod_eq_of_lt (by omega)]
  rfl

theorem scaleCompact_error {v : Nat} (h : 2 ^ 536 ≤ v) : scaleCompact v = .error .value := by
  unfold scaleCompact
  rw [if_neg (by omega), if_neg (by omega), if_neg (by omega), if_neg (by omega)]
  rfl

/-! ### compact integers: the specification decoder, mode by mode, on the encoder's output -/

theorem scd_mode0 (b0 : UInt8) (rest : Bytes) (h : b0.toNat % 4 = 0) :
    scaleCompactDecode (b0 :: rest) = some (b0.toNat / 4, 1) := by
  simp only [scaleCompactDecode, h]

theorem scd_mode1 (b0 : UInt8) (rest : Bytes) (h : b0.toNat % 4 = 1) :
    scaleCompactDecode (b0 :: rest) = if (b0 :: rest).length < 2 then none
      else some (Bytes.toNatLE ((b0 :: rest).take 2) / 4, 2) := by
  simp only [scaleCompactDecode, h]

theorem scd_mode2 (b0 : UInt8) (rest : Bytes) (h : b0.toNat % 4 = 2) :
    scaleCompactDecode (b0 :: rest) = if (b0 :: rest).length < 4 then none
      else some (Bytes.toNatLE ((b0 :: rest).take 4) / 4, 4) := by
  simp only [scaleCompactDecode, h]

theorem scd_mode3 (b0 : UInt8) (rest : Bytes) (h : b0.toNat % 4 = 3) :
    scaleCompactDecode (b0 :: rest) = if rest.length < b0.toNat / 4 + 4 then none
      else some (Bytes.toNatLE (rest.take (b0.toNat / 4 + 4)), b0.toNat / 4 + 4 + 1) := by
  simp only [scaleCompactDecode, h]

theorem scaleCompactDecode_mode0 {v : Nat} (h : v ≤ 2 ^ 6 - 1) :
    scaleCompactDecode [UInt8.ofNat (4 * v)] = some (v, 1) := by
  have ht := uint8_toNat_ofNat_lt (n := 4 * v) (by omega)
  rw [scd_mode0 _ _ (by rw [ht]; omega), ht]
  have h2 : 4 * v / 4 = v := by omega
  rw [h2]

theorem ofNatLE_succ_spec (n x : Nat) (hx : x < 256 ^ (n + 1)) :
    ∃ b0 rest, Bytes.ofNatLE (n + 1) x = b0 :: rest ∧ b0.toNat = x % 256 ∧
      (b0 :: rest).length = n + 1 ∧ Bytes.toNatLE (b0 :: rest) = x := by
  refine ⟨_, _, ofNatLE_succ n x, uint8_toNat_ofNat_lt (Nat.mod_lt _ (by omega)), ?_, ?_⟩
  · rw [← ofNatLE_succ, length_ofNatLE]
  · rw [← ofNatLE_succ, toNatLE_ofNatLE hx]

theorem scaleCompactDecode_mode1 {v : Nat} (h : v ≤ 2 ^ 14 - 1) :
    scaleCompactDecode (Bytes.ofNatLE 2 (4 * v + 1)) = some (v, 2) := by
  obtain ⟨b0, rest, he, h0, hl, hv⟩ := ofNatLE_succ_spec 1 (4 * v + 1) (by omega)
  rw [he, scd_mode1 _ _ (by omega), if_neg (by omega), List.take_of_length_le (by omega), hv,
    show (4 * v + 1) / 4 = v by omega]

theorem scaleCompactDecode_mode2 {v : Nat} (h : v ≤ 2 ^ 30 - 1) :
    scaleCompactDecode (Bytes.ofNatLE 4 (4 * v + 2)) = some (v, 4) := by
  obtain ⟨b0, rest, he, h0, hl, hv⟩ := ofNatLE_succ_spec 3 (4 * v + 2) (by omega)
  rw [he, scd_mode2 _ _ (by omega), if_neg (by omega), List.take_of_length_le (by omega), hv,
    show (4 * v + 2) / 4 = v by omega]

theorem scaleCompactDecode_mode3 {v : Nat} (h2 : ¬ v ≤ 2 ^ 30 - 1) (h : v ≤ 2 ^ 536 - 1) :
    scaleCompactDecode (UInt8.ofNat (4 * ((toBytesAuto v).length - 4) + 3)
      :: (toBytesAuto v).reverse) = some (v, (toBytesAuto v).length + 1) := by
  obtain ⟨hl1, hl2⟩ := toBytesAuto_length_big h2 h
  have ht := uint8_toNat_ofNat_lt (n := 4 * ((toBytesAuto v).length - 4) + 3) (by omega)
  have h3 : (4 * ((toBytesAuto v).length - 4) + 3) / 4 + 4 = (toBytesAuto v).length := by omega
  rw [scd_mode3 _ _ (by rw [ht]; omega), ht]
  have hnlt : ¬ (toBytesAuto v).reverse.length < (toBytesAuto v).length := by simp
  have htake : (toBytesAuto v).reverse.take (toBytesAuto v).length = (toBytesAuto v).reverse :=
    List.take_of_length_le (by simp)
  simp only [h3, hnlt, if_false, htake, toNatLE_reverse, toNatBE_toBytesAuto]

/-- The library has no decoder for compact integers; the round trip is against `scaleCompactDecode`,
written from the SCALE specification. Its second component says the encoding is consumed exactly. -/
theorem scaleCompact_roundtrip {v : Nat} (h : v < 2 ^ 536) :
    ∃ b, scaleCompact v = .ok b ∧ scaleCompactDecode b = some (v, b.length) := by
  by_cases h0 : v ≤ 2 ^ 6 - 1
  · exact ⟨_, scaleCompact_mode0 h0, scaleCompactDecode_mode0 h0⟩
  by_cases h1 : v ≤ 2 ^ 14 - 1
  · exact ⟨_, scaleCompact_mode1 h0 h1, by rw [scaleCompactDecode_mode1 h1, length_ofNatLE]⟩
  by_cases h2 : v ≤ 2 ^ 30 - 1
  · exact ⟨_, scaleCompact_mode2 h0 h1 h2, by rw [scaleCompactDecode_mode2 h2, length_ofNatLE]⟩
  have h3 : v ≤ 2 ^ 536 - 1 := by omega
  exact ⟨_, scaleCompact_mode3 h0 h1 h2 h3, by
    rw [scaleCompactDecode_mode3 h2 h3]; simp⟩

theorem scaleCompact_length {v : Nat} {b : Bytes} (h : scaleCompact v = .ok b) :
    b.length = if v < 2 ^ 6 then 1 else if v < 2 ^ 14 then 2 else if v < 2 ^ 30 then 4
      else 1 + Bytes.byteLen v := by
  by_cases hbig : 2 ^ 536 ≤ v
  · rw [scaleCompact_error hbig] at h; cases h
  by_cases h0 : v ≤ 2 ^ 6 - 1
  · rw [scaleCompact_mode0 h0] at h; cases h
    rw [if_pos (by omega)]; rfl
  by_cases h1 : v ≤ 2 ^ 14 - 1
  · rw [scaleCompact_mode1 h0 h1] at h; cases h
    rw [if_neg (by omega), if_pos (by omega), length_ofNatLE]
  by_cases h2 : v ≤ 2 ^ 30 - 1
  · rw [scaleCompact_mode2 h0 h1 h2] at h; cases h
    rw [if_neg (by omega), if_neg (by omega), if_pos (by omega), length_ofNatLE]
  have h3 : v ≤ 2 ^ 536 - 1 := by omega
  rw [scaleCompact_mode3 h0 h1 h2 h3] at h; cases h
  rw [if_neg (by omega), if_neg (by omega), if_neg (by omega)]
  have hv0 : v ≠ 0 := by omega
  simp only [List.length_cons, List.length_reverse]
  rw [toBytesAuto_of_ne_zero hv0, natToBytesMin_length_eq_byteLen]; omega

theorem scaleCompact_ok_iff (v : Nat) : (∃ b, scaleCompact v = .ok b) ↔ v < 2 ^ 536 := by
  constructor
  · rintro ⟨b, hb⟩
    by_contra hc
    rw [scaleCompact_error (by omega)] at hb; cases hb
  · intro h; obtain ⟨b, hb, _⟩ := scaleCompact_roundtrip h; exact ⟨b, hb⟩

/-! ### fixed-width unsigned integers (`SubstrateScaleUintEncoder`) -/

theorem one_shl_mul8 (n : Nat) : 1 <<< (n * 8) = 256 ^ n := by
  rw [Nat.one_shiftLeft, Nat.mul_comm, Nat.pow_mul]

theorem scaleUint_roundtrip {v n : Nat} (h : v < 256 ^ n) :
    ∃ b, scaleUint v n = .ok b ∧ b.length = n ∧ Bytes.toNatLE b = v := by
  refine ⟨Bytes.ofNatLE n v, ?_, length_ofNatLE n v, toNatLE_ofNatLE h⟩
  unfold scaleUint
  rw [one_shl_mul8, if_neg (by omega), toBytesLE_eq_ofNatLE h]

theorem scaleUint_error {v n : Nat} (h : 256 ^ n ≤ v) : scaleUint v n = .error .value := by
  unfold scaleUint
  have : 0 < 256 ^ n := Nat.pow_pos (by omega)
  rw [one_shl_mul8, if_pos (by omega)]
  rfl

/-! ### CBOR indefinite-length arrays of unsigned integers (`CborIndefiniteLenArrayEncoder`/`Decoder`) -/

/-- the bytes `cbor2.dumps(n)` produces for `n < 2^64` -/
def cborBytes (n : Nat) : Bytes :=
  if n < 24 then [UInt8.ofNat n]
  else if n < 2 ^ 8 then 24 :: Bytes.ofNatBE 1 n
  else if n < 2 ^ 16 then 25 :: Bytes.ofNatBE 2 n
  else if n < 2 ^ 32 then 26 :: Bytes.ofNatBE 4 n
  else 27 :: Bytes.ofNatBE 8 n

theorem cborUint_ok {n : Nat} (h : n < 2 ^ 64) : cborUint n = .ok (cborBytes n) := by
  unfold cborUint cborBytes
  rw [if_pos h]
  simp only [apply_ite (Except.ok (ε := Err))]
  rfl

theorem cborUint_error {n : Nat} (h : 2 ^ 64 ≤ n) : cborUint n = .error .overflow := by
  unfold cborUint
  rw [if_neg (by omega), if_neg (by omega), if_neg (by omega), if_neg (by omega), if_neg (by omega)]
  rfl

/-- the length the decoder derives from an initial byte -/
def cborItemLen (cur : UInt8) : Nat :=
  if cur = 24 then 2 else if cur = 25 then 3 else if cur = 26 then 5 else if cur = 27 then 9 else 1

theorem cborItemLen_of_lt {b : UInt8} (h : b.toNat < 24) : cborItemLen b = 1 := by
  have hne : ∀ c : UInt8, 24 ≤ c.toNat → b ≠ c := fun c hc e => by rw [e] at h; omega
  unfold cborItemLen
  rw [if_neg (hne 24 (by decide)), if_neg (hne 25 (by decide)), if_neg (hne 26 (by decide)),
    if_neg (hne 27 (by decide))]

/-- an argument of `2 ^ j` bytes behind the initial byte `24 + j` -/
theorem cborLoadsUint_arg (j : Nat) (hj : j ≤ 3) {n : Nat} (h : n < 256 ^ 2 ^ j) :
    cborLoadsUint (UInt8.ofNat (24 + j) :: Bytes.ofNatBE (2 ^ j) n) = .ok (.uint n) := by
  have ht := uint8_toNat_ofNat_lt (n := 24 + j) (by omega)
  unfold cborLoadsUint
  simp only [ht]
  rw [if_neg (by omega), if_pos (by omega), Nat.add_sub_cancel_left, Nat.one_shiftLeft,
    length_ofNatBE, if_neg (Nat.lt_irrefl _), List.take_of_length_le (by rw [length_ofNatBE]),
    toNatBE_ofNatBE h]
  rfl

theorem cborBytes_facts {n : Nat} (h : n < 2 ^ 64) :
    ∃ hd tl, cborBytes n = hd :: tl ∧ hd ≠ 255 ∧ cborItemLen hd = (hd :: tl).length ∧
      cborLoadsUint (hd :: tl) = .ok (.uint n) := by
  unfold cborBytes
  split
  · rename_i h24
    have ht := uint8_toNat_ofNat_lt (n := n) (by omega)
    refine ⟨_, _, rfl, ?_, cborItemLen_of_lt (by omega), ?_⟩
    · intro e
      rw [e] at ht
      have : (255 : UInt8).toNat = 255 := rfl
      omega
    · simp [cborLoadsUint, ht, h24, pure, Except.pure]
  split
  · exact ⟨_, _, rfl, by decide, rfl, cborLoadsUint_arg 0 (by omega) (by omega)⟩
  split
  · exact ⟨_, _, rfl, by decide, rfl, cborLoadsUint_arg 1 (by omega) (by omega)⟩
  split
  · exact ⟨_, _, rfl, by decide, rfl, cborLoadsUint_arg 2 (by omega) (by omega)⟩
  · exact ⟨_, _, rfl, by decide, rfl, cborLoadsUint_arg 3 (by omega) (by omega)⟩

theorem cborGo_succ (loads : Bytes → R CborItem) (enc : Bytes) (fuel i : Nat) (acc : List CborItem) :
    cborIndefDecode.go loads enc (fuel + 1) i acc =
      if i ≥ enc.length then throw .value
      else if enc.getD i 0 = 255 then pure acc.reverse
      else match loads ((enc.drop i).take (cborItemLen (enc.getD i 0))) with
        | .ok item => cborIndefDecode.go loads enc fuel (i + cborItemLen (enc.getD i 0)) (item :: acc)
        | .error e => throw e := rfl

theorem cbor_go (enc pre : Bytes) (items : List Nat) (h : ∀ n ∈ items, n < 2 ^ 64)
    (henc : enc = pre ++ (items.map cborBytes).flatten ++ [255]) (fuel : Nat)
    (hf : items.length < fuel) (acc : List CborItem) :
    cborIndefDecode.go cborLoadsUint enc fuel pre.length acc
      = .ok (acc.reverse ++ items.map .uint) := by
  induction items generalizing pre fuel acc with
  | nil =>
    cases fuel with
    | zero => omega
    | succ f =>
      rw [cborGo_succ]
      have hlen : ¬ pre.length ≥ enc.length := by rw [henc]; simp
      have hcur : enc.getD pre.length 0 = 255 := by rw [henc]; simp
      rw [if_neg hlen, if_pos hcur]; simp [pure, Except.pure]
  | cons n rest ih =>
    cases fuel with
    | zero => omega
    | succ f =>
      obtain ⟨hd, tl, hb, hne, hlen, hload⟩ := cborBytes_facts (h n (by simp))
      have henc' : enc = (pre ++ (hd :: tl)) ++ (rest.map cborBytes).flatten ++ [255] := by
        rw [henc, List.map_cons, List.flatten_cons, hb]; simp
      have henc2 : enc = pre ++ ((hd :: tl) ++ ((rest.map cborBytes).flatten ++ [255])) := by
        rw [henc']; simp
      rw [cborGo_succ]
      have hl : ¬ pre.length ≥ enc.length := by rw [henc2]; simp
      have hcur : enc.getD pre.length 0 = hd := by rw [henc2]; simp
      have hslice : (enc.drop pre.length).take (cborItemLen hd) = hd :: tl := by
        rw [henc2, List.drop_left, hlen, List.take_left]
      rw [if_neg hl, hcur, if_neg hne, hslice, hload]
      simp only
      have := ih (pre ++ (hd :: tl)) (fun m hm => h m (by simp [hm])) henc' f
        (by simp at hf; omega) (CborItem.uint n :: acc)
      rw [List.length_append, ← hlen] at this
      rw [this]; simp

theorem mapM_cborUint {l : List Nat} (h : ∀ n ∈ l, n < 2 ^ 64) :
    l.mapM cborUint = .ok (l.map cborBytes) :=
  mapM_ok_of_forall cborUint cborBytes l fun n hn => cborUint_ok (h n hn)

theorem cborBytes_ne_nil (n : Nat) : cborBytes n ≠ [] := by
  unfold cborBytes; repeat' split
  all_goals simp

theorem length_le_flatten_cborBytes (l : List Nat) :
    l.length ≤ ((l.map cborBytes).flatten).length := by
  induction l with
  | nil => simp
  | cons a t ih =>
    have := List.length_pos_iff.mpr (cborBytes_ne_nil a)
    simp only [List.map_cons, List.flatten_cons, List.length_append, List.length_cons]; omega

theorem cborIndefEncode_ok {l : List Nat} (h : ∀ n ∈ l, n < 2 ^ 64) :
    cborIndefEncode l = .ok ([159] ++ (l.map cborBytes).flatten ++ [255]) := by
  unfold cborIndefEncode; rw [mapM_cborUint h]; rfl

/-- Non-empty lists only: the encoding `9f ff` of the empty list has two bytes and the decoder
refuses inputs shorter than three. -/
theorem cborIndef_roundtrip {l : List Nat} (hne : l ≠ []) (h : ∀ n ∈ l, n < 2 ^ 64) :
    (cborIndefEncode l >>= cborIndefDecode cborLoadsUint) = .ok (l.map .uint) := by
  rw [cborIndefEncode_ok h]
  change cborIndefDecode cborLoadsUint _ = _
  have hlen := length_le_flatten_cborBytes l
  have hpos := List.length_pos_iff.mpr hne
  unfold cborIndefDecode
  set enc := [159] ++ (l.map cborBytes).flatten ++ [255] with henc
  have hel : enc.length = 1 + ((l.map cborBytes).flatten).length + 1 := by
    rw [henc]; simp only [List.length_append, List.length_cons, List.length_nil]
  have h1 : ¬ enc.length < 3 := by omega
  have h2 : ¬ (enc.head? != some 159) = true := by rw [henc]; simp
  have h3 : ¬ (enc.getLast? != some 255) = true := by
    rw [henc, List.getLast?_concat]; simp
  simp only [h1, h2, h3, if_false, bind, Except.bind]
  have := cbor_go enc [159] l h henc (enc.length + 1) (by omega) []
  simpa using this

theorem cborIndefEncode_error {l : List Nat} (h : ∃ n ∈ l, 2 ^ 64 ≤ n) :
    cborIndefEncode l = .error .overflow := by
  unfold cborIndefEncode
  suffices hs : l.mapM cborUint = .error .overflow by rw [hs]; rfl
  induction l with
  | nil => obtain ⟨n, hn, _⟩ := h; simp at hn
  | cons a t ih =>
    rw [List.mapM_cons]
    by_cases ha : 2 ^ 64 ≤ a
    · rw [cborUint_error ha]; rfl
    · obtain ⟨n, hn, hn2⟩ := h
      have : n ∈ t := by
        rcases List.mem_cons.mp hn with rfl | h'
        · exact absurd hn2 ha
        · exact h'
      rw [cborUint_ok (by omega), ih ⟨n, this, hn2⟩]; rfl

end BipVerif.Model
