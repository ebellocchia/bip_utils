/-
`Prim/Weierstrass.lean` realises Mathlib's elliptic-curve group law.

* `WGroup/Basic.lean`    — the Mathlib curve `W c`, cast lemmas, `toM`, correctness of `WCurve.add`
* `WGroup/Jacobian.lean` — Jacobian doubling / mixed addition, `toM (c.mul k P) = k • toM P`
* `WGroup/Concrete.lean` — secp256k1 and NIST P-256: `G` has order exactly `n`
* `WGroup/Ecdsa.lean`    — SEC1 `decode ∘ compress = id`; the `EcdsaGroupModel` instances
-/
import BipVerif.Lemmas.WGroup.Basic
import BipVerif.Lemmas.WGroup.Jacobian
import BipVerif.Lemmas.WGroup.Concrete
import BipVerif.Lemmas.WGroup.Ecdsa
