/-
Error detection of the Bech32 / Bech32m / CashAddr checksums (substitution errors in the data part):
the reductions, and one substituted symbol.

BIP-173 promises "any error affecting at most 4 characters is detected" (strings ≤ 90 characters).
The statements are about the model's own functions `bech32Verify` / `bchVerify`, for either Bech32
constant and ANY HRP: `bech32_detect` / `bch_detect` turn "no error vector of weight `w` has syndrome
zero" into "`w` substitutions are detected".  For one substituted symbol that holds at every length
(`LinReg.weight_one`); two, three and four are in `BechDistanceVec.lean` (lane-parallel kernel
evaluation of the facts this file reduces them to).

Method.  The register is GF(2)-linear (`pmRun_linear`), so two equal-length strings that both verify
differ by an error vector `e` whose homogeneous syndrome `pmRun W G 0 e` is zero (`syndrome_zero`).
With errors `a, b, c, …` at distances `k3, k2, …` the syndrome is
`x^r (… x^k2 (x^k3 a ^^^ b) ^^^ c …)` where `x = (c ↦ pmStep W G c 0)` (`mulX`).  `x` has trivial
kernel on register states (`linReg_of_low`), so the trailing `x^r` is harmless and the last error
symbol never has to be enumerated: it suffices that the state before it is `≥ 32` (`Far`, by
recursion on the number of errors in between; `LinReg.tail`, `LinReg.weight_add_two` — one
induction for any number of errors).  The first error symbol can be taken to be `1`: both generators
are polynomials over GF(32), so multiplying every symbol of a state by `α` is a GF(2)-linear map
commuting with `x`, and a power of it moves the first symbol to `1` (`far_of_far_one`,
`far_of_alpha`).  Linearity is by construction (`linExp`); the commutation law is checked on basis
vectors and extended by `lin_ext`.

Scope: substitutions only (no insertions / deletions), errors in the data part (payload + checksum
symbols, as 5-bit values) only, same HRP and same checksum constant on both sides.
-/
import BipVerif.Lemmas.Polymod

namespace BipVerif.Model
open BipVerif

/-- number of positions at which two symbol strings differ (positions beyond the shorter string are
ignored; all theorems below assume equal lengths). -/
def hamming : List Nat → List Nat → Nat
  | x :: a, y :: b => (if x = y then 0 else 1) + hamming a b
  | _, _ => 0

def weight : List Nat → Nat
  | [] => 0
  | x :: t => (if x = 0 then 0 else 1) + weight t

theorem xor_eq_zero_iff' {a b : Nat} : a ^^^ b = 0 ↔ a = b := by
  refine ⟨fun h => ?_, fun h => by rw [h, Nat.xor_self]⟩
  have : a ^^^ (a ^^^ b) = b := by rw [← Nat.xor_assoc, Nat.xor_self, Nat.zero_xor]
  rw [h, Nat.xor_zero] at this
  exact this

theorem hamming_eq_weight : ∀ a b : List Nat, hamming a b = weight (List.zipWith (· ^^^ ·) a b) := by
  intro a
  induction a with
  | nil => intro b; simp [hamming, weight]
  | cons x a ih =>
    intro b
    cases b with
    | nil => simp [hamming, weight]
    | cons y b =>
      simp only [hamming, List.zipWith_cons_cons, weight, ih b, xor_eq_zero_iff']

theorem zipWith_xor_lt : ∀ a b : List Nat, (∀ x ∈ a, x < 32) → (∀ x ∈ b, x < 32) →
    ∀ x ∈ List.zipWith (· ^^^ ·) a b, x < 32 := by
  intro a
  induction a with
  | nil => intro b _ _ x hx; simp at hx
  | cons p a ih =>
    intro b ha hb x hx
    cases b with
    | nil => simp at hx
    | cons q b =>
      simp only [List.zipWith_cons_cons, List.mem_cons] at hx
      rcases hx with rfl | hx
      · exact Nat.xor_lt_two_pow (n := 5) (ha p (by simp)) (hb q (by simp))
      · exact ih b (fun y hy => ha y (by simp [hy])) (fun y hy => hb y (by simp [hy])) x hx

def iter (f : Nat → Nat) : Nat → Nat → Nat
  | 0, c => c
  | k+1, c => iter f k (f c)

theorem iter_succ' (f : Nat → Nat) : ∀ k c, iter f (k + 1) c = f (iter f k c)
  | 0, _ => rfl
  | k + 1, c => iter_succ' f k (f c)

/-- from the state `a`, no `w` further error symbols `b₁, …, b_w` (non-zero 5-bit values) at positive
distances `k₁, …, k_w`, followed by `k ≥ 1` steps, all within distance `N`, lead to a state below 32,
i.e. one that one more symbol could cancel:
`Far f 1 N a ↔ ∀ k₁ b₁ k, … → k ≤ N - k₁ → 32 ≤ f^k (f^k₁ a ^^^ b₁)`. -/
def Far (f : Nat → Nat) : Nat → Nat → Nat → Prop
  | 0, N, a => ∀ k, 1 ≤ k → k ≤ N → 32 ≤ iter f k a
  | w + 1, N, a => ∀ k b, 1 ≤ k → 1 ≤ b → b < 32 → Far f w (N - k) (iter f k a ^^^ b)

theorem Far.zero {f : Nat → Nat} {N a : Nat} (H : ∀ k, 1 ≤ k → k ≤ N → 32 ≤ iter f k a) :
    Far f 0 N a := H

theorem Far.succ {f : Nat → Nat} {w N a : Nat}
    (H : ∀ k b, 1 ≤ k → 1 ≤ b → b < 32 → Far f w (N - k) (iter f k a ^^^ b)) :
    Far f (w + 1) N a := H

theorem Far.mono {f : Nat → Nat} : ∀ {w N N' a : Nat}, N' ≤ N → Far f w N a → Far f w N' a
  | 0, _, _, _, hN, H => fun k h1 h2 => H k h1 (by omega)
  | _ + 1, _, _, _, hN, H => fun k b h1 hb1 hb2 => (H k b h1 hb1 hb2).mono (by omega)

theorem Far.step {f : Nat → Nat} : ∀ {w N a : Nat}, Far f w (N + 1) a → Far f w N (f a)
  | 0, _, _, H => fun k _ h2 => H (k + 1) (by omega) (by omega)
  | _ + 1, N, _, H => fun k b h1 hb1 hb2 => by
    have := H (k + 1) b (by omega) hb1 hb2
    rwa [Nat.add_sub_add_right] at this

theorem lin_zero {f : Nat → Nat} (hf : ∀ x y, f (x ^^^ y) = f x ^^^ f y) : f 0 = 0 := by
  have := hf 0 0
  rwa [Nat.xor_self, Nat.xor_self] at this

theorem shr_lt32 {W c : Nat} (hc : c < 2 ^ (W + 5)) : c >>> W < 32 := by
  rw [Nat.shiftRight_eq_div_pow, Nat.div_lt_iff_lt_mul (Nat.two_pow_pos W)]
  rwa [Nat.pow_add, Nat.mul_comm] at hc

/-- multiplication by `x`: one register step with symbol 0. -/
def mulX (W : Nat) (G : Nat → Nat) (c : Nat) : Nat := pmStep W G c 0

structure LinReg (W : Nat) (G : Nat → Nat) : Prop where
  lin : ∀ x y, G (x ^^^ y) = G x ^^^ G y
  lt : ∀ x, G x < 2 ^ (W + 5)
  inj : ∀ c, c < 2 ^ (W + 5) → pmStep W G c 0 = 0 → c = 0

section Generic
variable {W : Nat} {G : Nat → Nat}

theorem le32_pow (W : Nat) : 32 ≤ 2 ^ (W + 5) := by
  have : (32 : Nat) = 2 ^ 5 := by norm_num
  rw [this]; exact Nat.pow_le_pow_right (by omega) (by omega)

theorem lt_pow_of_lt32 {W v : Nat} (hv : v < 32) : v < 2 ^ (W + 5) :=
  Nat.lt_of_lt_of_le hv (le32_pow W)

theorem LinReg.mulX_zero (h : LinReg W G) : mulX W G 0 = 0 := by
  simp [mulX, pmStep, lin_zero h.lin]

theorem LinReg.mulX_lt (h : LinReg W G) (c : Nat) : mulX W G c < 2 ^ (W + 5) :=
  pmStep_lt W G h.lt c 0 (Nat.two_pow_pos _)

theorem LinReg.mulX_linear (h : LinReg W G) (x y : Nat) :
    mulX W G (x ^^^ y) = mulX W G x ^^^ mulX W G y := by
  have := pmStep_linear W G h.lin x y 0 0
  rwa [Nat.xor_self] at this

theorem iter_lt {f : Nat → Nat} {B : Nat} (hf : ∀ c, c < B → f c < B) :
    ∀ k c, c < B → iter f k c < B := by
  intro k
  induction k with
  | zero => intro c hc; exact hc
  | succ k ih => intro c hc; exact ih _ (hf c hc)

theorem iter_congr {f g : Nat → Nat} {B : Nat} (hfg : ∀ c, c < B → f c = g c)
    (hg : ∀ c, c < B → g c < B) : ∀ k c, c < B → iter f k c = iter g k c := by
  intro k
  induction k with
  | zero => intro c _; rfl
  | succ k ih =>
    intro c hc
    show iter f k (f c) = iter g k (g c)
    rw [hfg c hc]
    exact ih _ (hg c hc)

theorem pmRun_cons_mulX (c x : Nat) (t : List Nat) :
    pmRun W G c (x :: t) = pmRun W G (mulX W G c ^^^ x) t := by
  rw [mulX, ← pmStep_value]; rfl

theorem weight_cons_zero (t : List Nat) : weight (0 :: t) = weight t := by simp [weight]

theorem weight_cons_ne {x : Nat} (hx : x ≠ 0) (t : List Nat) : weight (x :: t) = weight t + 1 := by
  simp [weight, hx, Nat.add_comm]

/-- no error left: the state is only multiplied by `x`, which never annihilates it. -/
theorem LinReg.run_ne_zero_of_weight_zero (h : LinReg W G) : ∀ (e : List Nat) (c : Nat),
    c < 2 ^ (W + 5) → c ≠ 0 → weight e = 0 → pmRun W G c e ≠ 0 := by
  intro e
  induction e with
  | nil => intro c _ hne _; exact hne
  | cons x t ih =>
    intro c hc hne hw
    by_cases hx : x = 0
    · subst hx
      rw [weight_cons_zero] at hw
      rw [pmRun_cons_mulX, Nat.xor_zero]
      exact ih _ (h.mulX_lt c) (fun h0 => hne (h.inj c hc h0)) hw
    · rw [weight_cons_ne hx] at hw; omega

/-- `w + 1` further errors after state `c`, provided no `w` errors from `c` lead back below 32: the
last error symbol is never enumerated. -/
theorem LinReg.tail (h : LinReg W G) : ∀ (t : List Nat) (w c : Nat), c < 2 ^ (W + 5) →
    (∀ x ∈ t, x < 32) → weight t = w + 1 → Far (mulX W G) w t.length c → pmRun W G c t ≠ 0 := by
  intro t
  induction t with
  | nil => intro w c _ _ hw; simp [weight] at hw
  | cons x t ih =>
    intro w c hc hlt hw hK
    rw [pmRun_cons_mulX]
    have ht : ∀ y ∈ t, y < 32 := fun y hy => hlt y (by simp [hy])
    by_cases hx : x = 0
    · -- a correct symbol: one more step before the next error
      subst hx
      rw [weight_cons_zero] at hw
      rw [Nat.xor_zero]
      exact ih w _ (h.mulX_lt c) ht hw hK.step
    · rw [weight_cons_ne hx] at hw
      have hx32 : x < 32 := hlt x (by simp)
      have hc' : mulX W G c ^^^ x < 2 ^ (W + 5) :=
        Nat.xor_lt_two_pow (h.mulX_lt c) (lt_pow_of_lt32 hx32)
      cases w with
      | zero =>
        -- the last error: `x · c ≥ 32` cannot be cancelled by a symbol
        have h1 : 32 ≤ mulX W G c := hK 1 (Nat.le_refl 1) (by simp)
        refine h.run_ne_zero_of_weight_zero t _ hc' ?_ (by omega)
        intro h0
        have := xor_eq_zero_iff'.1 h0
        omega
      | succ w => exact ih w _ hc' ht (by omega) (hK 1 x (Nat.le_refl 1) (by omega) hx32)

/-- leading correct symbols leave the zero state alone: the run over an error vector starts at its
first non-zero symbol. -/
theorem LinReg.first_error (h : LinReg W G) : ∀ e : List Nat, (∀ x ∈ e, x < 32) → ∀ n,
    weight e = n + 1 → ∃ x t, 1 ≤ x ∧ x < 32 ∧ (∀ y ∈ t, y < 32) ∧ weight t = n ∧
      t.length < e.length ∧ pmRun W G 0 e = pmRun W G x t := by
  intro e
  induction e with
  | nil => intro _ n hw; simp [weight] at hw
  | cons x t ih =>
    intro hlt n hw
    have ht : ∀ y ∈ t, y < 32 := fun y hy => hlt y (by simp [hy])
    rw [pmRun_cons_mulX, h.mulX_zero, Nat.zero_xor]
    by_cases hx : x = 0
    · subst hx
      rw [weight_cons_zero] at hw
      obtain ⟨x, t', h1, h2, h3, h4, h5, h6⟩ := ih ht n hw
      exact ⟨x, t', h1, h2, h3, h4, Nat.lt_succ_of_lt h5, h6⟩
    · rw [weight_cons_ne hx] at hw
      exact ⟨x, t, by omega, hlt x (by simp), ht, by omega, Nat.lt_succ_self _, rfl⟩

theorem LinReg.weight_one (h : LinReg W G) (e : List Nat) (he : ∀ x ∈ e, x < 32)
    (hw : weight e = 1) : pmRun W G 0 e ≠ 0 := by
  obtain ⟨x, t, h1, h2, _, h4, _, h6⟩ := h.first_error e he 0 hw
  rw [h6]
  exact h.run_ne_zero_of_weight_zero t x (lt_pow_of_lt32 h2) (by omega) h4

/-- `w + 2`: the first error symbol `a` starts the run and the last is never enumerated (`tail`);
`Far … w N a` is about the `w` in between. -/
theorem LinReg.weight_add_two (h : LinReg W G) (w N : Nat)
    (hN : ∀ a, 1 ≤ a → a < 32 → Far (mulX W G) w N a) (e : List Nat) (he : ∀ x ∈ e, x < 32)
    (hw : weight e = w + 2) (hlen : e.length ≤ N + 1) : pmRun W G 0 e ≠ 0 := by
  obtain ⟨x, t, h1, h2, h3, h4, h5, h6⟩ := h.first_error e he (w + 1) hw
  rw [h6]
  exact h.tail t w x (lt_pow_of_lt32 h2) h3 h4 ((hN x h1 h2).mono (by omega))

theorem LinReg.syndrome_zero (h : LinReg W G) (s : Nat) (d d' : List Nat)
    (hlen : d.length = d'.length) (heq : pmRun W G s d = pmRun W G s d') :
    pmRun W G 0 (List.zipWith (· ^^^ ·) d d') = 0 := by
  have := pmRun_linear W G h.lin d d' s s hlen
  rw [Nat.xor_self, heq, Nat.xor_self] at this
  exact this

theorem LinReg.detect (h : LinReg W G) (s : Nat) (d d' : List Nat) (w : Nat)
    (hlen : d'.length = d.length) (hd : ∀ x ∈ d, x < 32) (hd' : ∀ x ∈ d', x < 32)
    (hh : hamming d d' = w)
    (hw : ∀ e : List Nat, (∀ x ∈ e, x < 32) → weight e = w → e.length = d.length →
      pmRun W G 0 e ≠ 0) :
    pmRun W G s d ≠ pmRun W G s d' := by
  intro heq
  refine hw _ (zipWith_xor_lt d d' hd hd') ?_ ?_ (h.syndrome_zero s d d' hlen.symm heq)
  · rw [← hamming_eq_weight]; exact hh
  · simp [hlen]

/-- a linear map `φ` commuting with `x` and preserving (non-zero) symbols, some power `φ^(e a)` of
which takes the symbol `a` to `1`: `Far` only has to be checked for first symbol `1`. -/
theorem LinReg.far_of_far_one (h : LinReg W G) (φ : Nat → Nat) (e : Nat → Nat)
    (hlin : ∀ x y, φ (x ^^^ y) = φ x ^^^ φ y)
    (hcomm : ∀ s, s < 2 ^ (W + 5) → φ (mulX W G s) = mulX W G (φ s))
    (hsym : ∀ v, v < 32 → φ v < 32 ∧ (1 ≤ v → 1 ≤ φ v))
    (hone : ∀ a, 1 ≤ a → a < 32 → iter φ (e a) a = 1)
    (w N : Nat) (H1 : Far (mulX W G) w N 1) : ∀ a, 1 ≤ a → a < 32 → Far (mulX W G) w N a := by
  have hiter : ∀ k s, s < 2 ^ (W + 5) → φ (iter (mulX W G) k s) = iter (mulX W G) k (φ s) := by
    intro k
    induction k with
    | zero => intro s _; rfl
    | succ k ih =>
      intro s hs
      show φ (iter (mulX W G) k (mulX W G s)) = iter (mulX W G) k (mulX W G (φ s))
      rw [ih _ (h.mulX_lt s), hcomm s hs]
  -- `φ` maps an offending sequence of errors from `c` to one from `φ c`
  have step : ∀ w N c, c < 2 ^ (W + 5) → Far (mulX W G) w N (φ c) → Far (mulX W G) w N c := by
    intro w
    induction w with
    | zero =>
      intro N c hc H k h1 h2
      have hge := H k h1 h2
      rw [← hiter k c hc] at hge
      by_contra hlt
      have := (hsym _ (Nat.lt_of_not_le hlt)).1
      omega
    | succ w ih =>
      intro N c hc H k b h1 hb1 hb2
      refine ih _ _ (Nat.xor_lt_two_pow (iter_lt (fun c _ => h.mulX_lt c) k c hc)
        (lt_pow_of_lt32 hb2)) ?_
      rw [hlin, hiter k c hc]
      exact H k (φ b) h1 ((hsym b hb2).2 hb1) (hsym b hb2).1
  have steps : ∀ j a, 1 ≤ a → a < 32 → Far (mulX W G) w N (iter φ j a) → Far (mulX W G) w N a := by
    intro j
    induction j with
    | zero => intro a _ _ H; exact H
    | succ j ih =>
      intro a h1 h2 H
      exact step w N a (lt_pow_of_lt32 h2) (ih (φ a) ((hsym a h2).2 h1) (hsym a h2).1 H)
  intro a ha1 ha2
  exact steps (e a) a ha1 ha2 (by rw [hone a ha1 ha2]; exact H1)

end Generic

/-- the linear map with columns `cols 0, …, cols (n-1)`. -/
def linExp (cols : Nat → Nat) : Nat → Nat → Nat
  | 0, _ => 0
  | n + 1, s => linExp cols n s ^^^ (if s.testBit n then cols n else 0)

theorem ite_xor (b b' : Bool) (c : Nat) : (if (b ^^ b') = true then c else 0)
    = (if b = true then c else 0) ^^^ (if b' = true then c else 0) := by
  cases b <;> cases b' <;> simp

theorem linExp_linear (cols : Nat → Nat) (n x y : Nat) :
    linExp cols n (x ^^^ y) = linExp cols n x ^^^ linExp cols n y := by
  induction n with
  | zero => simp [linExp]
  | succ n ih =>
    simp only [linExp, ih, Nat.testBit_xor, ite_xor]
    ac_rfl

theorem linExp_of_lt (cols : Nat → Nat) {k s : Nat} (hs : s < 2 ^ k) : ∀ n, k ≤ n →
    linExp cols n s = linExp cols k s := by
  intro n hn
  induction n, hn using Nat.le_induction with
  | base => rfl
  | succ n hn ih =>
    have : s.testBit n = false :=
      Nat.testBit_lt_two_pow (Nat.lt_of_lt_of_le hs (Nat.pow_le_pow_right (by omega) hn))
    simp only [linExp, this, ih, Bool.false_eq_true, if_false, Nat.xor_zero]

theorem linExp_two_pow (cols : Nat → Nat) {i n : Nat} (hi : i < n) : linExp cols n (2 ^ i) = cols i := by
  have hlow : ∀ m, m ≤ i → linExp cols m (2 ^ i) = 0 := by
    intro m
    induction m with
    | zero => intro _; rfl
    | succ m ih =>
      intro hm
      have : (2 ^ i).testBit m = false := by rw [Nat.testBit_two_pow]; simp; omega
      simp only [linExp, ih (by omega), this, Bool.false_eq_true, if_false, Nat.xor_zero]
  rw [linExp_of_lt cols (k := i + 1) (Nat.pow_lt_pow_right (by omega) (by omega)) n hi]
  simp only [linExp, hlow i (Nat.le_refl i), Nat.testBit_two_pow_self, if_true, Nat.zero_xor]

theorem xor_two_pow_lt {n s : Nat} (h1 : 2 ^ n ≤ s) (h2 : s < 2 ^ (n + 1)) : s ^^^ 2 ^ n < 2 ^ n := by
  -- bit `n` of `s` is set and no higher one
  apply Nat.lt_pow_two_of_testBit
  intro i hi
  rw [Nat.testBit_xor, Nat.testBit_two_pow]
  rcases Nat.eq_or_lt_of_le hi with rfl | hlt
  · have : s / 2 ^ n = 1 := Nat.div_eq_of_lt_le (by omega) (by rw [pow_succ] at h2; omega)
    simp [Nat.testBit_eq_decide_div_mod_eq, this]
  · rw [Nat.testBit_lt_two_pow (Nat.lt_of_lt_of_le h2 (Nat.pow_le_pow_right (by omega) hlt))]
    simp; omega

theorem lin_ext (f g : Nat → Nat) (hf : ∀ x y, f (x ^^^ y) = f x ^^^ f y)
    (hg : ∀ x y, g (x ^^^ y) = g x ^^^ g y) : ∀ n, (∀ i, i < n → f (2 ^ i) = g (2 ^ i)) →
    ∀ s, s < 2 ^ n → f s = g s := by
  intro n
  induction n with
  | zero =>
    intro _ s hs
    have : s = 0 := by simpa using hs
    rw [this, lin_zero hf, lin_zero hg]
  | succ n ih =>
    intro hb s hs
    by_cases hlt : s < 2 ^ n
    · exact ih (fun i hi => hb i (by omega)) s hlt
    · have hr := xor_two_pow_lt (Nat.le_of_not_lt hlt) hs
      have e : s = (s ^^^ 2 ^ n) ^^^ 2 ^ n := by
        rw [Nat.xor_assoc, Nat.xor_self, Nat.xor_zero]
      rw [e, hf, hg, ih (fun i hi => hb i (by omega)) _ hr, hb n (by omega)]

/-! ### multiplying every symbol by the primitive element `α` of GF(32) = GF(2)[α]/(α^5 + α^3 + 1)

Both generators are polynomials over GF(32), so multiplying all symbols of a register state by `α`
is a GF(2)-linear map that commutes with `x` (checked on the basis vectors, extended by `lin_ext`);
its powers take every non-zero symbol to `1`. -/

/-- multiplication by `α` on one symbol (`41` is `α^5 + α^3 + 1`). -/
def gf32xt (a : Nat) : Nat := if (a <<< 1) < 32 then a <<< 1 else (a <<< 1) ^^^ 41

/-- column `i` of "multiply every symbol by `α`": bit `i % 5` of symbol `i / 5`. -/
def alphaCol (i : Nat) : Nat := gf32xt (2 ^ (i % 5)) <<< (5 * (i / 5))

def smulAlpha (n s : Nat) : Nat := linExp alphaCol n s

/-- `α ^ alphaExp a = a⁻¹`. -/
def alphaExp (a : Nat) : Nat :=
  [0, 0, 30, 17, 29, 3, 16, 9, 28, 26, 2, 5, 15, 24, 8, 20, 27, 6, 25, 21, 1, 18, 4, 10, 14, 13,
    23, 12, 7, 22, 19, 11].getD a 0

theorem smulAlpha_symbol : ∀ v, v < 32 →
    smulAlpha 5 v = gf32xt v ∧ gf32xt v < 32 ∧ (1 ≤ v → 1 ≤ gf32xt v) := by decide +kernel

theorem alphaExp_spec : ∀ a, a < 32 → 1 ≤ a → iter gf32xt (alphaExp a) a = 1 := by decide +kernel

theorem smulAlpha_linear (n x y : Nat) :
    smulAlpha n (x ^^^ y) = smulAlpha n x ^^^ smulAlpha n y :=
  linExp_linear alphaCol n x y

theorem alphaCol_add_five (i : Nat) : alphaCol (i + 5) = alphaCol i <<< 5 := by
  rw [alphaCol, alphaCol, Nat.add_mod_right, Nat.add_div_right i (by omega), Nat.mul_succ,
    Nat.shiftLeft_add]

/-- a register whose step commutes with `smulAlpha`: it is enough to establish `Far` from the first
symbol `1`.  Below the top symbol both `x` and `smulAlpha` only move symbols, so the commutation law
has to be evaluated on the five basis vectors of the top symbol only. -/
theorem LinReg.far_of_alpha {W : Nat} {G : Nat → Nat} (h : LinReg W G)
    (hlow : ∀ i, i < W → alphaCol i < 2 ^ W)
    (htop : ∀ i, W ≤ i → i < W + 5 →
      smulAlpha (W + 5) (mulX W G (2 ^ i)) = mulX W G (smulAlpha (W + 5) (2 ^ i)))
    (w N : Nat) (H : Far (mulX W G) w N 1) : ∀ a, 1 ≤ a → a < 32 → Far (mulX W G) w N a := by
  have hsym : ∀ v, v < 32 → smulAlpha (W + 5) v = gf32xt v := fun v hv => by
    rw [smulAlpha, linExp_of_lt alphaCol (k := 5) hv (W + 5) (by omega)]
    exact (smulAlpha_symbol v hv).1
  -- below the top symbol the step is a shift by one symbol
  have hshift : ∀ v, v < 2 ^ W → mulX W G v = v <<< 5 := by
    intro v hv
    rw [mulX, pmStep, Nat.and_two_pow_sub_one_eq_mod, Nat.mod_eq_of_lt hv,
      Nat.shiftRight_eq_div_pow, Nat.div_eq_of_lt hv, lin_zero h.lin, Nat.xor_zero, Nat.xor_zero]
  have hbasis : ∀ i, i < W + 5 →
      smulAlpha (W + 5) (mulX W G (2 ^ i)) = mulX W G (smulAlpha (W + 5) (2 ^ i)) := by
    intro i hi
    by_cases hiW : i < W
    · rw [hshift _ (Nat.pow_lt_pow_right (by omega) hiW), Nat.shiftLeft_eq, ← pow_add, smulAlpha,
        smulAlpha, linExp_two_pow alphaCol (by omega), linExp_two_pow alphaCol hi,
        hshift _ (hlow i hiW), alphaCol_add_five]
    · exact htop i (by omega) hi
  have hcomm : ∀ s, s < 2 ^ (W + 5) →
      smulAlpha (W + 5) (mulX W G s) = mulX W G (smulAlpha (W + 5) s) := by
    intro s hs
    refine lin_ext (fun s => smulAlpha (W + 5) (mulX W G s))
      (fun s => mulX W G (smulAlpha (W + 5) s)) ?_ ?_ (W + 5) hbasis s hs
    · intro x y
      show smulAlpha (W + 5) (mulX W G (x ^^^ y)) = _
      rw [h.mulX_linear, smulAlpha_linear]
    · intro x y
      show mulX W G (smulAlpha (W + 5) (x ^^^ y)) = _
      rw [smulAlpha_linear, h.mulX_linear]
  refine h.far_of_far_one (smulAlpha (W + 5)) alphaExp (smulAlpha_linear _) hcomm
    (fun v hv => hsym v hv ▸ (smulAlpha_symbol v hv).2) ?_ w N H
  intro a ha1 ha2
  rw [iter_congr (B := 32) hsym (fun c hc => (smulAlpha_symbol c hc).2.1) _ a ha2]
  exact alphaExp_spec a ha2 ha1

/-- multiplication by `x` has trivial kernel as soon as the feedback of a non-zero top symbol has a
non-zero lowest symbol (the constant coefficient of the generator polynomial is non-zero). -/
theorem linReg_of_low {W : Nat} {G : Nat → Nat} (hlin : ∀ x y, G (x ^^^ y) = G x ^^^ G y)
    (hlt : ∀ x, G x < 2 ^ (W + 5)) (hlow : ∀ t, t < 32 → G t % 32 = 0 → t = 0) : LinReg W G := by
  refine ⟨hlin, hlt, ?_⟩
  intro c hc h
  unfold pmStep at h
  rw [Nat.xor_zero] at h
  have heq := xor_eq_zero_iff'.1 h
  rw [Nat.shiftLeft_eq] at heq
  have h0 : c >>> W = 0 := hlow _ (shr_lt32 hc) (by rw [← heq]; norm_num)
  rw [h0, lin_zero hlin, Nat.and_two_pow_sub_one_eq_mod] at heq
  rw [Nat.shiftRight_eq_div_pow] at h0
  have := Nat.div_add_mod c (2 ^ W)
  have hP : 0 < 2 ^ W := Nat.two_pow_pos W
  rw [h0] at this
  omega

theorem bech32_linReg : LinReg 25 bech32G :=
  linReg_of_low bech32G_linear bech32G_lt (by decide +kernel)

theorem bch_linReg : LinReg 35 bchG :=
  linReg_of_low bchG_linear bchG_lt (by decide +kernel)

/-- verification in register form: the HRP only fixes the state `s` in which the data part starts. -/
theorem bech32Verify_iff (hrp : List Char) (d : List Nat) (m : Bool) :
    bech32Verify hrp d m = true ↔
      pmRun 25 bech32G (pmRun 25 bech32G 1 (bech32HrpExpand hrp)) d = bech32Const m := by
  unfold bech32Verify
  rw [beq_iff_eq, bech32PolyMod_eq, pmRun_append]

theorem bchVerify_iff (hrp : List Char) (d : List Nat) :
    bchVerify hrp d = true ↔
      pmRun 35 bchG (pmRun 35 bchG 1 (bchHrpExpand hrp)) d = 1 := by
  unfold bchVerify
  rw [beq_iff_eq, bchPolyMod_eq, pmRun_append, xor_eq_zero_iff']

theorem bech32_detect (hrp : List Char) (d d' : List Nat) (m : Bool) (w : Nat)
    (hv : bech32Verify hrp d m = true) (hlen : d'.length = d.length)
    (hd : ∀ x ∈ d, x < 32) (hd' : ∀ x ∈ d', x < 32) (hh : hamming d d' = w)
    (hw : ∀ e : List Nat, (∀ x ∈ e, x < 32) → weight e = w → e.length = d.length →
      pmRun 25 bech32G 0 e ≠ 0) :
    bech32Verify hrp d' m = false := by
  rw [← Bool.not_eq_true]
  intro hv'
  rw [bech32Verify_iff] at hv hv'
  exact bech32_linReg.detect _ d d' w hlen hd hd' hh hw (hv.trans hv'.symm)

theorem bch_detect (hrp : List Char) (d d' : List Nat) (w : Nat)
    (hv : bchVerify hrp d = true) (hlen : d'.length = d.length)
    (hd : ∀ x ∈ d, x < 32) (hd' : ∀ x ∈ d', x < 32) (hh : hamming d d' = w)
    (hw : ∀ e : List Nat, (∀ x ∈ e, x < 32) → weight e = w → e.length = d.length →
      pmRun 35 bchG 0 e ≠ 0) :
    bchVerify hrp d' = false := by
  rw [← Bool.not_eq_true]
  intro hv'
  rw [bchVerify_iff] at hv hv'
  exact bch_linReg.detect _ d d' w hlen hd hd' hh hw (hv.trans hv'.symm)

end BipVerif.Model
