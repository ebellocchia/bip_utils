/-
C10 for addresses — soundness / canonicity of the address decoders: whatever a decoder accepts is
(the lower-cased, for Bech32) output of the corresponding encoder for the returned payload, and the
payload has the format's length.  Built on the codec canonicity lemmas (`b58Check_encode_decode`,
`b58Encode_of_b58Decode`, `bechDecodeRaw_sound`, `base32_decode_canonical`, `ss58_decode_canonical'`,
`xmr_decode_canonical`) plus the 5→8→5 canonicity of `ConvertBits` proved here.
-/
import BipVerif.Lemmas.AddrBase58
import BipVerif.Lemmas.AddrBech32
import BipVerif.Lemmas.AddrEth
import BipVerif.Lemmas.AddrBase32
import BipVerif.Lemmas.AddrMisc
import BipVerif.Lemmas.AddrEnc

namespace BipVerif.Model
open BipVerif BipVerif.Prim

/-! ### Bech32 at the byte level -/

/-- of `5n` bits the last `m < 5` are dropped; put back as padding, they are exactly what the kept
bits fall short of a multiple of 5 -/
theorem pad_bits_arith {n m : Nat} (hm : m < 5) (hle : m ≤ 5 * n) :
    if m = 0 then (5 * n - m) % 5 = 0
    else ¬ (5 * n - m) % 5 = 0 ∧ 5 - (5 * n - m) % 5 = m := by
  split <;> omega

/-- 5→8→5 canonicity: the zero-padding check of `ConvertFromBase32` is what makes Bech32 payload
text non-malleable. -/
theorem regroup_of_fromBase32 {data conv : List Nat} (hlt : ∀ x ∈ data, x < 32)
    (h : fromBase32 data = .ok conv) : regroup 8 5 conv = data ∧ ∀ x ∈ conv, x < 256 := by
  unfold fromBase32 at h
  rw [convertBits_nopad 5 8 (by omega) data hlt] at h
  by_cases hc : 5 * data.length % 8 ≥ 5 ∨ ∃ b ∈ chunkRem 8 (symbolBits 5 data), b = true
  · rw [if_pos hc] at h; cases h
  · rw [if_neg hc] at h
    have hconv : conv = (fullChunks 8 (symbolBits 5 data)).map ofBitsBE := by cases h; rfl
    have hc1 : ¬ 5 * data.length % 8 ≥ 5 := fun h' => hc (Or.inl h')
    have hc2 : ∀ b ∈ chunkRem 8 (symbolBits 5 data), b = false := by
      intro b hb
      cases b with
      | false => rfl
      | true => exact absurd (Or.inr ⟨true, hb, rfl⟩) hc
    set B := symbolBits 5 data with hB
    have hBl : B.length = 5 * data.length := length_symbolBits 5 data
    have hCl : ∀ c ∈ fullChunks 8 B, c.length = 8 := fun c hc => length_of_mem_fullChunks 8 B c hc
    have hflat := flatten_fullChunks 8 (by omega) B
    have hRl : (chunkRem 8 B).length = 5 * data.length % 8 := by rw [length_chunkRem, hBl]
    have hR : chunkRem 8 B = List.replicate (5 * data.length % 8) false := by
      rw [← hRl]; exact List.eq_replicate_of_mem hc2
    constructor
    · unfold regroup
      have hsb : symbolBits 8 conv = (fullChunks 8 B).flatten := by
        rw [hconv, symbolBits, flatMap_bitsBE_map_ofBitsBE 8 _ hCl]
      have hFl : (fullChunks 8 B).flatten.length = 5 * data.length - 5 * data.length % 8 := by
        have := congrArg List.length hflat
        rw [List.length_append, hRl, hBl] at this
        omega
      have hpad : padBits 5 (symbolBits 8 conv) = B := by
        rw [hsb]
        unfold padBits
        have ha := pad_bits_arith (n := data.length) (Nat.not_le.mp hc1) (Nat.mod_le _ 8)
        rw [← hFl] at ha
        by_cases hz : 5 * data.length % 8 = 0
        · rw [if_pos hz] at ha
          rw [if_pos ha]
          rw [hR, hz] at hflat
          simpa using hflat
        · rw [if_neg hz] at ha
          rw [if_neg ha.1, ha.2, ← hR]; exact hflat
      rw [hpad]
      have hBf : B = (data.map (bitsBE 5)).flatten := by
        simp [hB, symbolBits, List.flatMap_def]
      obtain ⟨h1, _⟩ := fullChunks_flatten 5 (by omega) (data.map (bitsBE 5))
        (by intro c hc; simp only [List.mem_map] at hc; obtain ⟨v, _, rfl⟩ := hc; simp)
        [] (by simp)
      rw [List.append_nil] at h1
      rw [hBf, h1, List.map_map]
      exact all_valid_of_lt 5 data hlt
    · intro x hx
      rw [hconv] at hx
      obtain ⟨c, hcm, rfl⟩ := List.mem_map.mp hx
      have := ofBitsBE_lt c
      rw [hCl c hcm] at this
      omega

theorem bytesToNats_natsToBytes (l : List Nat) (h : ∀ x ∈ l, x < 256) :
    bytesToNats (natsToBytes l) = l := map_toNat_map_ofNat l h

theorem bech32Decode_sound (U : CaseOracle) {hrp addr : List Char} {b : Bytes}
    (h : bech32Decode U hrp addr = .ok b) : bech32Encode hrp b = .ok (addr.flatMap U.lower) := by
  unfold bech32Decode at h
  obtain ⟨⟨hrpGot, data⟩, hraw, h⟩ := bind_ok_inv h
  obtain ⟨hh, h⟩ := guard_bne_ok_inv h
  obtain ⟨conv, hconv, h⟩ := bind_ok_inv h
  obtain ⟨hre, h256⟩ := regroup_of_fromBase32 (bechDecodeRaw_ok_inv U _ hraw).2 hconv
  rw [bech32Encode_eq, ← pure_ok_inv h, bytesToNats_natsToBytes conv h256, hre, hh]
  exact congrArg Except.ok (bechDecodeRaw_sound U _ hraw)

theorem segwitDecode_sound (U : CaseOracle) {hrp addr : List Char} {v : Nat} {prog : Bytes}
    (h : segwitDecode U hrp addr = .ok (v, prog)) :
    segwitEncode hrp v prog = .ok (addr.flatMap U.lower) ∧ v ≤ 16 ∧ 2 ≤ prog.length ∧
      prog.length ≤ 40 ∧ (v = 0 → prog.length = 20 ∨ prog.length = 32) := by
  unfold segwitDecode at h
  obtain ⟨⟨hrpGot, data⟩, hraw, h⟩ := bind_ok_inv h
  obtain ⟨hh, h⟩ := guard_bne_ok_inv h
  obtain ⟨conv, hconv, h⟩ := bind_ok_inv h
  obtain ⟨hc1, h⟩ := guard_ok_inv h
  obtain ⟨w, hw, h⟩ := bind_ok_inv h
  obtain ⟨rest, hdata⟩ := pyIdx_zero_ok_inv hw
  obtain ⟨hc2, h⟩ := guard_ok_inv h
  obtain ⟨hc3, h⟩ := guard_ok_inv h
  obtain ⟨hv, hp⟩ := Prod.mk.inj (pure_ok_inv h)
  subst hv
  have hlt := (bechDecodeRaw_ok_inv U _ hraw).2
  rw [hdata] at hlt hconv
  obtain ⟨hre, h256⟩ := regroup_of_fromBase32 (fun x hx => hlt x (List.mem_cons_of_mem _ hx)) hconv
  have hpl : prog.length = conv.length := by rw [← hp]; simp [natsToBytes]
  simp only [Bool.or_eq_true, decide_eq_true_eq, not_or, not_lt] at hc1
  refine ⟨?_, by omega, by omega, by omega, ?_⟩
  · rw [segwitEncode_eq, ← hp, bytesToNats_natsToBytes conv h256, hre, ← hdata, hh]
    exact congrArg Except.ok (bechDecodeRaw_sound U _ hraw)
  · intro h0
    rw [hpl]
    simp only [h0, decide_true, Bool.true_and, Bool.or_eq_false_iff,
      decide_eq_false_iff_not, not_and, Bool.not_eq_eq_eq_not, Bool.not_true] at hc3
    by_cases h20 : conv.length = 20
    · exact Or.inl h20
    · exact Or.inr (by simpa [h20] using hc3)

theorem bchDecode_sound (U : CaseOracle) {hrp addr : List Char} {nv d : Bytes}
    (h : bchDecode U hrp addr = .ok (nv, d)) :
    bchEncode hrp nv d = .ok (addr.flatMap U.lower) ∧ nv.length = 1 := by
  unfold bchDecode at h
  obtain ⟨⟨hrpGot, data⟩, hraw, h⟩ := bind_ok_inv h
  obtain ⟨hh, h⟩ := guard_bne_ok_inv h
  obtain ⟨conv, hconv, h⟩ := bind_ok_inv h
  obtain ⟨w, hw, h⟩ := bind_ok_inv h
  obtain ⟨rest, hc⟩ := pyIdx_zero_ok_inv hw
  obtain ⟨hnv, hd⟩ := Prod.mk.inj (pure_ok_inv h)
  obtain ⟨hre, h256⟩ := regroup_of_fromBase32 (bechDecodeRaw_ok_inv U _ hraw).2 hconv
  have hnv' : nv = [UInt8.ofNat w] := by
    rw [← hnv, toBytesAuto_of_lt_256 (h256 w (by rw [hc]; exact List.mem_cons_self))]
  have hcat : nv ++ d = natsToBytes conv := by
    rw [hnv', ← hd, hc]; simp [natsToBytes]
  refine ⟨?_, by rw [hnv']; rfl⟩
  rw [bchEncode_eq, hcat, bytesToNats_natsToBytes conv h256, hre, hh]
  exact congrArg Except.ok (bechDecodeRaw_sound U _ hraw)

/-! ### Base58Check family -/

theorem p2pkhDecode_sound {nv : Bytes} {alph : List Char} (hl : alph.length = 58)
    {addr : List Char} {x : Bytes} (h : p2pkhDecode nv alph addr = .ok x) :
    addr = b58CheckEncode sha256d alph (nv ++ x) ∧ x.length = 20 := by
  unfold p2pkhDecode at h
  obtain ⟨dec, hdec, h⟩ := bind_ok_inv h
  obtain ⟨hlen, h⟩ := validateLength_bind_inv h
  have hc := b58Check_encode_decode sha256d alph hl addr dec (ckToValue_ok_inv hdec)
  rw [removePrefix_ok_inv h] at hc hlen
  refine ⟨hc.symm, ?_⟩
  rw [List.length_append] at hlen; omega

theorem xtzDecode_sound {pfx : Bytes} {addr : List Char} {x : Bytes}
    (h : xtzDecode pfx addr = .ok x) :
    addr = b58CheckEncode sha256d btcAlphabet (pfx ++ x) ∧ x.length = 20 :=
  p2pkhDecode_sound btcAlphabet_length (xtzDecode_eq pfx addr ▸ h)

theorem trxDecode_sound {pfx : Bytes} {addr : List Char} {x : Bytes}
    (h : trxDecode pfx addr = .ok x) :
    addr = b58CheckEncode sha256d btcAlphabet (pfx ++ x) ∧ x.length = 20 := by
  rw [trxDecode_eq] at h
  obtain ⟨a, ha, h⟩ := bind_ok_inv h
  obtain ⟨_, h⟩ := validateLength_bind_inv h
  obtain rfl := pure_ok_inv h
  exact p2pkhDecode_sound btcAlphabet_length ha

theorem neoDecode_sound {ver : Bytes} {addr : List Char} {x : Bytes}
    (h : neoDecode ver addr = .ok x) :
    ∃ v, ver = [v] ∧ addr = b58CheckEncode sha256d btcAlphabet ([v] ++ x) ∧ x.length = 20 := by
  unfold neoDecode at h
  obtain ⟨dec, hdec, h⟩ := bind_ok_inv h
  obtain ⟨hlen, h⟩ := validateLength_bind_inv h
  obtain ⟨v0, hv0, h⟩ := bind_ok_inv h
  obtain ⟨rest, rfl⟩ := pyIdx_zero_ok_inv hv0
  obtain ⟨hver, h⟩ := guard_ne_ok_inv h
  obtain rfl : rest = x := pure_ok_inv h
  rw [toBytesAuto_byte] at hver
  have hc := b58Check_encode_decode sha256d _ btcAlphabet_length addr _ (ckToValue_ok_inv hdec)
  refine ⟨v0, hver, hc.symm, ?_⟩
  rw [hver] at hlen
  simp only [List.length_cons, List.length_nil] at hlen
  omega

/-! ### Base58 with own checksums -/

theorem eosDecode_sound {pfx addr : List Char} {k : Bytes} (h : eosDecode pfx addr = .ok k) :
    addr = pfx ++ b58Encode btcAlphabet (k ++ (ripemd160 k).take 4) ∧ k.length = 33 ∧
      pubValid .secp256k1 k = true := by
  unfold eosDecode at h
  obtain ⟨a, ha, h⟩ := bind_ok_inv h
  obtain ⟨dec, hdec, h⟩ := bind_ok_inv h
  obtain ⟨hlen, h⟩ := validateLength_bind_inv h
  obtain ⟨hck, h⟩ := guard_ne_ok_inv h
  obtain ⟨hv, h⟩ := validatePubKey_bind_inv h
  obtain rfl := pure_ok_inv h
  refine ⟨?_, by rw [dropLast_length, hlen], hv⟩
  rw [removePrefix_ok_inv ha, ← eq_append_of_takeLast hck,
    b58Encode_of_b58Decode _ btcAlphabet_length hdec]

theorem ergoDecode_sound {netType : Nat} {addr : List Char} {k : Bytes}
    (h : ergoDecode netType addr = .ok k) :
    addr = b58Encode btcAlphabet ((toBytesAuto (1 + netType) ++ k) ++
        (blake2b256 (toBytesAuto (1 + netType) ++ k)).take 4) ∧
      (toBytesAuto (1 + netType) ++ k).length = 34 ∧ pubValid .secp256k1 k = true := by
  unfold ergoDecode at h
  obtain ⟨dec, hdec, h⟩ := bind_ok_inv h
  obtain ⟨hlen, h⟩ := validateLength_bind_inv h
  obtain ⟨hck, h⟩ := guard_ne_ok_inv h
  obtain ⟨k', hk', h⟩ := bind_ok_inv h
  obtain ⟨hv, h⟩ := validatePubKey_bind_inv h
  obtain rfl := pure_ok_inv h
  rw [← removePrefix_ok_inv hk']
  refine ⟨?_, by rw [dropLast_length, hlen], hv⟩
  rw [← eq_append_of_takeLast hck, b58Encode_of_b58Decode _ btcAlphabet_length hdec]

theorem solDecode_sound {addr : List Char} {k : Bytes} (h : solDecode addr = .ok k) :
    addr = b58Encode btcAlphabet k ∧ k.length = 32 ∧ pubValid .ed25519 k = true := by
  unfold solDecode at h
  obtain ⟨dec, hdec, h⟩ := bind_ok_inv h
  obtain ⟨hlen, h⟩ := validateLength_bind_inv h
  obtain ⟨hv, h⟩ := validatePubKey_bind_inv h
  obtain rfl := pure_ok_inv h
  exact ⟨(b58Encode_of_b58Decode _ btcAlphabet_length hdec).symm, hlen, hv⟩

/-! ### Bech32 family (text compared after lower-casing, as the decoder does) -/

theorem atomDecode_sound {hrp addr : List Char} {b : Bytes} (h : atomDecode hrp addr = .ok b) :
    bech32Encode hrp b = .ok (addr.flatMap asciiCase.lower) ∧ b.length = 20 := by
  unfold atomDecode at h
  obtain ⟨dec, hdec, h⟩ := bind_ok_inv h
  obtain ⟨hlen, h⟩ := validateLength_bind_inv h
  obtain rfl := pure_ok_inv h
  exact ⟨bech32Decode_sound asciiCase (ckToValue_ok_inv hdec), hlen⟩

/-- Injective decodes exactly as Cosmos does -/
theorem injDecode_sound {hrp addr : List Char} {b : Bytes} (h : injDecode hrp addr = .ok b) :
    bech32Encode hrp b = .ok (addr.flatMap asciiCase.lower) ∧ b.length = 20 :=
  atomDecode_sound h

theorem ethBech32Decode_sound {hrp addr : List Char} {b : Bytes}
    (h : ethBech32Decode hrp addr = .ok b) :
    bech32Encode hrp b = .ok (addr.flatMap asciiCase.lower) ∧ b.length = 20 := by
  unfold ethBech32Decode at h
  obtain ⟨dec, hdec, h⟩ := bind_ok_inv h
  obtain ⟨hlen, h⟩ := validateLength_bind_inv h
  obtain rfl := pure_ok_inv h
  rw [hexOfBytes_length] at hlen
  exact ⟨bech32Decode_sound asciiCase (ckToValue_ok_inv hdec), by omega⟩

theorem avaxDecode_sound {pfx hrp addr : List Char} {b : Bytes}
    (h : avaxDecode pfx hrp addr = .ok b) :
    ∃ a, addr = pfx ++ a ∧ bech32Encode hrp b = .ok (a.flatMap asciiCase.lower) ∧ b.length = 20 := by
  unfold avaxDecode at h
  obtain ⟨a, ha, h⟩ := bind_ok_inv h
  exact ⟨a, removePrefix_ok_inv ha, atomDecode_sound h⟩

theorem egldDecode_sound {hrp addr : List Char} {b : Bytes} (h : egldDecode hrp addr = .ok b) :
    bech32Encode hrp b = .ok (addr.flatMap asciiCase.lower) ∧ b.length = 32 ∧
      pubValid .ed25519 b = true := by
  unfold egldDecode at h
  obtain ⟨dec, hdec, h⟩ := bind_ok_inv h
  obtain ⟨hlen, h⟩ := validateLength_bind_inv h
  obtain ⟨hv, h⟩ := validatePubKey_bind_inv h
  obtain rfl := pure_ok_inv h
  exact ⟨bech32Decode_sound asciiCase (ckToValue_ok_inv hdec), hlen, hv⟩

theorem p2wpkhDecode_sound {hrp addr : List Char} {x : Bytes} (h : p2wpkhDecode hrp addr = .ok x) :
    segwitEncode hrp 0 x = .ok (addr.flatMap asciiCase.lower) ∧ x.length = 20 := by
  unfold p2wpkhDecode at h
  obtain ⟨⟨v, dec⟩, hdec, h⟩ := bind_ok_inv h
  obtain ⟨rfl, h⟩ := guard_ne_ok_inv h
  obtain ⟨hlen, h⟩ := validateLength_bind_inv h
  obtain rfl := pure_ok_inv h
  exact ⟨(segwitDecode_sound asciiCase (ckToValue_ok_inv hdec)).1, hlen⟩

theorem p2trDecode_sound {hrp addr : List Char} {x : Bytes} (h : p2trDecode hrp addr = .ok x) :
    segwitEncode hrp 1 x = .ok (addr.flatMap asciiCase.lower) ∧ x.length = 32 := by
  unfold p2trDecode at h
  obtain ⟨⟨v, dec⟩, hdec, h⟩ := bind_ok_inv h
  obtain ⟨hlen, h⟩ := validateLength_bind_inv h
  obtain ⟨rfl, h⟩ := guard_ne_ok_inv h
  obtain rfl := pure_ok_inv h
  exact ⟨(segwitDecode_sound asciiCase (ckToValue_ok_inv hdec)).1, hlen⟩

theorem bchAddrDecode_sound {hrp : List Char} {nv : Bytes} {addr : List Char} {x : Bytes}
    (h : bchAddrDecode hrp nv addr = .ok x) :
    bchEncode hrp nv x = .ok (addr.flatMap asciiCase.lower) ∧ x.length = 20 ∧ nv.length = 1 := by
  unfold bchAddrDecode at h
  obtain ⟨⟨nv', dec⟩, hdec, h⟩ := bind_ok_inv h
  obtain ⟨hnv, h⟩ := guard_ne_ok_inv h
  obtain ⟨hlen, h⟩ := validateLength_bind_inv h
  obtain rfl := pure_ok_inv h
  obtain ⟨h1, h2⟩ := bchDecode_sound asciiCase (ckToValue_ok_inv hdec)
  exact ⟨hnv ▸ h1, hlen, hnv ▸ h2⟩

/-! ### Base32, SS58 -/

theorem b32encodeStd_length (data : Bytes) :
    (b32encodeStd data).length = 8 * ((data.length + 4) / 5) := by
  obtain ⟨full, tail, rfl, hf, hk⟩ := b32_split data
  rw [b32encodeStd_eq full tail hf hk, List.length_append, flatMap_b32Block_length]
  have hc := chunksOf_length_of_mod 5 (by omega) full hf
  by_cases ht : tail = []
  · subst ht
    simp only [b32Tail, if_true, List.length_nil, List.append_nil, Nat.add_zero]
    omega
  · obtain ⟨T, p, hT, _, hlen, _, _⟩ := b32Tail_shape tail ht hk
    have hpos : 0 < tail.length := List.length_pos_iff.mpr ht
    rw [hT, List.length_append, List.length_replicate, List.length_append]
    omega

theorem rstripChar_of_not_contains {s : List Char} (h : s.contains '=' = false) :
    rstripChar '=' s = s :=
  rstripChar_of_forall_ne _ _ fun x hx e => by
    rw [e, ← List.contains_iff_mem, h] at hx; cases hx

theorem algoDecode_sound {addr : List Char} {k : Bytes} (h : algoDecodeAddr addr = .ok k) :
    addr = base32EncodeNoPad (k ++ takeLast (sha512_256 k) 4) none ∧ k.length = 32 ∧
      pubValid .ed25519 k = true := by
  unfold algoDecodeAddr at h
  obtain ⟨hc, h⟩ := guard_ok_inv h
  obtain ⟨dec, hdec, h⟩ := bind_ok_inv h
  obtain ⟨hlen, h⟩ := validateLength_bind_inv h
  obtain ⟨hck, h⟩ := guard_ne_ok_inv h
  obtain ⟨hv, h⟩ := validatePubKey_bind_inv h
  obtain rfl := pure_ok_inv h
  refine ⟨?_, by rw [dropLast_length, hlen], hv⟩
  rw [← eq_append_of_takeLast hck, base32_decode_canonical hdec,
    rstripChar_of_not_contains (Bool.eq_false_iff.mpr hc)]

theorem substrateEdDecode_sound {fmt : Nat} {addr : List Char} {k : Bytes}
    (h : substrateEdDecode fmt addr = .ok k) :
    ss58Encode blake2b512 k fmt = .ok addr ∧ k.length = 32 ∧ pubValid .ed25519 k = true := by
  unfold substrateEdDecode at h
  obtain ⟨⟨f, dec⟩, hdec, h⟩ := bind_ok_inv h
  obtain ⟨hf, h⟩ := guard_ne_ok_inv h
  obtain ⟨hv, h⟩ := validatePubKey_bind_inv h
  obtain rfl := pure_ok_inv h
  have hd := ckToValue_ok_inv hdec
  obtain ⟨_, _, _, _, _, hl, _⟩ := ss58Decode_ok_inv hd
  exact ⟨hf ▸ ss58_decode_canonical' blake2b512 hd, hl, hv⟩

/-! ### Ethereum: the EIP-55 spelling is the only one accepted -/

def allHexChars : List Char := lowerHexChars ++ ['A', 'B', 'C', 'D', 'E', 'F']

/-- membership in a character set, for a character in a range, is a finite check -/
theorem mem_of_char_range {a b c : Char} {L : List Char} (h : a ≤ c ∧ c ≤ b)
    (hL : ∀ n ∈ List.range' a.toNat (b.toNat + 1 - a.toNat), Char.ofNat n ∈ L) : c ∈ L := by
  have hle : ∀ x y : Char, x ≤ y ↔ x.toNat ≤ y.toNat := fun x y => by
    rw [Char.le_def]; exact UInt32.le_iff_toNat_le
  rw [hle, hle] at h
  rw [← Char.ofNat_toNat c]
  exact hL _ (List.mem_range'_1.mpr ⟨h.1, by omega⟩)

theorem hexVal_some_mem {c : Char} {v : Nat} (h : Bytes.hexVal c = some v) : c ∈ allHexChars := by
  unfold Bytes.hexVal at h
  split at h
  · exact mem_of_char_range ‹_› (by decide +kernel)
  · split at h
    · exact mem_of_char_range ‹_› (by decide +kernel)
    · split at h
      · exact mem_of_char_range ‹_› (by decide +kernel)
      · cases h

/-- the table of the 22 hex characters: digit value against lower-cased spelling, and what
lower-casing does (one character, case-insensitively the same, a lower-case hex character) -/
theorem allHex_facts : ∀ c ∈ allHexChars,
    (Bytes.hexVal c).all (fun v => decide (v < 16) && (asciiCase.lower c == [Bytes.hexDigit v])) = true ∧
    ethChecksumEncode.asciiUpper ((asciiCase.lower c).headD c) = ethChecksumEncode.asciiUpper c ∧
    (asciiCase.lower c).headD c ∈ lowerHexChars ∧
    asciiCase.lower c = [(asciiCase.lower c).headD c] := by
  decide +kernel

theorem hexVal_some_facts {c : Char} {v : Nat} (h : Bytes.hexVal c = some v) :
    v < 16 ∧ asciiCase.lower c = [Bytes.hexDigit v] := by
  have := (allHex_facts c (hexVal_some_mem h)).1
  rw [h] at this
  simpa using this

theorem ofHexChars_lower : ∀ (a : List Char) (b : Bytes), Bytes.ofHexChars a = some b →
    a.flatMap asciiCase.lower = hexOfBytes b ∧ ∀ c ∈ a, c ∈ allHexChars
  | [], b, h => by
    have : b = [] := by simpa [Bytes.ofHexChars] using h.symm
    subst this
    exact ⟨rfl, by simp⟩
  | [_], b, h => by simp [Bytes.ofHexChars] at h
  | x :: y :: rest, b, h => by
    obtain ⟨vx, vy, r, hx, hy, hr, rfl⟩ := ofHexChars_cons_cons h
    obtain ⟨ih1, ih2⟩ := ofHexChars_lower rest r hr
    obtain ⟨hvx, hlx⟩ := hexVal_some_facts hx
    obtain ⟨hvy, hly⟩ := hexVal_some_facts hy
    have hb : (UInt8.ofNat (vx * 16 + vy)).toNat = vx * 16 + vy := by
      rw [UInt8.toNat_ofNat']; omega
    constructor
    · rw [List.flatMap_cons, List.flatMap_cons, hlx, hly, ih1, hexOfBytes_eq, hexOfBytes_eq,
        List.flatMap_cons, hb]
      have h1 : (vx * 16 + vy) / 16 = vx := by omega
      have h2 : (vx * 16 + vy) % 16 = vy := by omega
      rw [h1, h2]; rfl
    · intro c hc
      simp only [List.mem_cons] at hc
      rcases hc with rfl | rfl | hc
      · exact hexVal_some_mem hx
      · exact hexVal_some_mem hy
      · exact ih2 c hc

/-- every digest position reads as a hex digit (the default `'0'` included) -/
def DigestOk (D : List Char) : Prop := ∀ i, Bytes.hexVal (D.getD i '0') ≠ none

theorem lowerHex_hexVal : ∀ c ∈ lowerHexChars, Bytes.hexVal c ≠ none := by decide +kernel

theorem ethDigest_ok (a : List Char) : DigestOk (ethDigest a) := by
  intro i
  unfold ethDigest
  rw [List.getD_eq_getElem?_getD]
  cases h : (hexOfBytes (keccak256 (String.ofList (a.flatMap asciiCase.lower)).toUTF8.toList))[i]? with
  | none => decide
  | some c =>
    simp only [Option.getD_some]
    exact lowerHex_hexVal c (hexOfBytes_lowerHex _ c (List.mem_of_getElem? h))

theorem ethCaseChar_lower (D : List Char) (hD : DigestOk D) (c : Char) (hc : c ∈ allHexChars)
    (i : Nat) : ethCaseChar D ((asciiCase.lower c).headD c, i) = ethCaseChar D (c, i) := by
  unfold ethCaseChar
  simp only
  cases h : Bytes.hexVal (D.getD i '0') with
  | none => exact absurd h (hD i)
  | some v =>
    simp only
    obtain ⟨_, h2, h3, _⟩ := allHex_facts c hc
    rw [h2, (lowerHex_facts _ h3).1]
    rfl

theorem flatMap_lower_eq_map (l : List Char) (hl : ∀ c ∈ l, c ∈ allHexChars) :
    l.flatMap asciiCase.lower = l.map (fun c => (asciiCase.lower c).headD c) := by
  induction l with
  | nil => rfl
  | cons c t ih =>
    rw [List.flatMap_cons, List.map_cons, ih (fun x hx => hl x (by simp [hx])),
      (allHex_facts c (hl c (by simp))).2.2.2]
    rfl

theorem ethCase_lower_list (D : List Char) (hD : DigestOk D) (l : List Char)
    (hl : ∀ c ∈ l, c ∈ allHexChars) (n : Nat) :
    ((l.map (fun c => (asciiCase.lower c).headD c)).zipIdx n).map (ethCaseChar D)
      = (l.zipIdx n).map (ethCaseChar D) := by
  induction l generalizing n with
  | nil => rfl
  | cons c t ih =>
    rw [List.map_cons, List.zipIdx_cons, List.map_cons, List.zipIdx_cons, List.map_cons,
      ethCaseChar_lower D hD c (hl c (by simp)) n, ih (fun x hx => hl x (by simp [hx]))]

theorem flatMap_lower_idem (l : List Char) (hl : ∀ c ∈ l, c ∈ allHexChars) :
    (l.flatMap asciiCase.lower).flatMap asciiCase.lower = l.flatMap asciiCase.lower := by
  rw [flatMap_lower_eq_map l hl]
  refine flatMap_lower_lowerHex _ fun c hc => ?_
  obtain ⟨x, hx, rfl⟩ := List.mem_map.mp hc
  exact (allHex_facts x (hl x hx)).2.2.1

theorem ethChecksumEncode_lower (a : List Char) (ha : ∀ c ∈ a, c ∈ allHexChars) :
    ethChecksumEncode (a.flatMap asciiCase.lower) = ethChecksumEncode a := by
  have hd : ethDigest (a.flatMap asciiCase.lower) = ethDigest a := by
    unfold ethDigest; rw [flatMap_lower_idem a ha]
  rw [ethChecksumEncode_eq, ethChecksumEncode_eq, hd, flatMap_lower_eq_map a ha]
  exact ethCase_lower_list _ (ethDigest_ok a) a ha 0

theorem bytesOfHex_lower {a : List Char} {b : Bytes} (h : bytesOfHex a = .ok b) :
    a.flatMap asciiCase.lower = hexOfBytes b :=
  (ofHexChars_lower a b (bytesOfHex_ok_iff.mp h)).1

theorem eth_canonical {a : List Char} {b : Bytes} (hfix : a = ethChecksumEncode a)
    (hb : bytesOfHex a = .ok b) : a = ethChecksumEncode (hexOfBytes b) := by
  obtain ⟨h1, h2⟩ := ofHexChars_lower a b (bytesOfHex_ok_iff.mp hb)
  rw [← h1, ethChecksumEncode_lower a h2]
  exact hfix

theorem ethDecode_sound_checksum {pfx addr : List Char} {b : Bytes}
    (h : ethDecode pfx false addr = .ok b) :
    addr = pfx ++ ethChecksumEncode (hexOfBytes b) ∧ b.length = 20 := by
  unfold ethDecode at h
  obtain ⟨a, ha, h⟩ := bind_ok_inv h
  obtain ⟨hlen, h⟩ := validateLength_bind_inv h
  obtain ⟨hfix, hb⟩ := guard_ok_inv h
  have hl := bytesOfHex_length hb
  refine ⟨?_, by omega⟩
  rw [removePrefix_ok_inv ha, ← eth_canonical (by simpa using hfix) hb]

/-- without the checksum check the text is canonical up to letter case only -/
theorem ethDecode_sound_nochecksum {pfx addr : List Char} {b : Bytes}
    (h : ethDecode pfx true addr = .ok b) :
    ∃ a, addr = pfx ++ a ∧ a.flatMap asciiCase.lower = hexOfBytes b ∧ b.length = 20 := by
  unfold ethDecode at h
  obtain ⟨a, ha, h⟩ := bind_ok_inv h
  obtain ⟨hlen, h⟩ := validateLength_bind_inv h
  obtain ⟨_, hb⟩ := guard_ok_inv h
  have hl := bytesOfHex_length hb
  exact ⟨a, removePrefix_ok_inv ha, bytesOfHex_lower hb, by omega⟩

/-! ### Monero, Stellar -/

theorem xmrAddrDecode_sound {netVer : Bytes} {payId : Option Bytes} {addr : List Char} {sv : Bytes}
    (h : xmrAddrDecode netVer payId addr = .ok sv) :
    ∃ s v, sv = s ++ v ∧ s.length = 32 ∧ v.length = 32 ∧
      pubValid .ed25519Monero s = true ∧ pubValid .ed25519Monero v = true ∧
      (∀ pid, payId = some pid → pid.length = 8) ∧
      addr = xmrEncode ((netVer ++ s ++ v ++ payId.getD []) ++
        (keccak256 (netVer ++ s ++ v ++ payId.getD [])).take 4) := by
  unfold xmrAddrDecode at h
  obtain ⟨dec, hdec, h⟩ := bind_ok_inv h
  obtain ⟨hck, h⟩ := guard_ne_ok_inv h
  obtain ⟨p, hp, h⟩ := bind_ok_inv h
  have haddr : addr = xmrEncode ((netVer ++ p) ++ (keccak256 (netVer ++ p)).take 4) := by
    rw [← removePrefix_ok_inv hp, ← eq_append_of_takeLast hck, xmr_decode_canonical hdec]
  -- either shape of the payload check leaves `p = s ‖ v ‖ payId` and the two key checks
  obtain ⟨h64, hpid, hsplit, h⟩ : 64 ≤ p.length ∧ (∀ pid, payId = some pid → pid.length = 8) ∧
      p = p.take 32 ++ (p.drop 32).take 32 ++ payId.getD [] ∧
      (do validatePubKey .ed25519Monero (p.take 32)
          validatePubKey .ed25519Monero ((p.drop 32).take 32)
          pure (p.take 32 ++ (p.drop 32).take 32) : R Bytes) = .ok sv := by
    cases payId with
    | none =>
      obtain ⟨h64, h⟩ := validateLength_bind_inv h
      refine ⟨by omega, nofun, ?_, h⟩
      conv_lhs => rw [← List.take_append_drop 32 p]
      rw [List.take_of_length_le (l := p.drop 32) (by rw [List.length_drop]; omega)]
      simp only [Option.getD_none, List.append_nil]
    | some pid =>
      obtain ⟨h72, h⟩ := validateLength_bind_inv h
      obtain ⟨h8, h⟩ := guard_ne_ok_inv h
      obtain ⟨hpid, h⟩ := guard_ne_ok_inv h
      refine ⟨by omega, fun _ e => Option.some.inj e ▸ h8, ?_, h⟩
      rw [Option.getD_some, hpid]
      unfold takeLast
      rw [h72]
      conv_lhs => rw [← List.take_append_drop 32 p, ← List.take_append_drop 32 (p.drop 32)]
      simp [List.append_assoc]
  obtain ⟨hs, h⟩ := validatePubKey_bind_inv h
  obtain ⟨hv, h⟩ := validatePubKey_bind_inv h
  refine ⟨p.take 32, (p.drop 32).take 32, (pure_ok_inv h).symm, by rw [List.length_take]; omega,
    by rw [List.length_take, List.length_drop]; omega, hs, hv, hpid, ?_⟩
  have e : netVer ++ p.take 32 ++ (p.drop 32).take 32 ++ payId.getD [] = netVer ++ p := by
    conv_rhs => rw [hsplit]
    simp only [List.append_assoc]
  rw [haddr, e]

theorem xlmDecode_sound {addrType : Nat} {addr : List Char} {k : Bytes}
    (h : xlmDecode addrType addr = .ok k) :
    ∃ t : UInt8, t.toNat = addrType ∧
      addr = base32EncodeNoPad (([t] ++ k) ++ xlmCrc ([t] ++ k)) none ∧
      k.length = 32 ∧ pubValid .ed25519 k = true := by
  unfold xlmDecode at h
  obtain ⟨dec, hdec, h⟩ := bind_ok_inv h
  obtain ⟨hlen, h⟩ := validateLength_bind_inv h
  obtain ⟨t, ht, h⟩ := bind_ok_inv h
  obtain ⟨rest, hp⟩ := pyIdx_zero_ok_inv ht
  obtain ⟨hty, h⟩ := guard_ne_ok_inv h
  obtain ⟨hck, h⟩ := guard_ne_ok_inv h
  obtain ⟨hv, h⟩ := validatePubKey_bind_inv h
  have hk : (dropLast dec 2).drop 1 = k := pure_ok_inv h
  rw [hp] at hk hck hv
  obtain rfl : rest = k := hk
  have hdec' := eq_append_of_takeLast hck
  rw [hp] at hdec'
  refine ⟨t, hty.symm, ?_, ?_, hv⟩
  · rw [← base32_decode_canonical_full std_ok hdec (by rw [hlen]), hdec']; rfl
  · have := congrArg List.length hp
    rw [dropLast_length, hlen] at this
    simp only [List.length_cons] at this
    omega

/-! ### Filecoin, Nano -/

theorem filDecode_sound {pfx addr : List Char} {x : Bytes} (h : filDecode pfx addr = .ok x) :
    addr = pfx ++ ['1'] ++ base32EncodeNoPad (x ++ blake2b32 ([1] ++ x)) (some filAlphabet) ∧
      x.length = 20 := by
  unfold filDecode at h
  obtain ⟨a, ha, h⟩ := bind_ok_inv h
  obtain ⟨hne, h⟩ := guard_ok_inv h
  obtain ⟨ht, h⟩ := guard_ne_ok_inv h
  obtain ⟨dec, hdec, h⟩ := bind_ok_inv h
  obtain ⟨hlen, h⟩ := validateLength_bind_inv h
  obtain ⟨hck, h⟩ := guard_ne_ok_inv h
  obtain rfl := pure_ok_inv h
  refine ⟨?_, by rw [dropLast_length, hlen]⟩
  simp only [Bool.or_eq_true, not_or, Bool.not_eq_true] at hne
  cases a with
  | nil => cases hne.1
  | cons c rest =>
    -- the type character: `ord(c) - 48 = 1`
    have hc1 : c = '1' := by
      have : c.toNat = 49 := by rw [List.headD_cons] at ht; omega
      rw [← Char.ofNat_toNat c, this]
    have hrest : rest.contains '=' = false := by
      have := hne.2
      rw [List.contains_cons, Bool.or_eq_false_iff] at this
      exact this.2
    have hcan := base32_decode_canonical hdec
    rw [List.drop_succ_cons, List.drop_zero, rstripChar_of_not_contains hrest] at hcan
    rw [removePrefix_ok_inv ha, hc1, ← eq_append_of_takeLast hck, hcan]
    simp

/-- `NanoAddrDecoder` checks that the three pad bytes are zero (`ValidateAndRemovePrefix` of
`PAYLOAD_PAD_DEC`), so an accepted address is exactly the encoder's text for the returned key. -/
theorem nanoDecode_sound {pfx addr : List Char} {k : Bytes} (h : nanoDecode pfx addr = .ok k) :
    addr = pfx ++ (base32EncodeNoPad ([0, 0, 0] ++ k ++ (blake2b40 k).reverse)
        (some nanoAlphabet)).drop 4 ∧
      k.length = 32 ∧ pubValid .ed25519Blake2b k = true := by
  unfold nanoDecode at h
  obtain ⟨a, ha, h⟩ := bind_ok_inv h
  obtain ⟨dec, hdec, h⟩ := bind_ok_inv h
  obtain ⟨hlen, h⟩ := validateLength_bind_inv h
  obtain ⟨body, hbody, h⟩ := bind_ok_inv h
  obtain ⟨hck, h⟩ := guard_ne_ok_inv h
  obtain ⟨hv, h⟩ := validatePubKey_bind_inv h
  obtain rfl := pure_ok_inv h
  have hdec' : dec = [0, 0, 0] ++ dropLast body 5 ++ (blake2b40 (dropLast body 5)).reverse := by
    rw [removePrefix_ok_inv hbody, List.append_assoc, ← eq_append_of_takeLast hck]
  have hcan := base32_decode_canonical_full (custom_ok nanoAlphabet_ok) hdec (by rw [hlen])
  refine ⟨?_, ?_, hv⟩
  · rw [removePrefix_ok_inv ha, ← hdec', hcan]; simp
  · have := congrArg List.length hdec'
    rw [hlen] at this
    simp only [List.length_append, List.length_cons, List.length_nil, List.length_reverse,
      blake2b40_length] at this
    omega

/-! ### hex-text addresses: canonical up to letter case (the hex parser accepts `A`–`F`) -/

theorem suiDecode_sound {pfx addr : List Char} {b : Bytes} (h : suiDecode pfx addr = .ok b) :
    ∃ a, addr = pfx ++ a ∧ a.flatMap asciiCase.lower = hexOfBytes b ∧ b.length = 32 := by
  unfold suiDecode at h
  obtain ⟨a, ha, h⟩ := bind_ok_inv h
  obtain ⟨hlen, h⟩ := validateLength_bind_inv h
  have hl := bytesOfHex_length h
  exact ⟨a, removePrefix_ok_inv ha, bytesOfHex_lower h, by omega⟩

theorem icxDecode_sound {pfx addr : List Char} {b : Bytes} (h : icxDecode pfx addr = .ok b) :
    ∃ a, addr = pfx ++ a ∧ a.flatMap asciiCase.lower = hexOfBytes b ∧ b.length = 20 := by
  unfold icxDecode at h
  obtain ⟨a, ha, h⟩ := bind_ok_inv h
  obtain ⟨b', hb, h⟩ := bind_ok_inv h
  obtain ⟨hlen, h⟩ := validateLength_bind_inv h
  have : b' = b := pure_ok_inv h
  subst this
  exact ⟨a, removePrefix_ok_inv ha, bytesOfHex_lower hb, hlen⟩

theorem nearDecode_sound {addr : List Char} {b : Bytes} (h : nearDecode addr = .ok b) :
    addr.flatMap asciiCase.lower = hexOfBytes b ∧ b.length = 32 ∧ pubValid .ed25519 b = true := by
  unfold nearDecode at h
  obtain ⟨b', hb, h⟩ := bind_ok_inv h
  obtain ⟨hlen, h⟩ := validateLength_bind_inv h
  obtain ⟨hv, h⟩ := validatePubKey_bind_inv h
  have : b' = b := pure_ok_inv h
  subst this
  exact ⟨bytesOfHex_lower hb, hlen, hv⟩

theorem aptosDecode_sound {pfx addr : List Char} {b : Bytes} (h : aptosDecode pfx addr = .ok b) :
    ∃ a, addr = pfx ++ a ∧ a.length ≤ 64 ∧
      (List.replicate (64 - a.length) '0' ++ a).flatMap asciiCase.lower = hexOfBytes b ∧
      b.length = 32 := by
  unfold aptosDecode at h
  obtain ⟨a, ha, h⟩ := bind_ok_inv h
  dsimp only at h
  obtain ⟨hlen, h⟩ := validateLength_bind_inv h
  have hl := bytesOfHex_length h
  refine ⟨a, removePrefix_ok_inv ha, ?_, bytesOfHex_lower h, by omega⟩
  unfold rjust at hlen
  rw [List.length_append, List.length_replicate] at hlen
  omega

/-! ### Nimiq: canonical up to spaces (which are ignored anywhere, by design) -/

/-- The decoded hash must be 20 bytes long, a whole number of Base32 quanta: hence the canonical
Base32 text (`base32_decode_canonical_full`). -/
theorem nimDecode_sound {isD : Char → Bool} {pfx addr : List Char} {b : Bytes}
    (h : nimDecode isD pfx addr = .ok b) :
    addr.filter (· ≠ ' ') = pfx ++ nimChecksum isD (base32EncodeNoPad b (some nimAlphabet)) ++
        base32EncodeNoPad b (some nimAlphabet) ∧ b.length = 20 := by
  unfold nimDecode at h
  obtain ⟨a, ha, h⟩ := bind_ok_inv h
  obtain ⟨hlen, h⟩ := validateLength_bind_inv h
  obtain ⟨hck, h⟩ := guard_ne_ok_inv h
  obtain ⟨dec, hdec, h⟩ := bind_ok_inv h
  obtain ⟨h20, h⟩ := validateLength_bind_inv h
  obtain rfl := pure_ok_inv h
  have hcan := base32_decode_canonical_full (custom_ok nimAlphabet_ok) hdec (by rw [h20])
  refine ⟨?_, h20⟩
  rw [removePrefix_ok_inv ha, List.append_assoc, hcan, ← hck, List.take_append_drop]

/-! ### decode, then encode: the formats whose payload is the key itself

For these the canonicity statement closes into `encode (decode addr) = addr` (lower-cased for
Bech32 / hex text).  ed25519 and Monero keys only: there a valid 32-byte string is its own
canonical key (proved); for the ECDSA formats (EOS, Ergo) the same would need `KeyCanon`-style curve
facts about the returned 33 bytes and is not claimed. -/

theorem addrKey_of_valid {c : CurveT} (hc : EccLemmas.IsEd c) {k : Bytes} (hk : k.length = 32)
    (hv : pubValid c k = true) :
    addrKey c k = .ok (if c = .ed25519Monero then k else 0 :: k) := by
  obtain ⟨k', hk'⟩ := Option.isSome_iff_exists.mp hv
  obtain ⟨_, _, rfl⟩ := EccLemmas.pubFromBytes_ed_ok c hc k k' hk'
  rw [addrKey_ok_iff, hk', EccLemmas.edStripPrefix_of_length_32 k hk]

theorem addrKey_of_valid_ed {c : CurveT} (hc : c.isEdPrefixed = true) {k : Bytes}
    (hk : k.length = 32) (hv : pubValid c k = true) : addrKey c k = .ok (0 :: k) := by
  obtain ⟨hed, hne⟩ := isEd_of_isEdPrefixed hc
  rw [addrKey_of_valid hed hk hv, if_neg hne]

theorem addrKey_of_valid_monero {k : Bytes} (hk : k.length = 32)
    (hv : pubValid .ed25519Monero k = true) : addrKey .ed25519Monero k = .ok k :=
  addrKey_of_valid (.inr (.inr (.inr rfl))) hk hv

theorem sol_encode_decode {addr : List Char} {k : Bytes} (h : solDecode addr = .ok k) :
    solEncode k = .ok addr := by
  obtain ⟨ha, hl, hv⟩ := solDecode_sound h
  rw [solEncode_of_key (addrKey_of_valid_ed (c := .ed25519) rfl hl hv), ha]; rfl

theorem near_encode_decode {addr : List Char} {k : Bytes} (h : nearDecode addr = .ok k) :
    nearEncode k = .ok (addr.flatMap asciiCase.lower) := by
  obtain ⟨ha, hl, hv⟩ := nearDecode_sound h
  rw [nearEncode_of_key (addrKey_of_valid_ed (c := .ed25519) rfl hl hv), ha]; rfl

theorem egld_encode_decode {hrp addr : List Char} {k : Bytes} (h : egldDecode hrp addr = .ok k) :
    egldEncode hrp k = .ok (addr.flatMap asciiCase.lower) := by
  obtain ⟨ha, hl, hv⟩ := egldDecode_sound h
  rw [egldEncode_of_key hrp (addrKey_of_valid_ed (c := .ed25519) rfl hl hv), ← ha]
  exact (bech32Encode_eq hrp k).symm

theorem algo_encode_decode {addr : List Char} {k : Bytes} (h : algoDecodeAddr addr = .ok k) :
    algoEncodeAddr k = .ok addr := by
  obtain ⟨ha, hl, hv⟩ := algoDecode_sound h
  rw [algoEncodeAddr_of_key (addrKey_of_valid_ed (c := .ed25519) rfl hl hv)]
  exact congrArg Except.ok ha.symm

theorem xlm_encode_decode {addrType : Nat} {addr : List Char} {k : Bytes}
    (h : xlmDecode addrType addr = .ok k) : xlmEncode addrType k = .ok addr := by
  obtain ⟨t, ht, ha, hl, hv⟩ := xlmDecode_sound h
  rw [xlmEncode_of_key addrType (addrKey_of_valid_ed (c := .ed25519) rfl hl hv), ← ht,
    toBytesAuto_byte]
  exact congrArg Except.ok ha.symm

theorem nano_encode_decode {pfx addr : List Char} {k : Bytes} (h : nanoDecode pfx addr = .ok k) :
    nanoEncode pfx k = .ok addr := by
  obtain ⟨ha, hl, hv⟩ := nanoDecode_sound h
  rw [nanoEncode_of_key pfx (addrKey_of_valid_ed (c := .ed25519Blake2b) rfl hl hv)]
  exact congrArg Except.ok ha.symm

theorem substrateEd_encode_decode {fmt : Nat} {addr : List Char} {k : Bytes}
    (h : substrateEdDecode fmt addr = .ok k) : substrateEdEncode fmt k = .ok addr := by
  obtain ⟨ha, hl, hv⟩ := substrateEdDecode_sound h
  unfold substrateEdEncode
  rw [bind_ok_eq (addrKey_of_valid_ed (c := .ed25519) rfl hl hv)]
  exact ha

theorem xmr_encode_decode {netVer : Bytes} {payId : Option Bytes} {addr : List Char} {sv : Bytes}
    (h : xmrAddrDecode netVer payId addr = .ok sv) :
    ∃ s v, sv = s ++ v ∧ xmrAddrEncode netVer payId s v = .ok addr := by
  obtain ⟨s, v, hsv, hsl, hvl, hs, hv, hp, ha⟩ := xmrAddrDecode_sound h
  refine ⟨s, v, hsv, ?_⟩
  have ks := addrKey_of_valid_monero hsl hs
  have kv := addrKey_of_valid_monero hvl hv
  cases payId with
  | none => rw [xmrAddrEncode_of_keys netVer ks kv, ha]; rfl
  | some pid => rw [xmrAddrEncode_of_keys_int netVer pid (hp pid rfl) ks kv, ha]; rfl

end BipVerif.Model
