/-
Address formats of the Bech32 family: P2WPKH, P2TR, Cosmos (`atom`), Avalanche, Elrond, Zilliqa,
Bitcoin-Cash CashAddr P2PKH / P2SH — round trips and error kinds, and the error-kind analysis of
the three Bech32 decoders (no `IndexError` from `data[0]` / `conv[0]`).
-/
import BipVerif.Lemmas.Addr
import BipVerif.Lemmas.AddrBase58
import BipVerif.Lemmas.Bech32

namespace BipVerif.Model
open BipVerif BipVerif.Prim

theorem bechDecodeRaw_errors (U : CaseOracle) (k : BechKind) (s : List Char) {e : Err}
    (h : bechDecodeRaw U k s = .error e) : e = .value ∨ e = .checksum := by
  rw [bechDecodeRaw_eq_flat] at h
  have : C14MoreLemmas.Only (fun e => e = .value ∨ e = .checksum) (bechDecodeRawFlat U k s) := by
    unfold bechDecodeRawFlat
    cases rfind (s.flatMap U.lower) k.sep <;> simp only [ov, true_or, or_true]
  exact this.h e h

theorem bechDecodeRaw_ok_inv (U : CaseOracle) (k : BechKind) {s hrp : List Char} {data : List Nat}
    (h : bechDecodeRaw U k s = .ok (hrp, data)) : data ≠ [] ∧ ∀ x ∈ data, x < 32 := by
  obtain ⟨dp, -, hlen, hmem, -, rfl⟩ := bechDecodeRaw_ok U k h
  constructor
  · intro e
    have := congrArg List.length e
    rw [dropLast_length, List.length_map, List.length_nil] at this
    omega
  · intro x hx
    unfold dropLast at hx
    obtain ⟨c, hc, rfl⟩ := List.mem_map.mp (List.mem_of_mem_take hx)
    exact (charset_idx_getD (hmem c hc)).2

@[ov] theorem OnlyValue.fromBase32 (d : List Nat) : OnlyValue (fromBase32 d) := by
  unfold Model.fromBase32
  cases convertBits d 5 8 false with
  | none => exact .throw
  | some r => exact .pure _

@[ov] theorem OnlyValue.toBase32 (d : List Nat) : OnlyValue (toBase32 d) := by
  unfold Model.toBase32
  cases convertBits d 8 5 true with
  | none => exact .throw
  | some r => exact .pure _

theorem bechDecodeRaw_bind_errors {β : Type} (U : CaseOracle) (k : BechKind) (s : List Char)
    {g : List Char × List Nat → R β} (hg : ∀ r, bechDecodeRaw U k s = .ok r → OnlyValue (g r))
    {e : Err} (h : (bechDecodeRaw U k s >>= g) = .error e) : e = .value ∨ e = .checksum := by
  rcases bind_error_inv h with h | ⟨r, hr, h⟩
  · exact bechDecodeRaw_errors U k s h
  · exact Or.inl ((hg r hr).h e h)

theorem bech32Decode_errors (U : CaseOracle) (hrp s : List Char) {e : Err}
    (h : bech32Decode U hrp s = .error e) : e = .value ∨ e = .checksum := by
  unfold bech32Decode at h
  exact bechDecodeRaw_bind_errors U _ s (fun ⟨_, _⟩ _ => by simp only [ov]) h

@[ov] theorem OnlyValue.bech32 (U : CaseOracle) (hrp s : List Char) :
    OnlyValue (Model.ckToValue (bech32Decode U hrp s)) :=
  OnlyValue.ckToValue (fun _ h => bech32Decode_errors U hrp s h)

/-- SegWit: `data[0]` is read after the raw decoder guaranteed a non-empty data part. -/
theorem segwitDecode_errors (U : CaseOracle) (hrp s : List Char) {e : Err}
    (h : segwitDecode U hrp s = .error e) : e = .value ∨ e = .checksum := by
  unfold segwitDecode at h
  refine bechDecodeRaw_bind_errors U _ s (fun ⟨_, data⟩ hr => ?_) h
  cases data with
  | nil => exact absurd rfl (bechDecodeRaw_ok_inv U _ hr).1
  | cons a t =>
    simp only [pyIdx, List.getElem?_cons_zero]
    simp only [ov]

@[ov] theorem OnlyValue.segwit (U : CaseOracle) (hrp s : List Char) :
    OnlyValue (Model.ckToValue (segwitDecode U hrp s)) :=
  OnlyValue.ckToValue (fun _ h => segwitDecode_errors U hrp s h)

/-- 5→8 regrouping of a non-empty symbol string without padding, when it succeeds, yields at
least one byte (one symbol alone leaves 5 unconsumed bits and is refused). -/
theorem fromBase32_ne_nil {data conv : List Nat} (hne : data ≠ []) (hlt : ∀ x ∈ data, x < 32)
    (h : fromBase32 data = .ok conv) : conv ≠ [] := by
  unfold fromBase32 at h
  rw [convertBits_nopad 5 8 (by omega) data hlt] at h
  by_cases hc : 5 * data.length % 8 ≥ 5 ∨ ∃ b ∈ chunkRem 8 (symbolBits 5 data), b = true
  · rw [if_pos hc] at h; cases h
  · rw [if_neg hc] at h
    have hconv : conv = (fullChunks 8 (symbolBits 5 data)).map ofBitsBE := by cases h; rfl
    intro e
    have hl := congrArg List.length (hconv.symm.trans e)
    simp only [List.length_map, fullChunks, List.length_range, length_symbolBits,
      List.length_nil] at hl
    have hpos := List.length_pos_iff.mpr hne
    have : ¬ (5 * data.length % 8 ≥ 5) := fun h' => hc (Or.inl h')
    omega

/-- CashAddr: `conv[0]` is read from a non-empty conversion result. -/
theorem bchDecode_errors (U : CaseOracle) (hrp s : List Char) {e : Err}
    (h : bchDecode U hrp s = .error e) : e = .value ∨ e = .checksum := by
  unfold bchDecode at h
  refine bechDecodeRaw_bind_errors U _ s (fun ⟨_, data⟩ hr => ?_) h
  obtain ⟨hne, hlt⟩ := bechDecodeRaw_ok_inv U _ hr
  simp only [ov]
  exact fun _ conv hconv => OnlyValue.pyIdx_zero (fromBase32_ne_nil hne hlt hconv)

@[ov] theorem OnlyValue.bch (U : CaseOracle) (hrp s : List Char) :
    OnlyValue (Model.ckToValue (bchDecode U hrp s)) :=
  OnlyValue.ckToValue (fun _ h => bchDecode_errors U hrp s h)

@[ov] theorem bech32Encode_ov (hrp : List Char) (b : Bytes) : OnlyValue (bech32Encode hrp b) := by
  unfold bech32Encode
  exact OnlyValue.bind (OnlyValue.toBase32 _) (fun _ _ => .pure _)
@[ov] theorem segwitEncode_ov (hrp : List Char) (v : Nat) (b : Bytes) : OnlyValue (segwitEncode hrp v b) := by
  unfold segwitEncode
  exact OnlyValue.bind (OnlyValue.toBase32 _) (fun _ _ => .pure _)
@[ov] theorem bchEncode_ov (hrp : List Char) (nv b : Bytes) : OnlyValue (bchEncode hrp nv b) := by
  unfold bchEncode
  exact OnlyValue.bind (OnlyValue.toBase32 _) (fun _ _ => .pure _)

theorem bech32Decode_of_encode (hrp : List Char) (hv : ValidHrp hrp) (b : Bytes) (hb : b ≠ [])
    {addr : List Char} (h : bech32Encode hrp b = .ok addr) :
    bech32Decode asciiCase hrp addr = .ok b := by
  have := bech32_decode_encode hrp hv b hb
  rwa [bind_ok_eq h] at this

theorem segwitDecode_of_encode (hrp : List Char) (hv : ValidHrp hrp) (witVer : Nat) (prog : Bytes)
    (hw : witVer ≤ 16) (h2 : 2 ≤ prog.length) (h40 : prog.length ≤ 40)
    (h0 : witVer = 0 → prog.length = 20 ∨ prog.length = 32)
    {addr : List Char} (h : segwitEncode hrp witVer prog = .ok addr) :
    segwitDecode asciiCase hrp addr = .ok (witVer, prog) := by
  have := segwit_decode_encode hrp hv witVer prog hw h2 h40 h0
  rwa [bind_ok_eq h] at this

theorem bchDecode_of_encode (hrp : List Char) (hv : ValidHrp hrp) (nv : UInt8) (data : Bytes)
    {addr : List Char} (h : bchEncode hrp [nv] data = .ok addr) :
    bchDecode asciiCase hrp addr = .ok ([nv], data) := by
  have := bch_decode_encode hrp hv nv data
  rwa [bind_ok_eq h] at this

theorem p2wpkh_decode_encode (hrp : List Char) (hv : ValidHrp hrp) (pub : Bytes) (addr : List Char)
    (h : p2wpkhEncode hrp pub = .ok addr) :
    ∃ k, addrKey .secp256k1 pub = .ok k ∧ p2wpkhDecode hrp addr = .ok (hash160 k) := by
  unfold p2wpkhEncode at h
  obtain ⟨k, hk, h⟩ := bind_ok_inv h
  refine ⟨k, hk, ?_⟩
  have hl := hash160_length k
  have hd := segwitDecode_of_encode hrp hv 0 (hash160 k) (by omega) (by omega) (by omega)
    (fun _ => Or.inl hl) h
  unfold p2wpkhDecode
  rw [hd, ckToValue_ok]
  simp only [bind, Except.bind, ne_eq, not_true_eq_false, if_false, validateLength_ok _ _ hl]
  rfl

@[ov] theorem p2wpkhEncode_ov (hrp : List Char) (pub : Bytes) : OnlyValue (p2wpkhEncode hrp pub) := by
  unfold p2wpkhEncode; simp only [ov]
@[ov] theorem p2wpkhDecode_ov (hrp addr : List Char) : OnlyValue (p2wpkhDecode hrp addr) := by
  unfold p2wpkhDecode; simp only [ov]

theorem p2trTweak_length {k t : Bytes} (h : p2trTweak k = .ok t) : t.length = 32 := by
  unfold p2trTweak at h
  simp only at h
  split at h
  · split at h
    · obtain ⟨ev, _, h⟩ := bind_ok_inv h
      split at h
      · have : Bytes.ofNatBE 32 _ = t := pure_ok_inv h
        rw [← this, length_ofNatBE]
      · cases h
    · cases h
  · cases h

@[ov] theorem p2trTweak_ov (k : Bytes) : OnlyValue (p2trTweak k) := by
  unfold p2trTweak
  dsimp only
  split
  · split <;> simp only [ov]
    intro q _
    split <;> simp only [ov]
  · simp only [ov]

theorem p2tr_decode_encode (hrp : List Char) (hv : ValidHrp hrp) (pub : Bytes) (addr : List Char)
    (h : p2trEncode hrp pub = .ok addr) :
    ∃ k t, addrKey .secp256k1 pub = .ok k ∧ p2trTweak k = .ok t ∧ t.length = 32 ∧
      p2trDecode hrp addr = .ok t := by
  unfold p2trEncode at h
  obtain ⟨k, hk, h⟩ := bind_ok_inv h
  obtain ⟨t, ht, h⟩ := bind_ok_inv h
  have hl := p2trTweak_length ht
  refine ⟨k, t, hk, ht, hl, ?_⟩
  have hd := segwitDecode_of_encode hrp hv 1 t (by omega) (by omega) (by omega)
    (fun h => absurd h (by omega)) h
  unfold p2trDecode
  rw [hd, ckToValue_ok]
  simp only [bind, Except.bind, validateLength_ok _ _ hl]
  rfl

@[ov] theorem p2trEncode_ov (hrp : List Char) (pub : Bytes) : OnlyValue (p2trEncode hrp pub) := by
  unfold p2trEncode; simp only [ov]
@[ov] theorem p2trDecode_ov (hrp addr : List Char) : OnlyValue (p2trDecode hrp addr) := by
  unfold p2trDecode; simp only [ov]

theorem atomDecode_of_encode (hrp : List Char) (hv : ValidHrp hrp) (b : Bytes) (hb : b.length = 20)
    {addr : List Char} (h : bech32Encode hrp b = .ok addr) : atomDecode hrp addr = .ok b := by
  unfold atomDecode
  rw [bech32Decode_of_encode hrp hv b (ne_nil_of_length_pos hb (by omega)) h, ckToValue_ok]
  simp only [bind, Except.bind, validateLength_ok _ _ hb]
  rfl

theorem atom_decode_encode (hrp : List Char) (hv : ValidHrp hrp) (pub : Bytes) (addr : List Char)
    (h : atomEncode hrp pub = .ok addr) :
    ∃ k, addrKey .secp256k1 pub = .ok k ∧ atomDecode hrp addr = .ok (hash160 k) := by
  unfold atomEncode at h
  obtain ⟨k, hk, h⟩ := bind_ok_inv h
  exact ⟨k, hk, atomDecode_of_encode hrp hv _ (hash160_length k) h⟩

@[ov] theorem atomEncode_ov (hrp : List Char) (pub : Bytes) : OnlyValue (atomEncode hrp pub) := by
  unfold atomEncode; simp only [ov]
@[ov] theorem atomDecode_ov (hrp addr : List Char) : OnlyValue (atomDecode hrp addr) := by
  unfold atomDecode; simp only [ov]

/-- Avalanche: a `P-` / `X-` prefix in front of the Cosmos form. -/
theorem avax_decode_encode (pfx hrp : List Char) (hv : ValidHrp hrp) (pub : Bytes)
    (addr : List Char) (h : avaxEncode pfx hrp pub = .ok addr) :
    ∃ k, addrKey .secp256k1 pub = .ok k ∧ avaxDecode pfx hrp addr = .ok (hash160 k) := by
  unfold avaxEncode at h
  obtain ⟨a, ha, h⟩ := bind_ok_inv h
  obtain ⟨k, hk, hd⟩ := atom_decode_encode hrp hv pub a ha
  refine ⟨k, hk, ?_⟩
  rw [← pure_ok_inv h]
  unfold avaxDecode
  rw [removePrefix_append]
  exact hd

@[ov] theorem avaxEncode_ov (pfx hrp : List Char) (pub : Bytes) : OnlyValue (avaxEncode pfx hrp pub) := by
  unfold avaxEncode; simp only [ov]
@[ov] theorem avaxDecode_ov (pfx hrp addr : List Char) : OnlyValue (avaxDecode pfx hrp addr) := by
  unfold avaxDecode; simp only [ov]

/-- Zilliqa: the last 20 bytes of SHA-256 of the key, decoded by the Cosmos decoder. -/
theorem zil_decode_encode (hrp : List Char) (hv : ValidHrp hrp) (pub : Bytes) (addr : List Char)
    (h : zilEncode hrp pub = .ok addr) :
    ∃ k, addrKey .secp256k1 pub = .ok k ∧ atomDecode hrp addr = .ok (takeLast (sha256 k) 20) := by
  unfold zilEncode at h
  obtain ⟨k, hk, h⟩ := bind_ok_inv h
  refine ⟨k, hk, atomDecode_of_encode hrp hv _ ?_ h⟩
  rw [takeLast_length_of_le _ _ (by rw [sha256_length]; omega)]

@[ov] theorem zilEncode_ov (hrp : List Char) (pub : Bytes) : OnlyValue (zilEncode hrp pub) := by
  unfold zilEncode; simp only [ov]

/-- Elrond: the payload is the raw 32-byte ed25519 key. -/
theorem egld_decode_encode (hrp : List Char) (hv : ValidHrp hrp) (pub : Bytes) (addr : List Char)
    (h : egldEncode hrp pub = .ok addr) :
    ∃ k, addrKey .ed25519 pub = .ok k ∧ egldDecode hrp addr = .ok (k.drop 1) := by
  unfold egldEncode at h
  obtain ⟨k, hk, h⟩ := bind_ok_inv h
  obtain ⟨_, h32, _, _, hval⟩ := addrKey_ed_inv (c := .ed25519) rfl hk
  refine ⟨k, hk, ?_⟩
  unfold egldDecode
  rw [bech32Decode_of_encode hrp hv _ (ne_nil_of_length_pos h32 (by omega)) h, ckToValue_ok]
  simp only [bind, Except.bind, validateLength_ok _ _ h32, validatePubKey_ok _ _ hval]
  rfl

@[ov] theorem egldEncode_ov (hrp : List Char) (pub : Bytes) : OnlyValue (egldEncode hrp pub) := by
  unfold egldEncode; simp only [ov]
@[ov] theorem egldDecode_ov (hrp addr : List Char) : OnlyValue (egldDecode hrp addr) := by
  unfold egldDecode; simp only [ov]

theorem bchAddrDecode_of_encode (hrp : List Char) (hv : ValidHrp hrp) (nv : UInt8) (b : Bytes)
    (hb : b.length = 20) {addr : List Char} (h : bchEncode hrp [nv] b = .ok addr) :
    bchAddrDecode hrp [nv] addr = .ok b := by
  unfold bchAddrDecode
  rw [bchDecode_of_encode hrp hv nv b h, ckToValue_ok]
  simp only [bind, Except.bind, ne_eq, not_true_eq_false, if_false, validateLength_ok _ _ hb]
  rfl

theorem bchP2pkh_decode_encode (hrp : List Char) (hv : ValidHrp hrp) (nv : UInt8) (pub : Bytes)
    (addr : List Char) (h : bchP2pkhEncode hrp [nv] pub = .ok addr) :
    ∃ k, addrKey .secp256k1 pub = .ok k ∧ bchAddrDecode hrp [nv] addr = .ok (hash160 k) := by
  unfold bchP2pkhEncode at h
  obtain ⟨k, hk, h⟩ := bind_ok_inv h
  exact ⟨k, hk, bchAddrDecode_of_encode hrp hv nv _ (hash160_length k) h⟩

theorem bchP2sh_decode_encode (hrp : List Char) (hv : ValidHrp hrp) (nv : UInt8) (pub : Bytes)
    (addr : List Char) (h : bchP2shEncode hrp [nv] pub = .ok addr) :
    ∃ k, addrKey .secp256k1 pub = .ok k ∧ bchAddrDecode hrp [nv] addr = .ok (p2shScriptHash k) := by
  unfold bchP2shEncode at h
  obtain ⟨k, hk, h⟩ := bind_ok_inv h
  exact ⟨k, hk, bchAddrDecode_of_encode hrp hv nv _ (p2shScriptHash_length k) h⟩

@[ov] theorem bchP2pkhEncode_ov (hrp : List Char) (nv pub : Bytes) :
    OnlyValue (bchP2pkhEncode hrp nv pub) := by
  unfold bchP2pkhEncode; simp only [ov]
@[ov] theorem bchP2shEncode_ov (hrp : List Char) (nv pub : Bytes) :
    OnlyValue (bchP2shEncode hrp nv pub) := by
  unfold bchP2shEncode; simp only [ov]
@[ov] theorem bchAddrDecode_ov (hrp : List Char) (nv : Bytes) (addr : List Char) :
    OnlyValue (bchAddrDecode hrp nv addr) := by
  unfold bchAddrDecode; simp only [ov]

@[ov] theorem injDecode_ov (hrp addr : List Char) : OnlyValue (injDecode hrp addr) :=
  atomDecode_ov hrp addr
@[ov] theorem ethBech32Decode_ov (hrp addr : List Char) : OnlyValue (ethBech32Decode hrp addr) := by
  unfold ethBech32Decode; simp only [ov]

end BipVerif.Model
