/-
The table checkers of `BipVerif.Model.TableCheck` decide what they are named after.  For a generated
table `tbl : List Nat` (2048 big literals) they are used as

    theorem tbl_nodupCheck : nodupCheck tbl = true := by decide +kernel
    theorem tbl_nodup : tbl.Nodup := nodupCheck_sound tbl tbl_nodupCheck

The soundness proofs never need that `msort` sorts - only that it permutes - so neither the fuel
of `sortGo` nor the depth argument of `sortD` shows up in any hypothesis.  The converses do need it
and carry the bound `l.length ≤ 2 ^ 64` that the fuel imposes.
-/
import BipVerif.Model.TableCheck

namespace BipVerif.Table

theorem merge_perm (xs ys : List Nat) : (merge xs ys).Perm (xs ++ ys) := by
  induction xs generalizing ys with
  | nil => rw [merge_nil]; exact List.Perm.refl _
  | cons x xs ihx =>
    induction ys with
    | nil => rw [merge_cons_nil, List.append_nil]
    | cons y ys ihy =>
      rw [merge_cons_cons]
      cases Nat.ble x y with
      | true =>
        rw [bsel_true]
        exact (ihx (y :: ys)).cons x
      | false =>
        rw [bsel_false]
        exact (ihy.cons y).trans List.perm_middle.symm

theorem sortD_perm (d : Nat) (l : List Nat) : ((sortD d l).1 ++ (sortD d l).2).Perm l := by
  induction d generalizing l with
  | zero =>
    cases l with
    | nil => exact List.Perm.refl _
    | cons x xs => exact List.Perm.refl _
  | succ d ih =>
    rw [sortD_succ]
    have h1 := ih l
    cases hr : (sortD d l).2 with
    | nil =>
      rw [hr] at h1
      simpa using h1
    | cons y ys =>
      rw [hr] at h1
      have h2 := ih (y :: ys)
      show (merge (sortD d l).1 (sortD d (y :: ys)).1 ++ (sortD d (y :: ys)).2).Perm l
      refine List.Perm.trans ?_ h1
      refine ((merge_perm _ _).append_right _).trans ?_
      rw [List.append_assoc]
      exact h2.append_left _

theorem sortGo_perm (f d : Nat) (a r : List Nat) : (sortGo f d a r).Perm (a ++ r) := by
  induction f generalizing d a r with
  | zero => rw [sortGo_zero]; exact merge_perm a r
  | succ f ih =>
    cases r with
    | nil => rw [sortGo_succ_nil, List.append_nil]
    | cons y ys =>
      rw [sortGo_succ_cons]
      refine (ih _ _ _).trans ?_
      refine ((merge_perm _ _).append_right _).trans ?_
      rw [List.append_assoc]
      exact (sortD_perm d (y :: ys)).append_left _

theorem msort_perm (l : List Nat) : (msort l).Perm l := by
  cases l with
  | nil => rw [msort_nil]
  | cons x xs => rw [msort_cons]; exact sortGo_perm 64 0 [x] xs

theorem strictFrom_sound (t : List Nat) (a : Nat) (h : strictFrom t a = true) :
    List.Pairwise (· < ·) (a :: t) := by
  induction t generalizing a with
  | nil => exact List.pairwise_singleton _ _
  | cons b t ih =>
    rw [strictFrom_cons, band_eq_and, Bool.and_eq_true] at h
    have hab : a < b := by
      have := h.1
      rw [Nat.blt_eq] at this
      exact this
    have hbt := ih b h.2
    rw [List.pairwise_cons] at hbt ⊢
    refine ⟨?_, List.pairwise_cons.mpr hbt⟩
    intro x hx
    rcases List.mem_cons.mp hx with rfl | hx
    · exact hab
    · exact Nat.lt_trans hab (hbt.1 x hx)

theorem strictSorted_sound (l : List Nat) (h : strictSorted l = true) :
    List.Pairwise (· < ·) l := by
  cases l with
  | nil => exact List.Pairwise.nil
  | cons a t => exact strictFrom_sound t a h

theorem strictSorted_nodup (l : List Nat) (h : strictSorted l = true) : l.Nodup :=
  (strictSorted_sound l h).imp (fun hlt => Nat.ne_of_lt hlt)

theorem nodupCheck_sound (l : List Nat) (h : nodupCheck l = true) : l.Nodup :=
  (msort_perm l).nodup_iff.mp (strictSorted_nodup _ h)

theorem disjointCheck_sound {a b : List Nat} (h : disjointCheck a b = true) : (a ++ b).Nodup :=
  ((merge_perm _ _).trans ((msort_perm a).append (msort_perm b))).nodup_iff.mp
    (strictSorted_nodup _ h)

theorem allB_sound (p : Nat → Bool) (l : List Nat) (h : allB p l = true) :
    ∀ x ∈ l, p x = true := by
  induction l with
  | nil => intro x hx; cases hx
  | cons a t ih =>
    rw [allB_cons, band_eq_and, Bool.and_eq_true] at h
    intro x hx
    rcases List.mem_cons.mp hx with rfl | hx
    · exact h.1
    · exact ih h.2 x hx

theorem allB_complete (p : Nat → Bool) (l : List Nat) (h : ∀ x ∈ l, p x = true) :
    allB p l = true := by
  induction l with
  | nil => rfl
  | cons a t ih =>
    rw [allB_cons, band_eq_and, Bool.and_eq_true]
    exact ⟨h a (List.mem_cons_self ..), ih (fun x hx => h x (List.mem_cons_of_mem _ hx))⟩

theorem allLt_sound (bound : Nat) (l : List Nat) (h : allLt bound l = true) :
    ∀ x ∈ l, x < bound := by
  intro x hx
  have := allB_sound _ l h x hx
  rw [Nat.blt_eq] at this
  exact this

theorem lengthR_eq (l : List Nat) : lengthR l = l.length := by
  induction l with
  | nil => rfl
  | cons a t ih => show Nat.succ (lengthR t) = _; rw [ih]; rfl

theorem mapR_eq_map (f : Nat → Nat) (l : List Nat) : mapR f l = l.map f := by
  induction l with
  | nil => rfl
  | cons a t ih => rw [mapR_cons, ih]; rfl

theorem listEqCheck_sound (a b : List Nat) (h : listEqCheck a b = true) : a = b := by
  induction a generalizing b with
  | nil =>
    cases b with
    | nil => rfl
    | cons y ys => rw [listEqCheck_nil_cons] at h; cases h
  | cons x xs ih =>
    cases b with
    | nil => rw [listEqCheck_cons_nil] at h; cases h
    | cons y ys =>
      rw [listEqCheck_cons_cons, band_eq_and, Bool.and_eq_true] at h
      rw [Nat.eq_of_beq_eq_true h.1, ih ys h.2]

theorem listEqCheck_refl (a : List Nat) : listEqCheck a a = true := by
  induction a with
  | nil => rfl
  | cons x xs ih =>
    rw [listEqCheck_cons_cons, band_eq_and, Bool.and_eq_true]
    exact ⟨Nat.beq_refl x, ih⟩

theorem listEqCheck_iff (a b : List Nat) : listEqCheck a b = true ↔ a = b :=
  ⟨listEqCheck_sound a b, fun h => h ▸ listEqCheck_refl a⟩

theorem nodup_of_nodup_map {α β : Type} (f : α → β) (m : List α) (h : (m.map f).Nodup) :
    m.Nodup := by
  induction m with
  | nil => exact List.nodup_nil
  | cons a t ih =>
    rw [List.map_cons, List.nodup_cons] at h
    rw [List.nodup_cons]
    exact ⟨fun hmem => h.1 (List.mem_map_of_mem hmem), ih h.2⟩

theorem prefEnc_eq (bytes : List Nat) (k a : Nat) :
    prefEnc bytes k a = encodeFrom (utf8Prefix k bytes) a := by
  induction bytes generalizing k a with
  | nil => rfl
  | cons b t ih =>
    rw [prefEnc_cons]
    by_cases hb : b / 64 = 2
    · rw [utf8Prefix_cons_cont k b t hb, encodeFrom_cons, hb]
      exact ih k _
    · have hbeq : Nat.beq (b / 64) 2 = false := by
        cases hc : Nat.beq (b / 64) 2 with
        | false => rfl
        | true => exact absurd (Nat.eq_of_beq_eq_true hc) hb
      rw [hbeq]
      cases k with
      | zero => rw [utf8Prefix_zero_cons_start b t hb]; rfl
      | succ k =>
        rw [utf8Prefix_succ_cons_start k b t hb, encodeFrom_cons]
        exact ih k _

theorem prefixKey_eq (k w : Nat) : prefixKey k w = encodeBytes (utf8Prefix k (wordBytesNat w)) :=
  prefEnc_eq _ _ _

theorem mapR_prefixKey (k : Nat) (l : List Nat) :
    mapR (prefixKey k) l = (l.map (fun w => utf8Prefix k (wordBytesNat w))).map encodeBytes := by
  rw [mapR_eq_map, List.map_map]
  exact List.map_congr_left (fun w _ => prefixKey_eq k w)

theorem prefix_nodup_of_keys_nodup (k : Nat) (l : List Nat) (h : (mapR (prefixKey k) l).Nodup) :
    (l.map (fun w => utf8Prefix k (wordBytesNat w))).Nodup :=
  nodup_of_nodup_map encodeBytes _ (mapR_prefixKey k l ▸ h)

theorem prefixNodupCheck_sound (k : Nat) (l : List Nat) (h : prefixNodupCheck k l = true) :
    (l.map (fun w => utf8Prefix k (wordBytesNat w))).Nodup :=
  prefix_nodup_of_keys_nodup k l (nodupCheck_sound _ h)

theorem prefixSortedOrNodupCheck_sound (k : Nat) (l : List Nat)
    (h : prefixSortedOrNodupCheck k l = true) :
    (l.map (fun w => utf8Prefix k (wordBytesNat w))).Nodup :=
  (Bool.or_eq_true_iff.mp h).elim (fun h => prefix_nodup_of_keys_nodup k l (strictSorted_nodup _ h))
    (prefixNodupCheck_sound k l)

theorem prefixNodupCheck_nodup (k : Nat) (l : List Nat) (h : prefixNodupCheck k l = true) :
    l.Nodup :=
  nodup_of_nodup_map _ _ (prefixNodupCheck_sound k l h)

theorem encodeFrom_append (bs cs : List Nat) (a : Nat) :
    encodeFrom (bs ++ cs) a = encodeFrom cs (encodeFrom bs a) := by
  induction bs generalizing a with
  | nil => rfl
  | cons b t ih => rw [List.cons_append, encodeFrom_cons, encodeFrom_cons, ih]

theorem encodeFrom_snoc (bs : List Nat) (b a : Nat) :
    encodeFrom (bs ++ [b]) a = encodeFrom bs a * 256 + b := by
  rw [encodeFrom_append]; rfl

theorem le_encodeFrom (bs : List Nat) (a : Nat) : a ≤ encodeFrom bs a := by
  induction bs generalizing a with
  | nil => exact Nat.le_refl _
  | cons b t ih =>
    rw [encodeFrom_cons]
    exact Nat.le_trans (by omega) (ih _)

theorem length_add_le_encodeFrom (bs : List Nat) (a : Nat) (ha : 1 ≤ a) :
    bs.length + a ≤ encodeFrom bs a := by
  induction bs generalizing a with
  | nil => exact Nat.le_of_eq (Nat.zero_add a)
  | cons b t ih =>
    have h : 1 + a ≤ a * 256 + b := by omega
    rw [encodeFrom_cons, List.length_cons, Nat.add_assoc]
    exact Nat.le_trans (Nat.add_le_add_left h _) (ih _ (Nat.le_trans (Nat.le_add_right 1 a) h))

theorem length_lt_encodeFrom (bs : List Nat) (a : Nat) (ha : 1 ≤ a) :
    bs.length < encodeFrom bs a := by
  have := length_add_le_encodeFrom bs a ha
  omega

theorem bytesAux_encodeFrom (bs : List Nat) (hbs : ∀ b ∈ bs, b < 256) (a : Nat) (ha : 1 ≤ a)
    (f : Nat) (acc : List Nat) :
    bytesAux (f + bs.length) (encodeFrom bs a) acc = bytesAux f a (bs ++ acc) := by
  induction bs generalizing f a with
  | nil => rfl
  | cons b t ih =>
    have hb : b < 256 := hbs b (List.mem_cons_self ..)
    have ht : ∀ x ∈ t, x < 256 := fun x hx => hbs x (List.mem_cons_of_mem _ hx)
    have h2 : 2 ≤ a * 256 + b := by omega
    rw [encodeFrom_cons, List.length_cons, ← Nat.add_assoc, Nat.add_right_comm f,
      ih ht (a * 256 + b) (Nat.le_of_succ_le h2) (f + 1), bytesAux_succ]
    have hble : Nat.ble (a * 256 + b) 1 = false :=
      Bool.eq_false_iff.mpr fun hc => Nat.not_succ_le_self 1 (Nat.le_trans h2 (Nat.le_of_ble_eq_true hc))
    have hdiv : (a * 256 + b) / 256 = a := by
      rw [Nat.add_comm, Nat.add_mul_div_right _ _ (by decide), Nat.div_eq_of_lt hb, Nat.zero_add]
    have hmod : (a * 256 + b) % 256 = b := by
      rw [Nat.add_comm, Nat.add_mul_mod_self_right, Nat.mod_eq_of_lt hb]
    rw [hble, bsel_false, hdiv, hmod]
    rfl

theorem wordBytesNat_encodeBytes (bs : List Nat) (hbs : ∀ b ∈ bs, b < 256) :
    wordBytesNat (encodeBytes bs) = bs := by
  unfold wordBytesNat encodeBytes
  have hlt := length_lt_encodeFrom bs 1 (Nat.le_refl 1)
  obtain ⟨f, hf⟩ : ∃ f, encodeFrom bs 1 = f + bs.length := ⟨encodeFrom bs 1 - bs.length, by omega⟩
  conv => lhs; arg 1; rw [hf]
  rw [bytesAux_encodeFrom bs hbs 1 (Nat.le_refl 1) f [], List.append_nil]
  cases f with
  | zero => rfl
  | succ f => rw [bytesAux_succ]; rfl

theorem encodeBytes_injective (bs cs : List Nat) (hbs : ∀ b ∈ bs, b < 256)
    (hcs : ∀ b ∈ cs, b < 256) (h : encodeBytes bs = encodeBytes cs) : bs = cs := by
  rw [← wordBytesNat_encodeBytes bs hbs, ← wordBytesNat_encodeBytes cs hcs, h]

/-! ### completeness

With it a `false` answer of a checker refutes the property.  It needs that `msort` really sorts,
hence the bound `l.length ≤ 2 ^ 64` coming from the fuel of `sortGo`. -/

def SortedLe (l : List Nat) : Prop := List.Pairwise (· ≤ ·) l

theorem mem_merge {z : Nat} {xs ys : List Nat} : z ∈ merge xs ys ↔ z ∈ xs ∨ z ∈ ys := by
  rw [(merge_perm xs ys).mem_iff, List.mem_append]

theorem merge_sorted (xs ys : List Nat) (hx : SortedLe xs) (hy : SortedLe ys) :
    SortedLe (merge xs ys) := by
  induction xs generalizing ys with
  | nil => rw [merge_nil]; exact hy
  | cons x xs ihx =>
    induction ys with
    | nil => rw [merge_cons_nil]; exact hx
    | cons y ys ihy =>
      rw [merge_cons_cons]
      have hx' := List.pairwise_cons.mp hx
      have hy' := List.pairwise_cons.mp hy
      cases hble : Nat.ble x y with
      | true =>
        rw [bsel_true]
        have hxy : x ≤ y := Nat.le_of_ble_eq_true hble
        refine List.pairwise_cons.mpr ⟨?_, ihx (y :: ys) hx'.2 hy⟩
        intro z hz
        rcases mem_merge.mp hz with h | h
        · exact hx'.1 z h
        · rcases List.mem_cons.mp h with rfl | h
          · exact hxy
          · exact Nat.le_trans hxy (hy'.1 z h)
      | false =>
        rw [bsel_false]
        have hyx : y ≤ x := by
          have : ¬ x ≤ y := fun h => by rw [Nat.ble_eq_true_of_le h] at hble; cases hble
          omega
        refine List.pairwise_cons.mpr ⟨?_, ihy hy'.2⟩
        intro z hz
        rcases mem_merge.mp hz with h | h
        · rcases List.mem_cons.mp h with rfl | h
          · exact hyx
          · exact Nat.le_trans hyx (hx'.1 z h)
        · exact hy'.1 z h

theorem sortD_sorted (d : Nat) (l : List Nat) : SortedLe (sortD d l).1 := by
  induction d generalizing l with
  | zero =>
    cases l with
    | nil => exact List.Pairwise.nil
    | cons x xs => exact List.pairwise_singleton _ _
  | succ d ih =>
    rw [sortD_succ]
    cases hr : (sortD d l).2 with
    | nil => exact ih l
    | cons y ys => exact merge_sorted _ _ (ih l) (ih (y :: ys))

/-- `sortD (d + 1)` takes `2 ^ d` elements twice -/
theorem sortD_length_snd (d : Nat) (l : List Nat) : (sortD d l).2.length = l.length - 2 ^ d := by
  induction d generalizing l with
  | zero =>
    cases l with
    | nil => rfl
    | cons x xs => exact (Nat.add_sub_cancel ..).symm
  | succ d ih =>
    rw [sortD_succ, Nat.pow_succ, Nat.mul_two, ← Nat.sub_sub, ← ih l]
    cases hr : (sortD d l).2 with
    | nil => exact (Nat.zero_sub _).symm
    | cons y ys => exact ih (y :: ys)

theorem sortGo_sorted (f d : Nat) (a r : List Nat) (ha : SortedLe a)
    (hr : r.length + 2 ^ d ≤ 2 ^ (d + f)) : SortedLe (sortGo f d a r) := by
  induction f generalizing d a r with
  | zero =>
    have : r = [] := List.eq_nil_of_length_eq_zero (by rw [Nat.add_zero] at hr; omega)
    subst this
    rw [sortGo_zero]
    exact merge_sorted _ _ ha List.Pairwise.nil
  | succ f ih =>
    cases r with
    | nil => rw [sortGo_succ_nil]; exact ha
    | cons y ys =>
      rw [sortGo_succ_cons]
      refine ih (d + 1) _ _ (merge_sorted _ _ ha (sortD_sorted d (y :: ys))) ?_
      have hmono : 2 ^ (d + 1) ≤ 2 ^ (d + (f + 1)) := Nat.pow_le_pow_right (by decide) (by omega)
      rw [sortD_length_snd, Nat.add_right_comm d 1 f, Nat.add_assoc d f 1]
      omega

theorem msort_sorted (l : List Nat) (hl : l.length ≤ 2 ^ 64) : SortedLe (msort l) := by
  cases l with
  | nil => exact List.Pairwise.nil
  | cons x xs =>
    rw [msort_cons]
    refine sortGo_sorted 64 0 [x] xs (List.pairwise_singleton _ _) ?_
    simp only [List.length_cons] at hl
    simpa using hl

theorem strictFrom_complete (t : List Nat) (a : Nat) (h : List.Pairwise (· < ·) (a :: t)) :
    strictFrom t a = true := by
  induction t generalizing a with
  | nil => rfl
  | cons b t ih =>
    have h' := List.pairwise_cons.mp h
    rw [strictFrom_cons, band_eq_and, Bool.and_eq_true]
    refine ⟨?_, ih b h'.2⟩
    rw [Nat.blt_eq]
    exact h'.1 b (List.mem_cons_self ..)

theorem strictSorted_complete (l : List Nat) (h : List.Pairwise (· < ·) l) :
    strictSorted l = true := by
  cases l with
  | nil => rfl
  | cons a t => exact strictFrom_complete t a h

theorem nodupCheck_complete (l : List Nat) (hl : l.length ≤ 2 ^ 64) (h : l.Nodup) :
    nodupCheck l = true := by
  apply strictSorted_complete
  have hn : (msort l).Nodup := (msort_perm l).nodup_iff.mpr h
  have hs : SortedLe (msort l) := msort_sorted l hl
  exact (List.Pairwise.and hs hn).imp (fun hab => Nat.lt_of_le_of_ne hab.1 hab.2)

theorem nodupCheck_iff (l : List Nat) (hl : l.length ≤ 2 ^ 64) : nodupCheck l = true ↔ l.Nodup :=
  ⟨nodupCheck_sound l, nodupCheck_complete l hl⟩

theorem not_nodup_of_nodupCheck_eq_false (l : List Nat) (hl : l.length ≤ 2 ^ 64)
    (h : nodupCheck l = false) : ¬ l.Nodup := by
  intro hn
  rw [nodupCheck_complete l hl hn] at h
  cases h

theorem bytesAux_lt (f n : Nat) (acc : List Nat) (hacc : ∀ b ∈ acc, b < 256) :
    ∀ b ∈ bytesAux f n acc, b < 256 := by
  induction f generalizing n acc with
  | zero => exact hacc
  | succ f ih =>
    rw [bytesAux_succ]
    cases Nat.ble n 1 with
    | true => rw [bsel_true]; exact hacc
    | false =>
      rw [bsel_false]
      apply ih
      intro b hb
      rcases List.mem_cons.mp hb with rfl | hb
      · exact Nat.mod_lt _ (by omega)
      · exact hacc b hb

theorem wordBytesNat_lt (n : Nat) : ∀ b ∈ wordBytesNat n, b < 256 :=
  bytesAux_lt n n [] (fun _ h => by cases h)

theorem mem_of_mem_utf8Prefix (k : Nat) (l : List Nat) : ∀ b ∈ utf8Prefix k l, b ∈ l := by
  induction l generalizing k with
  | nil => intro b hb; rw [utf8Prefix_nil] at hb; cases hb
  | cons c t ih =>
    intro b hb
    by_cases hc : c / 64 = 2
    · rw [utf8Prefix_cons_cont k c t hc] at hb
      rcases List.mem_cons.mp hb with rfl | hb
      · exact List.mem_cons_self ..
      · exact List.mem_cons_of_mem _ (ih k b hb)
    · cases k with
      | zero => rw [utf8Prefix_zero_cons_start c t hc] at hb; cases hb
      | succ k =>
        rw [utf8Prefix_succ_cons_start k c t hc] at hb
        rcases List.mem_cons.mp hb with rfl | hb
        · exact List.mem_cons_self ..
        · exact List.mem_cons_of_mem _ (ih k b hb)

theorem nodup_map_of_injOn {α β : Type} (f : α → β) (m : List α)
    (hinj : ∀ a ∈ m, ∀ b ∈ m, f a = f b → a = b) (h : m.Nodup) : (m.map f).Nodup := by
  induction m with
  | nil => exact List.nodup_nil
  | cons a t ih =>
    rw [List.nodup_cons] at h
    rw [List.map_cons, List.nodup_cons]
    refine ⟨?_, ih (fun x hx y hy => hinj x (List.mem_cons_of_mem _ hx) y (List.mem_cons_of_mem _ hy)) h.2⟩
    intro hmem
    obtain ⟨b, hb, hfb⟩ := List.mem_map.mp hmem
    have : b = a := hinj b (List.mem_cons_of_mem _ hb) a (List.mem_cons_self ..) hfb
    exact h.1 (this ▸ hb)

theorem prefixNodupCheck_complete (k : Nat) (l : List Nat) (hl : l.length ≤ 2 ^ 64)
    (h : (l.map (fun w => utf8Prefix k (wordBytesNat w))).Nodup) : prefixNodupCheck k l = true := by
  unfold prefixNodupCheck
  apply nodupCheck_complete
  · rw [mapR_eq_map, List.length_map]; exact hl
  · rw [mapR_prefixKey]
    apply nodup_map_of_injOn _ _ _ h
    intro a ha b hb hab
    obtain ⟨w, _, rfl⟩ := List.mem_map.mp ha
    obtain ⟨v, _, rfl⟩ := List.mem_map.mp hb
    exact encodeBytes_injective _ _
      (fun x hx => wordBytesNat_lt w x (mem_of_mem_utf8Prefix k _ x hx))
      (fun x hx => wordBytesNat_lt v x (mem_of_mem_utf8Prefix k _ x hx)) hab

theorem prefixNodupCheck_iff (k : Nat) (l : List Nat) (hl : l.length ≤ 2 ^ 64) :
    prefixNodupCheck k l = true ↔ (l.map (fun w => utf8Prefix k (wordBytesNat w))).Nodup :=
  ⟨prefixNodupCheck_sound k l, prefixNodupCheck_complete k l hl⟩

theorem not_prefix_nodup_of_check_eq_false (k : Nat) (l : List Nat) (hl : l.length ≤ 2 ^ 64)
    (h : prefixNodupCheck k l = false) :
    ¬ (l.map (fun w => utf8Prefix k (wordBytesNat w))).Nodup := by
  intro hn
  rw [prefixNodupCheck_complete k l hl hn] at h
  cases h

/-! ### link to `String` (specification level; strings are never evaluated in the kernel) -/

def utf8Bytes (s : String) : List Nat := s.toUTF8.data.toList.map UInt8.toNat

theorem utf8Bytes_lt (s : String) : ∀ b ∈ utf8Bytes s, b < 256 := by
  intro b hb
  obtain ⟨u, _, rfl⟩ := List.mem_map.mp hb
  exact UInt8.toNat_lt u

theorem utf8Bytes_injective (s t : String) (h : utf8Bytes s = utf8Bytes t) : s = t := by
  have h1 : s.toUTF8.data.toList = t.toUTF8.data.toList :=
    (List.map_inj_right (fun a b hab => UInt8.toNat_inj.mp hab)).mp h
  exact String.toByteArray_inj.mp (ByteArray.ext (Array.toList_inj.mp h1))

/-- the table entry of a word: Python `int.from_bytes(b"\x01" + w.encode("utf-8"), "big")` -/
noncomputable def encodeWord (s : String) : Nat := encodeBytes (utf8Bytes s)

theorem wordBytesNat_encodeWord (s : String) : wordBytesNat (encodeWord s) = utf8Bytes s :=
  wordBytesNat_encodeBytes _ (utf8Bytes_lt s)

theorem encodeWord_injective (s t : String) (h : encodeWord s = encodeWord t) : s = t :=
  utf8Bytes_injective s t (encodeBytes_injective _ _ (utf8Bytes_lt s) (utf8Bytes_lt t) h)

/-! ### sanity vectors (values computed with Python, NFKD forms as in the bip_utils lists) -/

-- "académie" (NFKD: `e` + U+0301): bytes, 4 / 5 / 6 code points, re-encoded 4-prefix
example : wordBytesNat 1668828613962330375285093 = [97, 99, 97, 100, 101, 204, 129, 109, 105, 101] := by
  decide +kernel
example : utf8Prefix 4 (wordBytesNat 1668828613962330375285093) = [97, 99, 97, 100] := by
  decide +kernel
example : utf8Prefix 5 (wordBytesNat 1668828613962330375285093) = [97, 99, 97, 100, 101] := by
  decide +kernel
example : utf8Prefix 6 (wordBytesNat 1668828613962330375285093) = [97, 99, 97, 100, 101, 204, 129] := by
  decide +kernel
example : utf8Prefix 0 (wordBytesNat 1668828613962330375285093) = [] := by decide +kernel
example : utf8Prefix 99 (wordBytesNat 1668828613962330375285093)
    = [97, 99, 97, 100, 101, 204, 129, 109, 105, 101] := by decide +kernel
example : prefixKey 4 1668828613962330375285093 = 5928870244 := by decide +kernel
-- "가격" (NFKD: five jamo of three bytes each), first two code points
example : prefixKey 2 2500182278023414740534765660179367592 = 529434190906785 := by decide +kernel
example : nodupCheck [5, 3, 9, 1, 7] = true := by decide +kernel
example : nodupCheck [5, 3, 9, 5, 7] = false := by decide +kernel
example : msort [5, 3, 9, 1, 7, 3] = [1, 3, 3, 5, 7, 9] := by decide +kernel

end BipVerif.Table
