import Lean.Meta.Tactic.Simp.RegisterCommand

/-- Error kinds of a `do` block: the lemmas that split `Only P (x >>= f)`, `Only P (if c then a else b)`,
… (and the same for `OnlyValue`) along the structure of the block — each an `iff`, so `simp only [ov]`
loses nothing — together with the error-kind facts of the leaves (`validateLength`, the codecs, …).
What `simp only [ov]` leaves open are the calls that need an argument of their own. -/
register_simp_attr ov
