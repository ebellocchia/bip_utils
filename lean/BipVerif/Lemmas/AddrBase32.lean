/-
Address formats of the Base32 family: Algorand, Stellar, Filecoin, Nano, Nimiq.
First some more facts on the unpadded encoder (alphabet membership, no `=`, exact length for whole
quanta) and the error kinds of the Base32 decoder.
-/
import BipVerif.Lemmas.Addr
import BipVerif.Lemmas.AddrBase58
import BipVerif.Lemmas.Base32

namespace BipVerif.Model
open BipVerif BipVerif.Prim

def base32Alphabet (custom : Option (List Char)) : List Char := custom.getD b32Std

theorem base32EncodeNoPad_mem (data : Bytes) (custom : Option (List Char))
    (hc : ∀ a, custom = some a → Base32AlphabetOk a) :
    (∀ x ∈ base32EncodeNoPad data custom, x ≠ '=') ∧
      ∀ x ∈ base32EncodeNoPad data custom, x ∈ base32Alphabet custom := by
  obtain ⟨X, p, he, hmem, hX, -, -⟩ := base32Encode_shape data custom hc
  have hstrip : base32EncodeNoPad data custom = X := by
    unfold base32EncodeNoPad; rw [he]; exact rstripChar_append_replicate '=' X p hX
  rw [hstrip]
  exact ⟨hX, hmem⟩

theorem base32EncodeNoPad_not_contains (data : Bytes) (custom : Option (List Char))
    (hc : ∀ a, custom = some a → Base32AlphabetOk a) :
    (base32EncodeNoPad data custom).contains '=' = false := by
  rw [Bool.eq_false_iff]
  intro h
  have := List.contains_iff_mem.mp h
  exact (base32EncodeNoPad_mem data custom hc).1 _ this rfl

theorem b32encodeStd_full (data : Bytes) (h : data.length % 5 = 0) :
    b32encodeStd data = (chunksOf 5 data).flatMap b32Block := by
  have := b32encodeStd_eq data [] h (by simp)
  simpa [b32Tail] using this

theorem base32EncodeNoPad_full (data : Bytes) (custom : Option (List Char))
    (hc : ∀ a, custom = some a → Base32AlphabetOk a) (h : data.length % 5 = 0) :
    base32EncodeNoPad data custom = base32Encode data custom ∧
    (base32EncodeNoPad data custom).length = 8 * (data.length / 5) := by
  have hstd := b32encodeStd_full data h
  have hmem : ∀ x ∈ b32encodeStd data, x ∈ b32Std := by
    rw [hstd]; exact flatMap_b32Block_mem _
  have hlen : (b32encodeStd data).length = 8 * (data.length / 5) := by
    rw [hstd, flatMap_b32Block_length]
    have := chunksOf_length_of_mod 5 (by omega) data h
    omega
  unfold base32EncodeNoPad base32Encode
  cases custom with
  | none =>
    simp only
    rw [rstripChar_of_forall_ne _ _ (fun x hx => (b32Std_ascii x (hmem x hx)).1)]
    exact ⟨rfl, hlen⟩
  | some a =>
    obtain ⟨han, hal, haeq⟩ := hc a rfl
    obtain ⟨_, hm⟩ := translate_translate b32Std a b32Std_nodup han (by rw [hal, b32Std_length])
      (b32encodeStd data) hmem
    simp only
    rw [rstripChar_of_forall_ne _ _ (fun x hx e => by rw [e] at hx; exact haeq (hm _ hx))]
    exact ⟨rfl, by rw [translate_length]; exact hlen⟩

@[ov] theorem OnlyValue.b32Acc (q : List Char) : OnlyValue (b32Acc q) := by
  unfold Model.b32Acc
  refine OnlyValue.foldlM (fun b a => ⟨fun e he => ?_⟩) q 0
  cases hi : b32Std.idxOf? a with
  | none => simp only [hi] at he; cases he; rfl
  | some i => simp only [hi] at he; cases he

@[ov] theorem OnlyValue.b32decodeStd (s : List Char) : OnlyValue (b32decodeStd s) := by
  rw [b32decodeStd_def]
  simp only [ov]
  exact fun _ _ => OnlyValue.mapM OnlyValue.b32Acc _

@[ov] theorem OnlyValue.base32Decode (s : List Char) (custom : Option (List Char)) :
    OnlyValue (base32Decode s custom) := by
  rw [base32Decode_eq]
  have := OnlyValue.b32decodeStd (base32Pre s custom)
  cases hd : Model.b32decodeStd (base32Pre s custom) with
  | error e => rw [hd] at this; simp only; exact ⟨fun e' h => by cases h; exact this.h e rfl⟩
  | ok d => simp only; split <;> simp only [ov]

/-- The padding rule of `base64.b32decode`. -/
theorem b32decodeStd_ok_pad {s : List Char} {dec : Bytes} (h : b32decodeStd s = .ok dec) :
    s.length % 8 = 0 ∧
      (let p := s.length - (rstripChar '=' s).length
       p = 0 ∨ p = 1 ∨ p = 3 ∨ p = 4 ∨ p = 6) := by
  rw [b32decodeStd_def] at h
  obtain ⟨_, h⟩ := guard_ok_inv h
  obtain ⟨h8, h⟩ := guard_ok_inv h
  obtain ⟨accs, _, h⟩ := bind_ok_inv h
  obtain ⟨hp, _⟩ := guard_ok_inv h
  exact ⟨by omega, by simpa only [Bool.not_eq_true', Bool.not_eq_false, Bool.or_eq_true,
    decide_eq_true_eq, Bool.or_assoc] using hp⟩

/-- Whole quanta leave no room for padding: if the decoder accepts `s` and the payload is a
whole number of 5-byte quanta, then `s` carries no trailing `=` — so `s` *is* the canonical
unpadded encoding. -/
theorem base32_decode_canonical_full {s : List Char} {custom : Option (List Char)} {b : Bytes}
    (hc : ∀ a, custom = some a → Base32AlphabetOk a)
    (h : base32Decode s custom = .ok b) (h5 : b.length % 5 = 0) :
    base32EncodeNoPad b custom = s := by
  have hcan := base32_decode_canonical h
  obtain ⟨q, hs⟩ := rstripChar_split '=' s
  set r := rstripChar '=' s with hr
  have hrlen : r.length % 8 = 0 := by
    rw [← hcan, (base32EncodeNoPad_full b custom hc h5).2]; omega
  have hrne : ∀ x ∈ r, x ≠ '=' := by
    rw [← hcan]; exact (base32EncodeNoPad_mem b custom hc).1
  -- the text handed to the stdlib decoder
  rw [base32Decode_eq] at h
  cases hd : b32decodeStd (base32Pre s custom) with
  | error e => rw [hd] at h; cases h
  | ok dec =>
    obtain ⟨hmod, hpad⟩ := b32decodeStd_ok_pad hd
    -- shape of the padded text: `r` followed by a multiple of 8 `=`
    have hadd : ∃ q', addPadding s = r ++ List.replicate q' '=' ∧ q' % 8 = 0 ∧ (q' = 0 → q = 0) := by
      unfold addPadding
      have hsl : s.length = r.length + q := by rw [hs]; simp
      by_cases hw : s.length % 8 ≠ 0
      · rw [if_pos hw]
        refine ⟨q + (8 - s.length % 8), ?_, by omega, by omega⟩
        generalize 8 - s.length % 8 = k
        rw [List.replicate_add, ← List.append_assoc, ← hs]
      · rw [if_neg hw]
        exact ⟨q, hs, by omega, fun h => h⟩
    obtain ⟨q', hq', hq8, hq0⟩ := hadd
    -- translation does not touch `=` and never produces one
    have hpre : ∃ r', base32Pre s custom = r' ++ List.replicate q' '=' ∧ r'.length = r.length ∧
        ∀ x ∈ r', x ≠ '=' := by
      unfold base32Pre
      cases custom with
      | none => exact ⟨r, hq', rfl, hrne⟩
      | some a =>
        obtain ⟨han, hal, haeq⟩ := hc a rfl
        have hmem : ∀ x ∈ r, x ∈ a := by
          rw [← hcan]; exact (base32EncodeNoPad_mem b (some a) hc).2
        obtain ⟨_, hm⟩ := translate_translate a b32Std han b32Std_nodup (by rw [hal, b32Std_length])
          r hmem
        refine ⟨translate a b32Std r, ?_, translate_length _ _ _, ?_⟩
        · simp only
          rw [hq', translate_append, translate_replicate_of_not_mem _ _ _ _ haeq]
        · intro x hx; exact (b32Std_ascii x (hm x hx)).1
    obtain ⟨r', hpre, hr'l, hr'ne⟩ := hpre
    have hstrip : rstripChar '=' (base32Pre s custom) = r' := by
      rw [hpre]; exact rstripChar_append_replicate '=' r' q' hr'ne
    have hq'0 : q' = 0 := by
      simp only [hstrip] at hpad
      rw [hpre, List.length_append, List.length_replicate] at hpad
      omega
    have hq : q = 0 := hq0 hq'0
    rw [hcan, hs, hq]; simp

theorem std_ok : ∀ a, (none : Option (List Char)) = some a → Base32AlphabetOk a := by
  intro a h; cases h

theorem custom_ok {a : List Char} (ha : Base32AlphabetOk a) :
    ∀ a', some a = some a' → Base32AlphabetOk a' := by
  intro a' h; cases h; exact ha

theorem algoDecode_canon (kb : Bytes) (hk : kb.length = 32) (hv : pubValid .ed25519 kb = true) :
    algoDecodeAddr (base32EncodeNoPad (kb ++ takeLast (sha512_256 kb) 4) none) = .ok kb := by
  unfold algoDecodeAddr
  have hck : (takeLast (sha512_256 kb) 4).length = 4 :=
    takeLast_length_of_le _ _ (by rw [sha512_256_length]; omega)
  rw [base32EncodeNoPad_not_contains _ _ std_ok, base32_decode_encodeNoPad]
  simp only [Bool.false_eq_true, if_false, bind, Except.bind, pure, Except.pure]
  rw [validateLength_ok _ _ (by rw [List.length_append, hck, hk])]
  simp only [splitCkEnd_append _ _ 4 hck, ne_eq, not_true_eq_false, if_false,
    validatePubKey_ok _ _ hv]

theorem algo_decode_encode (pub : Bytes) (addr : List Char) (h : algoEncodeAddr pub = .ok addr) :
    ∃ k, addrKey .ed25519 pub = .ok k ∧ algoDecodeAddr addr = .ok (k.drop 1) := by
  unfold algoEncodeAddr at h
  obtain ⟨k, hk, h⟩ := bind_ok_inv h
  obtain ⟨_, h32, _, _, hval⟩ := addrKey_ed_inv (c := .ed25519) rfl hk
  refine ⟨k, hk, ?_⟩
  rw [← pure_ok_inv h]
  exact algoDecode_canon _ h32 hval

@[ov] theorem algoEncodeAddr_ov (pub : Bytes) : OnlyValue (algoEncodeAddr pub) := by
  unfold algoEncodeAddr; simp only [ov]
@[ov] theorem algoDecodeAddr_ov (addr : List Char) : OnlyValue (algoDecodeAddr addr) := by
  unfold algoDecodeAddr; simp only [ov]

theorem xlmCrc_length (p : Bytes) : (xlmCrc p).length = 2 := by
  unfold xlmCrc; rw [List.length_reverse, length_ofNatBE]

theorem xlmDecode_canon (addrType : Nat) (ht : addrType < 256) (kb : Bytes) (hk : kb.length = 32)
    (hv : pubValid .ed25519 kb = true) :
    xlmDecode addrType (base32EncodeNoPad
      ((toBytesAuto addrType ++ kb) ++ xlmCrc (toBytesAuto addrType ++ kb)) none) = .ok kb := by
  unfold xlmDecode
  rw [toBytesAuto_of_lt_256 ht]
  simp only [List.singleton_append]
  have hck := xlmCrc_length (UInt8.ofNat addrType :: kb)
  rw [base32_decode_encodeNoPad]
  simp only [bind, Except.bind, pure, Except.pure]
  rw [validateLength_ok _ _ (by rw [List.length_append, hck]; simp [hk])]
  have hto : (UInt8.ofNat addrType).toNat = addrType := by
    simp [Nat.mod_eq_of_lt ht]
  simp only [splitCkEnd_append _ _ 2 hck, pyIdx, List.getElem?_cons_zero,
    ne_eq, not_true_eq_false, if_false, List.drop_succ_cons, List.drop_zero,
    validatePubKey_ok _ _ hv]
  simp only [pure, Except.pure, hto, not_true_eq_false, if_false]

theorem xlm_decode_encode (addrType : Nat) (ht : addrType < 256) (pub : Bytes) (addr : List Char)
    (h : xlmEncode addrType pub = .ok addr) :
    ∃ k, addrKey .ed25519 pub = .ok k ∧ xlmDecode addrType addr = .ok (k.drop 1) := by
  unfold xlmEncode at h
  obtain ⟨k, hk, h⟩ := bind_ok_inv h
  obtain ⟨_, h32, _, _, hval⟩ := addrKey_ed_inv (c := .ed25519) rfl hk
  refine ⟨k, hk, ?_⟩
  rw [← pure_ok_inv h]
  exact xlmDecode_canon addrType ht _ h32 hval

@[ov] theorem xlmEncode_ov (addrType : Nat) (pub : Bytes) : OnlyValue (xlmEncode addrType pub) := by
  unfold xlmEncode; simp only [ov]

/-- `p[0]` (with `p = dec[:-2]`) is guarded by `len(dec) = 35`: no `IndexError`. -/
@[ov] theorem xlmDecode_ov (addrType : Nat) (addr : List Char) : OnlyValue (xlmDecode addrType addr) := by
  unfold xlmDecode
  apply OnlyValue.bind (OnlyValue.base32Decode _ _)
  intro dec _
  apply OnlyValue.bind (OnlyValue.validateLength _ _)
  intro _ hlen
  rw [validateLength_ok_iff] at hlen
  have hne : (splitCkEnd dec 2).1 ≠ [] := by
    rw [splitCkEnd_fst]
    exact ne_nil_of_length_pos (n := 33) (by rw [dropLast_length, hlen]) (by omega)
  simp only [ov, OnlyValue.pyIdx_zero hne]

theorem filAlphabet_eq : filAlphabet =
    ['a', 'b', 'c', 'd', 'e', 'f', 'g', 'h', 'i', 'j', 'k', 'l', 'm', 'n', 'o', 'p', 'q', 'r',
      's', 't', 'u', 'v', 'w', 'x', 'y', 'z', '2', '3', '4', '5', '6', '7'] :=
  String.toList_ofList

theorem filAlphabet_ok : Base32AlphabetOk filAlphabet := by
  rw [filAlphabet_eq]
  exact ⟨List.Nodup.of_map Char.toNat (by decide +kernel), rfl, by decide +kernel⟩

theorem filDecode_canon (pfx : List Char) (h : Bytes) (hh : h.length = 20) :
    filDecode pfx (pfx ++ ['1'] ++ base32EncodeNoPad (h ++ blake2b32 ([1] ++ h)) (some filAlphabet))
      = .ok h := by
  unfold filDecode
  rw [List.append_assoc, removePrefix_append]
  simp only [List.singleton_append]
  have hno := base32EncodeNoPad_not_contains (h ++ blake2b32 (1 :: h)) (some filAlphabet)
    (custom_ok filAlphabet_ok)
  have hck := blake2b32_length (1 :: h)
  have hc : ('1' :: base32EncodeNoPad (h ++ blake2b32 (1 :: h)) (some filAlphabet)).contains '='
      = false := by
    rw [List.contains_cons, hno]; decide
  simp only [bind, Except.bind, pure, Except.pure, hc]
  simp only [List.isEmpty_cons, Bool.or_self, Bool.false_eq_true, if_false,
    List.headD_cons, List.drop_succ_cons, List.drop_zero]
  rw [if_neg (by decide), base32_decode_encodeNoPad_custom _ _ filAlphabet_ok]
  simp only
  rw [validateLength_ok _ _ (by rw [List.length_append, hck, hh])]
  simp only [splitCkEnd_append _ _ 4 hck, ne_eq, not_true_eq_false, if_false]

theorem fil_decode_encode (pfx : List Char) (pub : Bytes) (addr : List Char)
    (h : filEncode pfx pub = .ok addr) :
    ∃ k u, addrKey .secp256k1 pub = .ok k ∧ uncompressedOf .secp256k1 k = .ok u ∧
      filDecode pfx addr = .ok (blake2b160 u) := by
  unfold filEncode at h
  obtain ⟨k, hk, h⟩ := bind_ok_inv h
  obtain ⟨u, hu, h⟩ := bind_ok_inv h
  refine ⟨k, u, hk, hu, ?_⟩
  rw [← pure_ok_inv h]
  exact filDecode_canon pfx _ (blake2b160_length u)

@[ov] theorem filEncode_ov (pfx : List Char) (pub : Bytes) : OnlyValue (filEncode pfx pub) := by
  unfold filEncode; simp only [ov]
@[ov] theorem filDecode_ov (pfx addr : List Char) : OnlyValue (filDecode pfx addr) := by
  unfold filDecode; simp only [ov]

theorem nanoAlphabet_eq : nanoAlphabet =
    ['1', '3', '4', '5', '6', '7', '8', '9', 'a', 'b', 'c', 'd', 'e', 'f', 'g', 'h', 'i', 'j',
      'k', 'm', 'n', 'o', 'p', 'q', 'r', 's', 't', 'u', 'w', 'x', 'y', 'z'] :=
  String.toList_ofList

theorem nanoAlphabet_ok : Base32AlphabetOk nanoAlphabet := by
  rw [nanoAlphabet_eq]
  exact ⟨List.Nodup.of_map Char.toNat (by decide +kernel), rfl, by decide +kernel⟩

theorem b32Quantum_small (c : Nat) (hc : c < 2 ^ 20) :
    (b32Quantum c).take 4 = ['A', 'A', 'A', 'A'] := by
  have hz : ∀ k, 20 ≤ k → c / 2 ^ k % 32 = 0 := fun k hk => by
    rw [Nat.div_eq_of_lt (Nat.lt_of_lt_of_le hc (Nat.pow_le_pow_right (by omega) hk))]
  unfold b32Quantum
  rw [b32Digits_eq, b32Std_eq]
  simp only [List.map_cons, hz 35 (by omega), hz 30 (by omega), hz 25 (by omega), hz 20 (by omega),
    List.take_succ_cons, List.take_zero]
  rfl

theorem translate_take (frm tgt s : List Char) (n : Nat) :
    (translate frm tgt s).take n = translate frm tgt (s.take n) := by
  unfold translate; rw [List.map_take]

/-- 20 leading zero bits of the first quantum become four leading `1` symbols -/
theorem nano_enc_take (pre rest : Bytes) (hp : pre.length = 5) (hc : Bytes.toNatBE pre < 2 ^ 20)
    (hr : (pre ++ rest).length % 5 = 0) :
    (base32EncodeNoPad (pre ++ rest) (some nanoAlphabet)).take 4 = "1111".toList := by
  rw [(base32EncodeNoPad_full _ _ (custom_ok nanoAlphabet_ok) hr).1]
  unfold base32Encode
  simp only
  rw [translate_take, b32encodeStd_full _ hr, chunksOf_append_of_length 5 (by omega) pre rest hp,
    List.flatMap_cons, List.take_append_of_le_length (by rw [b32Block, b32Quantum_length]; omega),
    b32Block, b32Quantum_small _ hc]
  rw [b32Std_eq, nanoAlphabet_eq]; decide +kernel

theorem nanoDecode_canon (pfx : List Char) (kb : Bytes) (hk : kb.length = 32)
    (hv : pubValid .ed25519Blake2b kb = true) :
    nanoDecode pfx (pfx ++
      (base32EncodeNoPad ([0, 0, 0] ++ kb ++ (blake2b40 kb).reverse) (some nanoAlphabet)).drop 4)
      = .ok kb := by
  have hck : ((blake2b40 kb).reverse).length = 5 := by rw [List.length_reverse, blake2b40_length]
  have hlen : ([0, 0, 0] ++ kb ++ (blake2b40 kb).reverse).length = 40 := by
    simp [hk, hck]
  -- the three pad bytes and the first two key bytes are the first quantum: its value is below 2^16
  have htake : (base32EncodeNoPad ([0, 0, 0] ++ kb ++ (blake2b40 kb).reverse)
      (some nanoAlphabet)).take 4 = "1111".toList := by
    have e : [0, 0, 0] ++ kb ++ (blake2b40 kb).reverse
        = (List.replicate 3 0 ++ kb.take 2) ++ (kb.drop 2 ++ (blake2b40 kb).reverse) := by
      rw [List.append_assoc _ (kb.take 2), ← List.append_assoc (kb.take 2), List.take_append_drop]; rfl
    have h2 : (kb.take 2).length = 2 := by rw [List.length_take]; omega
    rw [e]
    refine nano_enc_take _ _ (by simp [h2]) ?_ (by rw [← e, hlen])
    have := toNatBE_lt (kb.take 2)
    rw [toNatBE_zeros_append]
    rw [h2] at this; omega
  unfold nanoDecode
  rw [removePrefix_append]
  simp only [bind, Except.bind, pure, Except.pure]
  rw [← htake, List.take_append_drop, base32_decode_encodeNoPad_custom _ _ nanoAlphabet_ok]
  simp only
  rw [validateLength_ok _ _ hlen, List.append_assoc, removePrefix_append]
  simp only [splitCkEnd_append _ _ 5 hck, ne_eq, not_true_eq_false, if_false,
    validatePubKey_ok _ _ hv]

theorem nano_decode_encode (pfx : List Char) (pub : Bytes) (addr : List Char)
    (h : nanoEncode pfx pub = .ok addr) :
    ∃ k, addrKey .ed25519Blake2b pub = .ok k ∧ nanoDecode pfx addr = .ok (k.drop 1) := by
  unfold nanoEncode at h
  obtain ⟨k, hk, h⟩ := bind_ok_inv h
  obtain ⟨_, h32, _, _, hval⟩ := addrKey_ed_inv (c := .ed25519Blake2b) rfl hk
  refine ⟨k, hk, ?_⟩
  rw [← pure_ok_inv h]
  exact nanoDecode_canon pfx _ h32 hval

@[ov] theorem nanoEncode_ov (pfx : List Char) (pub : Bytes) : OnlyValue (nanoEncode pfx pub) := by
  unfold nanoEncode; simp only [ov]
@[ov] theorem nanoDecode_ov (pfx addr : List Char) : OnlyValue (nanoDecode pfx addr) := by
  unfold nanoDecode; simp only [ov]

theorem nimAlphabet_eq : nimAlphabet =
    ['0', '1', '2', '3', '4', '5', '6', '7', '8', '9', 'A', 'B', 'C', 'D', 'E', 'F', 'G', 'H',
      'J', 'K', 'L', 'M', 'N', 'P', 'Q', 'R', 'S', 'T', 'U', 'V', 'X', 'Y'] :=
  String.toList_ofList

theorem nimAlphabet_ok : Base32AlphabetOk nimAlphabet := by
  rw [nimAlphabet_eq]
  exact ⟨List.Nodup.of_map Char.toNat (by decide +kernel), rfl, by decide +kernel⟩

theorem nimAlphabet_facts : ∀ c ∈ nimAlphabet, c ≠ ' ' ∧ c.toNat < 128 := by
  rw [nimAlphabet_eq]; decide +kernel

theorem filter_flatten_intersperse (ls : List (List Char)) :
    ((ls.intersperse [' ']).flatten).filter (· ≠ ' ') = ls.flatten.filter (· ≠ ' ') := by
  induction ls with
  | nil => rfl
  | cons a t ih =>
    cases t with
    | nil => rfl
    | cons b t' =>
      rw [List.intersperse_cons_cons, List.flatten_cons, List.flatten_cons, List.filter_append,
        List.filter_append, ih, List.flatten_cons (L := b :: t'), List.filter_append]
      simp

theorem filter_eq_self_of {l : List Char} (h : ∀ c ∈ l, c ≠ ' ') : l.filter (· ≠ ' ') = l := by
  rw [List.filter_eq_self]; intro c hc; simpa using h c hc

/-- the checksum does not consult the non-ASCII digit oracle on ASCII text -/
theorem nimChecksum_ascii (f g : Char → Bool) (s : List Char) (h : ∀ c ∈ s, c.toNat < 128) :
    nimChecksum f s = nimChecksum g s := by
  unfold nimChecksum
  have : ∀ (init : Nat),
      s.foldl (fun ck c =>
        let isD := ('0' ≤ c ∧ c ≤ '9') || (c.toNat ≥ 128 && f c)
        let v : Int := if isD then (c.toNat : Int) - 48 else (c.toNat : Int) - 55
        if v ≥ 0 then nimAddChecksum ck v.toNat else ((ck : Int) + v).emod 97 |>.toNat) init =
      s.foldl (fun ck c =>
        let isD := ('0' ≤ c ∧ c ≤ '9') || (c.toNat ≥ 128 && g c)
        let v : Int := if isD then (c.toNat : Int) - 48 else (c.toNat : Int) - 55
        if v ≥ 0 then nimAddChecksum ck v.toNat else ((ck : Int) + v).emod 97 |>.toNat) init := by
    induction s with
    | nil => intro _; rfl
    | cons c t ih =>
      intro init
      have hc : decide (c.toNat ≥ 128) = false := by
        have := h c (by simp); simp; omega
      simp only [List.foldl_cons, hc, Bool.false_and]
      exact ih (fun x hx => h x (by simp [hx])) _
  simp only [this 0]

theorem nimAddChecksum_lt (ck v : Nat) : nimAddChecksum ck v < 97 := by
  unfold nimAddChecksum
  split
  · exact Nat.mod_lt _ (by omega)
  · exact Nat.mod_lt _ (by omega)

theorem nimChecksum_shape (f : Char → Bool) (s : List Char) :
    (nimChecksum f s).length = 2 ∧ ∀ c ∈ nimChecksum f s, c ≠ ' ' := by
  unfold nimChecksum
  simp only
  generalize (List.foldl _ 0 s) = ck
  have hlt := nimAddChecksum_lt ck 232600
  generalize nimAddChecksum ck 232600 = x at hlt
  refine ⟨rfl, ?_⟩
  intro c hc
  simp only [List.mem_cons, List.not_mem_nil, or_false] at hc
  have hd : ∀ d, d < 10 → Char.ofNat (48 + d) ≠ ' ' := by
    intro d hd; interval_cases d <;> decide
  rcases hc with rfl | rfl
  · exact hd _ (by omega)
  · exact hd _ (by omega)

theorem nimDecode_canon (isD : Char → Bool) (pfx : List Char) (hp : ∀ c ∈ pfx, c ≠ ' ')
    (h : Bytes) (hh : h.length = 20) :
    let enc := base32EncodeNoPad h (some nimAlphabet)
    nimDecode isD pfx (pfx ++ nimChecksum (fun _ => false) enc ++ [' '] ++
      ((chunksOf 4 enc).intersperse [' ']).flatten) = .ok h := by
  intro enc
  have hmem : ∀ c ∈ enc, c ∈ nimAlphabet :=
    (base32EncodeNoPad_mem h (some nimAlphabet) (custom_ok nimAlphabet_ok)).2
  have hns : ∀ c ∈ enc, c ≠ ' ' := fun c hc => (nimAlphabet_facts c (hmem c hc)).1
  have hascii : ∀ c ∈ enc, c.toNat < 128 := fun c hc => (nimAlphabet_facts c (hmem c hc)).2
  have hlen : enc.length = 32 := by
    rw [(base32EncodeNoPad_full h _ (custom_ok nimAlphabet_ok) (by rw [hh])).2, hh]
  obtain ⟨hckl, hckns⟩ := nimChecksum_shape (fun _ => false) enc
  have hfilter : (pfx ++ nimChecksum (fun _ => false) enc ++ [' '] ++
      ((chunksOf 4 enc).intersperse [' ']).flatten).filter (· ≠ ' ')
      = pfx ++ (nimChecksum (fun _ => false) enc ++ enc) := by
    rw [List.filter_append, List.filter_append, List.filter_append, filter_flatten_intersperse,
      flatten_chunksOf 4 (by omega), filter_eq_self_of hp, filter_eq_self_of hckns,
      filter_eq_self_of hns]
    simp
  unfold nimDecode
  simp only [hfilter]
  rw [removePrefix_append]
  simp only [bind, Except.bind]
  rw [validateLength_ok _ _ (by rw [List.length_append, hckl, hlen])]
  have htake : (nimChecksum (fun _ => false) enc ++ enc).take 2 = nimChecksum (fun _ => false) enc := by
    rw [List.take_append_of_le_length (by omega), List.take_of_length_le (by omega)]
  have hdrop : (nimChecksum (fun _ => false) enc ++ enc).drop 2 = enc := by
    rw [List.drop_append_of_le_length (by omega), List.drop_of_length_le (by omega)]; rfl
  simp only [htake, hdrop, nimChecksum_ascii isD (fun _ => false) enc hascii, ne_eq,
    not_true_eq_false, if_false]
  rw [base32_decode_encodeNoPad_custom h _ nimAlphabet_ok]
  simp only [validateLength_ok _ _ hh]
  rfl

theorem nim_decode_encode (isD : Char → Bool) (pfx : List Char) (hp : ∀ c ∈ pfx, c ≠ ' ')
    (pub : Bytes) (addr : List Char) (h : nimEncode pfx pub = .ok addr) :
    ∃ k, addrKey .ed25519 pub = .ok k ∧
      nimDecode isD pfx addr = .ok ((blake2b256 (k.drop 1)).take 20) := by
  unfold nimEncode at h
  obtain ⟨k, hk, h⟩ := bind_ok_inv h
  refine ⟨k, hk, ?_⟩
  rw [← pure_ok_inv h]
  exact nimDecode_canon isD pfx hp _ (by rw [List.length_take, blake2b256_length]; rfl)

@[ov] theorem nimEncode_ov (pfx : List Char) (pub : Bytes) : OnlyValue (nimEncode pfx pub) := by
  unfold nimEncode; simp only [ov]
@[ov] theorem nimDecode_ov (isD : Char → Bool) (pfx addr : List Char) :
    OnlyValue (nimDecode isD pfx addr) := by
  unfold nimDecode; simp only [ov]

end BipVerif.Model
