/-
Extended-key (de)serialisation lemmas: the payload layout, the parser after the Base58Check
layer as a total case split, and the serialiser in closed form.  `XK` is the namespace of the
extended-key and WIF lemmas (this file, `Wif.lean`, `XK.b58Decode_inj` in `Base58Check.lean`).
-/
import BipVerif.Lemmas.Base58Check
import BipVerif.Lemmas.Except
import BipVerif.Model.Bip32

namespace BipVerif.Model.XK
open BipVerif
open C14MoreLemmas (Only)

/-! ### the 78/110-byte payload -/

def extPayload (ver : Bytes) (d : UInt8) (fp i4 cc key : Bytes) : Bytes :=
  ver ++ [d] ++ fp ++ i4 ++ cc ++ key

theorem extPayload_length (ver : Bytes) (d : UInt8) (fp i4 cc key : Bytes)
    (hv : ver.length = 4) (hfp : fp.length = 4) (hi : i4.length = 4) (hcc : cc.length = 32) :
    (extPayload ver d fp i4 cc key).length = 45 + key.length := by
  simp [extPayload, hv, hfp, hi, hcc]; omega

theorem extPayload_take4 (ver : Bytes) (d : UInt8) (fp i4 cc key : Bytes) (hv : ver.length = 4) :
    (extPayload ver d fp i4 cc key).take 4 = ver := by
  simp [extPayload, hv]

/-- Stated about a variable `p` equal to the payload, so that the payload is spelt once and not
five times; callers pass `_ rfl`. -/
theorem extPayload_fields (ver : Bytes) (d : UInt8) (fp i4 cc key : Bytes)
    (hv : ver.length = 4) (hfp : fp.length = 4) (hi : i4.length = 4) (hcc : cc.length = 32) :
    ∀ p, p = extPayload ver d fp i4 cc key →
      p.getD 4 0 = d ∧ (p.drop 5).take 4 = fp ∧ (p.drop 9).take 4 = i4 ∧
        (p.drop 13).take 32 = cc ∧ p.drop 45 = key := by
  rintro p rfl
  refine ⟨?_, ?_, ?_, ?_, ?_⟩
  · simp [extPayload, List.getD_eq_getElem?_getD, hv]
  · simp [extPayload, List.take_append, List.drop_append, hv, hfp]
  · simp [extPayload, List.take_append, List.drop_append, hv, hfp, hi]
  · simp [extPayload, List.drop_append, hv, hfp, hi, hcc,
      List.drop_of_length_le (show ver.length ≤ 13 by omega),
      List.drop_of_length_le (show fp.length ≤ 8 by omega)]
  · simp [extPayload, List.drop_append, hv, hfp, hi, hcc,
      List.drop_of_length_le (show ver.length ≤ 45 by omega),
      List.drop_of_length_le (show fp.length ≤ 40 by omega),
      List.drop_of_length_le (show i4.length ≤ 36 by omega)]

theorem extPayload_reassemble (ser : Bytes) (h : 45 ≤ ser.length) :
    extPayload (ser.take 4) (ser.getD 4 0) ((ser.drop 5).take 4) ((ser.drop 9).take 4)
      ((ser.drop 13).take 32) (ser.drop 45) = ser := by
  have e (a b : Nat) : (ser.drop a).take b ++ ser.drop (a + b) = ser.drop a := by
    rw [← List.drop_drop, List.take_append_drop]
  have e4 : [ser.getD 4 0] ++ ser.drop 5 = ser.drop 4 := by
    rw [List.drop_eq_getElem_cons (by omega : 4 < ser.length), List.getD_eq_getElem?_getD,
      List.getElem?_eq_getElem (by omega : 4 < ser.length), Option.getD_some]; rfl
  unfold extPayload
  simp only [List.append_assoc]
  rw [e 13 32, e 9 4, e 5 4, e4, List.take_append_drop]

theorem payload_fields (ser : Bytes) (h : 45 ≤ ser.length) :
    (ser.getD 4 0).toNat < 256 ∧ ((ser.drop 5).take 4).length = 4 ∧ ((ser.drop 9).take 4).length = 4 ∧
      Bytes.toNatBE ((ser.drop 9).take 4) < 2 ^ 32 ∧ ((ser.drop 13).take 32).length = 32 := by
  have hl (a b : Nat) (hab : a + b ≤ 45) : ((ser.drop a).take b).length = b := by
    rw [List.length_take, List.length_drop]; omega
  refine ⟨(ser.getD 4 0).toNat_lt, hl 5 4 (by omega), hl 9 4 (by omega), ?_, hl 13 32 (by omega)⟩
  have := toNatBE_lt ((ser.drop 9).take 4)
  rwa [hl 9 4 (by omega)] at this

theorem toBytesBE_error (v n : Nat) (e : Err) (h : toBytesBE v n = .error e) : e = .overflow := by
  by_cases hv : v < 256 ^ n
  · rw [toBytesBE_eq_ok v n hv] at h; cases h
  · rw [toBytesBE_eq_error v n (Nat.le_of_not_lt hv)] at h; exact (Except.error.inj h).symm

theorem ofNatBE_one (v : Nat) (h : v < 256) : Bytes.ofNatBE 1 v = [UInt8.ofNat v] := by
  simp [Bytes.ofNatBE, Bytes.ofNatLE, Nat.mod_eq_of_lt h]

theorem serializeKey_eq (H : Bytes → Bytes) (ver : Bytes) (depth : Nat) (fp : Bytes) (idx : Nat)
    (cc key : Bytes) (hd : depth < 256) (hi : idx < 2 ^ 32) :
    serializeKey H ver depth fp idx cc key =
      .ok (b58CheckEncode H btcAlphabet
        (extPayload ver (UInt8.ofNat depth) fp (Bytes.ofNatBE 4 idx) cc key)) := by
  unfold serializeKey
  rw [toBytesBE_eq_ofNatBE (v := depth) (n := 1) (by simpa using hd),
    toBytesBE_eq_ofNatBE (v := idx) (n := 4) (by norm_num at hi ⊢; exact hi), ofNatBE_one depth hd]
  rfl

theorem serializeKey_overflow (H : Bytes → Bytes) (ver : Bytes) (depth : Nat) (fp : Bytes) (idx : Nat)
    (cc key : Bytes) (h : ¬ (depth < 256 ∧ idx < 2 ^ 32)) :
    serializeKey H ver depth fp idx cc key = .error .overflow := by
  unfold serializeKey
  by_cases hd : depth < 256
  · have hi : ¬ idx < 256 ^ 4 := by
      intro hi; apply h; exact ⟨hd, by norm_num at hi ⊢; exact hi⟩
    rw [toBytesBE_eq_ofNatBE (v := depth) (n := 1) (by simpa using hd),
      toBytesBE_eq_error idx 4 (Nat.le_of_not_lt hi)]
    rfl
  · rw [toBytesBE_eq_error depth 1 (by simpa using hd)]
    rfl

/-- `deserializeKey` after `b58CheckDecode` (same text as the model). -/
def parsePayload (kv : KeyNetVer) (ser : Bytes) : R DeserKey := do
  let ver := ser.take 4
  let isPub ← if ver = kv.pub then pure true else if ver = kv.priv then pure false else throw .key
  if isPub && ser.length ≠ 78 then throw .key
  if !isPub && !(ser.length = 78 || ser.length = 110) then throw .key
  let depth ← pyIdx ser 4
  let fp := (ser.drop 5).take 4
  let idx := Bytes.toNatBE ((ser.drop 9).take 4)
  let cc := (ser.drop 13).take 32
  let key := ser.drop 45
  if !isPub then
    let k0 ← pyIdx key 0
    if k0 ≠ 0 then throw .key
    pure { keyBytes := key.drop 1, depth := depth.toNat, index := idx, chainCode := cc, parentFp := fp, isPublic := false }
  else
    pure { keyBytes := key, depth := depth.toNat, index := idx, chainCode := cc, parentFp := fp, isPublic := true }

theorem deserializeKey_eq (H : Bytes → Bytes) (kv : KeyNetVer) (s : List Char) :
    deserializeKey H kv s = b58CheckDecode H btcAlphabet s >>= parsePayload kv := rfl

def fieldsPub (ser : Bytes) : DeserKey :=
  ⟨ser.drop 45, (ser.getD 4 0).toNat, Bytes.toNatBE ((ser.drop 9).take 4), (ser.drop 13).take 32,
    (ser.drop 5).take 4, true⟩

/-- the fields read from a private payload (the pad byte at offset 45 is skipped) -/
def fieldsPriv (ser : Bytes) : DeserKey :=
  ⟨ser.drop 46, (ser.getD 4 0).toNat, Bytes.toNatBE ((ser.drop 9).take 4), (ser.drop 13).take 32,
    (ser.drop 5).take 4, false⟩

theorem parsePayload_pub (kv : KeyNetVer) (ser : Bytes) (h1 : ser.take 4 = kv.pub) :
    parsePayload kv ser = if ser.length = 78 then .ok (fieldsPub ser) else .error .key := by
  unfold parsePayload
  by_cases h2 : ser.length = 78
  · simp [h1, h2, pyIdx_of_lt ser 4 (by omega), bind, Except.bind, pure, Except.pure, fieldsPub]
  · simp [h1, h2, bind, Except.bind, pure, Except.pure, throw, throwThe, MonadExceptOf.throw]

/-- The default 1 makes `ser.getD 45 1 = 0` say that the pad byte is there and is zero; behind the
length guards the default is never reached. -/
theorem getD_drop0 (ser : Bytes) (h : 45 < ser.length) :
    ser.getD 45 1 = (ser.drop 45)[0]'(by simp; omega) := by
  simp [List.getD_eq_getElem?_getD, h]

theorem parsePayload_priv (kv : KeyNetVer) (ser : Bytes) (h0 : ser.take 4 ≠ kv.pub)
    (h1 : ser.take 4 = kv.priv) :
    parsePayload kv ser = if ser.length = 78 ∨ ser.length = 110 then
      (if ser.getD 45 1 = 0 then .ok (fieldsPriv ser) else .error .key) else .error .key := by
  unfold parsePayload
  have h0' : kv.priv ≠ kv.pub := h1 ▸ h0
  by_cases h2 : ser.length = 78 ∨ ser.length = 110
  · have h4 : 4 < ser.length := by omega
    have h45 : 0 < (ser.drop 45).length := by simp; omega
    have hg : ser.getD 45 1 = (ser.drop 45)[0] := getD_drop0 ser (by omega)
    have hg4 : ser.getD 4 0 = ser[4] := by simp [List.getD_eq_getElem?_getD, h4]
    rw [if_pos h2, hg]
    by_cases h3 : (ser.drop 45)[0] = 0
    · rcases h2 with h2 | h2 <;>
      simp [h1, h0', h2, h3, pyIdx_of_lt ser 4 h4, pyIdx_of_lt _ 0 h45, bind, Except.bind, pure,
        Except.pure, fieldsPriv]
    · rcases h2 with h2 | h2 <;>
      simp [h1, h0', h2, pyIdx_of_lt ser 4 h4, pyIdx_of_lt _ 0 h45, bind, Except.bind, pure,
        Except.pure, fieldsPriv, throw, throwThe, MonadExceptOf.throw]
  · have h78 : ser.length ≠ 78 := fun e => h2 (Or.inl e)
    have h110 : ser.length ≠ 110 := fun e => h2 (Or.inr e)
    simp [h1, h0', h78, h110, bind, Except.bind, pure, Except.pure, throw, throwThe,
      MonadExceptOf.throw]

theorem parsePayload_unknown (kv : KeyNetVer) (ser : Bytes) (h0 : ser.take 4 ≠ kv.pub)
    (h1 : ser.take 4 ≠ kv.priv) : parsePayload kv ser = .error .key := by
  unfold parsePayload
  simp [h0, h1, bind, Except.bind, throw, throwThe, MonadExceptOf.throw]

/-- No `IndexError` can escape: both `pyIdx` calls are behind the length guards. -/
theorem parsePayload_eq (kv : KeyNetVer) (ser : Bytes) :
    parsePayload kv ser =
      if ser.take 4 = kv.pub then
        (if ser.length = 78 then .ok (fieldsPub ser) else .error .key)
      else if ser.take 4 = kv.priv then
        (if ser.length = 78 ∨ ser.length = 110 then
          (if ser.getD 45 1 = 0 then .ok (fieldsPriv ser) else .error .key)
        else .error .key)
      else .error .key := by
  by_cases h0 : ser.take 4 = kv.pub
  · rw [if_pos h0]; exact parsePayload_pub kv ser h0
  · rw [if_neg h0]
    by_cases h1 : ser.take 4 = kv.priv
    · rw [if_pos h1]; exact parsePayload_priv kv ser h0 h1
    · rw [if_neg h1]; exact parsePayload_unknown kv ser h0 h1

theorem parsePayload_error (kv : KeyNetVer) (ser : Bytes) (e : Err)
    (h : parsePayload kv ser = .error e) : e = .key := by
  refine Only.h (P := (· = .key)) ?_ e h
  rw [parsePayload_eq]
  exact .ite (fun _ => .ite (fun _ => .ok _) fun _ => .error rfl) fun _ =>
    .ite (fun _ => .ite (fun _ => .ite (fun _ => .ok _) fun _ => .error rfl) fun _ => .error rfl)
      fun _ => .error rfl

theorem parsePayload_ok_iff (kv : KeyNetVer) (ser : Bytes) (d : DeserKey) :
    parsePayload kv ser = .ok d ↔
      (ser.take 4 = kv.pub ∧ ser.length = 78 ∧ d = fieldsPub ser) ∨
      (ser.take 4 ≠ kv.pub ∧ ser.take 4 = kv.priv ∧ (ser.length = 78 ∨ ser.length = 110) ∧
        ser.getD 45 1 = 0 ∧ d = fieldsPriv ser) := by
  rw [parsePayload_eq]
  constructor
  · intro h
    by_cases h0 : ser.take 4 = kv.pub
    · rw [if_pos h0, ite_else_error_eq_ok] at h
      exact .inl ⟨h0, h.1, (Except.ok.inj h.2).symm⟩
    · rw [if_neg h0, ite_else_error_eq_ok, ite_else_error_eq_ok, ite_else_error_eq_ok] at h
      obtain ⟨h1, h2, h3, h⟩ := h
      exact .inr ⟨h0, h1, h2, h3, (Except.ok.inj h).symm⟩
  · rintro (⟨h1, h2, h3⟩ | ⟨h0, h1, h2, h3, h4⟩)
    · rw [if_pos h1, if_pos h2, h3]
    · rw [if_neg h0, if_pos h1, if_pos h2, if_pos h3, h4]

theorem parsePayload_key_iff (kv : KeyNetVer) (ser : Bytes) :
    parsePayload kv ser = .error .key ↔
      (ser.take 4 ≠ kv.pub ∧ ser.take 4 ≠ kv.priv) ∨
      (ser.take 4 = kv.pub ∧ ser.length ≠ 78) ∨
      (ser.take 4 ≠ kv.pub ∧ ser.take 4 = kv.priv ∧ ¬ (ser.length = 78 ∨ ser.length = 110)) ∨
      (ser.take 4 ≠ kv.pub ∧ ser.take 4 = kv.priv ∧ (ser.length = 78 ∨ ser.length = 110) ∧
        ser.getD 45 1 ≠ 0) := by
  rw [parsePayload_eq]
  by_cases h0 : ser.take 4 = kv.pub
  · by_cases h2 : ser.length = 78 <;> simp [h0, h2]
  · by_cases h1 : ser.take 4 = kv.priv
    · have h0' : ¬ kv.priv = kv.pub := h1 ▸ h0
      by_cases h2 : ser.length = 78 ∨ ser.length = 110
      · by_cases h3 : ser.getD 45 1 = 0
        · rw [if_neg h0, if_pos h1, if_pos h2, if_pos h3]; simp [h0', h1, h2]
          simpa [List.getD_eq_getElem?_getD] using h3
        · rw [if_neg h0, if_pos h1, if_pos h2, if_neg h3]; simp [h0', h1, h2]
          simpa [List.getD_eq_getElem?_getD] using h3
      · rw [if_neg h0, if_pos h1, if_neg h2]; simp [h0', h1, h2]
    · simp [h0, h1]

/-- the errors of `deserializeKey`: those of the Base58Check layer (never `Bip32KeyError`), then
those of the parser (only `Bip32KeyError`). -/
theorem deserializeKey_error_iff (H : Bytes → Bytes) (kv : KeyNetVer) (s : List Char) (e : Err) :
    deserializeKey H kv s = .error e ↔
      (e ≠ .key ∧ b58CheckDecode H btcAlphabet s = .error e) ∨
      (e = .key ∧ ∃ ser, b58CheckDecode H btcAlphabet s = .ok ser ∧ parsePayload kv ser = .error .key) := by
  rw [deserializeKey_eq, bind_eq_error_iff]
  constructor
  · rintro (h | ⟨ser, hs, h⟩)
    · refine .inl ⟨fun hk => ?_, h⟩
      subst hk
      rcases b58CheckDecode_error H btcAlphabet s _ h with h | h <;> cases h
    · obtain rfl := parsePayload_error kv ser e h
      exact .inr ⟨rfl, ser, hs, h⟩
  · rintro (⟨-, h⟩ | ⟨rfl, ser, hs, h⟩)
    · exact .inl h
    · exact .inr ⟨ser, hs, h⟩

theorem fieldsPub_extPayload (ver : Bytes) (d : UInt8) (fp i4 cc key : Bytes)
    (hv : ver.length = 4) (hfp : fp.length = 4) (hi : i4.length = 4) (hcc : cc.length = 32) :
    fieldsPub (extPayload ver d fp i4 cc key) = ⟨key, d.toNat, Bytes.toNatBE i4, cc, fp, true⟩ := by
  obtain ⟨h4, hf, hi', hc, hk⟩ := extPayload_fields ver d fp i4 cc key hv hfp hi hcc _ rfl
  unfold fieldsPub
  rw [hk, h4, hi', hc, hf]

theorem fieldsPriv_extPayload (ver : Bytes) (d : UInt8) (fp i4 cc : Bytes) (k0 : UInt8) (k : Bytes)
    (hv : ver.length = 4) (hfp : fp.length = 4) (hi : i4.length = 4) (hcc : cc.length = 32) :
    fieldsPriv (extPayload ver d fp i4 cc (k0 :: k)) = ⟨k, d.toNat, Bytes.toNatBE i4, cc, fp, false⟩ ∧
      (extPayload ver d fp i4 cc (k0 :: k)).getD 45 1 = k0 := by
  obtain ⟨h4, hf, hi', hc, hk⟩ := extPayload_fields ver d fp i4 cc (k0 :: k) hv hfp hi hcc _ rfl
  have h46 : (extPayload ver d fp i4 cc (k0 :: k)).drop 46 = k := by
    rw [← List.drop_drop (i := 1) (j := 45), hk]; rfl
  constructor
  · unfold fieldsPriv
    rw [h46, h4, hi', hc, hf]
  · have hlen := extPayload_length ver d fp i4 cc (k0 :: k) hv hfp hi hcc
    rw [getD_drop0 _ (by rw [hlen]; simp)]
    simp [hk]

/-- the checks of `FromExtendedKey` after parsing -/
def nodeOfDeser (c : CurveT) (sch : Scheme) (d : DeserKey) : R Node :=
  if d.depth = 0 ∧ (d.parentFp ≠ [0,0,0,0] ∨ d.index ≠ 0) then .error .key
  else if d.isPublic then nodeOfPub c sch d.keyBytes d.depth d.index d.chainCode d.parentFp
  else nodeOfPriv c sch d.keyBytes d.depth d.index d.chainCode d.parentFp

theorem fromExtendedKey_eq (H : Bytes → Bytes) (c : CurveT) (sch : Scheme) (kv : KeyNetVer)
    (s : List Char) :
    fromExtendedKey H c sch kv s = deserializeKey H kv s >>= nodeOfDeser c sch := by
  unfold fromExtendedKey
  cases deserializeKey H kv s with
  | error e => rfl
  | ok d =>
    show _ = nodeOfDeser c sch d
    unfold nodeOfDeser
    by_cases h0 : d.depth = 0
    · by_cases h1 : d.parentFp = [0,0,0,0]
      · by_cases h2 : d.index = 0
        · simp [h0, h1, h2, bind, Except.bind]
        · simp [h0, h1, h2, bind, Except.bind, throw, throwThe, MonadExceptOf.throw]
      · simp [h0, h1, bind, Except.bind, throw, throwThe, MonadExceptOf.throw]
    · simp [h0, bind, Except.bind]

theorem nodeOfPub_eq (c : CurveT) (s : Scheme) (pb : Bytes) (depth idx : Nat) (cc fp : Bytes) :
    nodeOfPub c s pb depth idx cc fp =
      match pubFromBytes c pb with
      | some pub => .ok { curve := c, scheme := s, priv := none, pub := pub, depth := depth,
                          index := idx, chainCode := cc, parentFp := fp.take 4 }
      | none => .error .key := by
  unfold nodeOfPub; cases pubFromBytes c pb <;> rfl

theorem nodeOfPriv_eq (c : CurveT) (s : Scheme) (k : Bytes) (depth idx : Nat) (cc fp : Bytes) :
    nodeOfPriv c s k depth idx cc fp =
      if privValid c k = false then .error .key
      else match pubOfPriv c k with
        | some pub => .ok { curve := c, scheme := s, priv := some k, pub := pub, depth := depth,
                            index := idx, chainCode := cc, parentFp := fp.take 4 }
        | none => .error .value := by
  unfold nodeOfPriv
  cases hv : privValid c k
  · simp [throw, throwThe, MonadExceptOf.throw]
  · simp only [Bool.not_true, Bool.false_eq_true, if_false]
    cases pubOfPriv c k <;> rfl

end BipVerif.Model.XK
