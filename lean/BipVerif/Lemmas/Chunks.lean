/- List facts the codecs share.  `chunksOf` (Python `[l[i:i+n] for i in range(0, len(l), n)]`) is
defined with fuel; `chunksOf_of_ne_nil` is its recursion equation, and the induction principles
`chunks_induction`, `chunks_induction_of_mod` follow it block by block.  Also: `idxOf?` in a
duplicate-free list, the slices `dropLast` / `takeLast`, and `zipWith` over an append. -/
import Mathlib.Data.List.Basic
import BipVerif.Model.Basic

namespace BipVerif.Model

variable {α : Type _}

theorem idxOf?_getElem_of_nodup [BEq α] [LawfulBEq α] (l : List α) (hn : l.Nodup) (i : Nat)
    (hi : i < l.length) : l.idxOf? l[i] = some i := by
  rw [List.idxOf?_eq_some_iff]
  exact ⟨hi, rfl, fun j hj h => List.pairwise_iff_getElem.mp hn j i (Nat.lt_trans hj hi) hi hj h⟩

theorem idxOf?_getD_of_nodup [BEq α] [LawfulBEq α] (l : List α) (hn : l.Nodup) (d : Nat)
    (hd : d < l.length) (x : α) : l.idxOf? (l.getD d x) = some d := by
  rw [List.getD_eq_getElem?_getD, List.getElem?_eq_getElem hd, Option.getD_some]
  exact idxOf?_getElem_of_nodup l hn d hd

theorem chunksOf_go_fuel (n : Nat) (hn : 0 < n) (f1 f2 : Nat) (l : List α)
    (h1 : l.length ≤ f1) (h2 : l.length ≤ f2) : chunksOf.go n f1 l = chunksOf.go n f2 l := by
  induction f1 generalizing f2 l with
  | zero =>
    have : l = [] := List.length_eq_zero_iff.mp (by omega)
    subst this
    cases f2 <;> simp [chunksOf.go]
  | succ f1 ih =>
    cases f2 with
    | zero =>
      have : l = [] := List.length_eq_zero_iff.mp (by omega)
      subst this; simp [chunksOf.go]
    | succ f2 =>
      simp only [chunksOf.go]
      by_cases hl : l.isEmpty
      · simp [hl]
      · simp only [hl, Bool.false_eq_true, if_false, List.cons.injEq, true_and]
        have hpos : 0 < l.length := by
          cases l with
          | nil => simp at hl
          | cons a t => simp
        apply ih <;> rw [List.length_drop] <;> omega

@[simp] theorem chunksOf_nil (n : Nat) : chunksOf n ([] : List α) = [] := by
  unfold chunksOf; split <;> simp [chunksOf.go]

theorem chunksOf_of_ne_nil (n : Nat) (hn : 0 < n) (l : List α) (hl : l ≠ []) :
    chunksOf n l = l.take n :: chunksOf n (l.drop n) := by
  unfold chunksOf
  have hn' : n ≠ 0 := by omega
  simp only [hn', if_false]
  cases hlen : l.length with
  | zero => exact absurd (List.length_eq_zero_iff.mp hlen) hl
  | succ k =>
    have he : l.isEmpty = false := by
      cases l with
      | nil => exact absurd rfl hl
      | cons a t => rfl
    simp only [chunksOf.go, he, Bool.false_eq_true, if_false, List.cons.injEq, true_and]
    apply chunksOf_go_fuel n hn <;> rw [List.length_drop] <;> omega

theorem chunksOf_append_of_length (n : Nat) (hn : 0 < n) (l1 l2 : List α) (h : l1.length = n) :
    chunksOf n (l1 ++ l2) = l1 :: chunksOf n l2 := by
  have hne : l1 ++ l2 ≠ [] := by
    intro e
    have := congrArg List.length e
    rw [List.length_append, List.length_nil] at this; omega
  rw [chunksOf_of_ne_nil n hn _ hne]
  simp [← h]

theorem chunksOf_of_length_le (n : Nat) (l : List α) (hl : l ≠ []) (h : l.length ≤ n) :
    chunksOf n l = [l] := by
  have hpos : 0 < l.length := List.length_pos_iff.mpr hl
  rw [chunksOf_of_ne_nil n (by omega) l hl, List.take_of_length_le h, List.drop_of_length_le h,
    chunksOf_nil]

theorem flatten_chunksOf (n : Nat) (hn : 0 < n) (l : List α) : (chunksOf n l).flatten = l := by
  induction hk : l.length using Nat.strongRecOn generalizing l with
  | _ k ih =>
    by_cases hl : l = []
    · subst hl; simp
    · rw [chunksOf_of_ne_nil n hn l hl, List.flatten_cons]
      have hpos : 0 < l.length := List.length_pos_iff.mpr hl
      rw [ih (l.drop n).length (by rw [List.length_drop]; omega) _ rfl, List.take_append_drop]

theorem chunks_induction {P : List α → Prop} (n : Nat) (hn : 0 < n) (hnil : P [])
    (hlast : ∀ l, l ≠ [] → l.length < n → P l)
    (hstep : ∀ l1 l2, l1.length = n → P l2 → P (l1 ++ l2)) (l : List α) : P l := by
  induction hk : l.length using Nat.strongRecOn generalizing l with
  | _ k ih =>
    by_cases hl : l = []
    · subst hl; exact hnil
    · by_cases hlt : l.length < n
      · exact hlast l hl hlt
      · rw [← List.take_append_drop n l]
        apply hstep
        · rw [List.length_take]; omega
        · exact ih (l.drop n).length (by rw [List.length_drop]; omega) _ rfl

theorem chunks_induction_of_mod (n : Nat) (hn : 0 < n) (P : List α → Prop) (hnil : P [])
    (hstep : ∀ l1 l2, l1.length = n → l2.length % n = 0 → P l2 → P (l1 ++ l2)) :
    ∀ l, l.length % n = 0 → P l := by
  refine chunks_induction (P := fun l => l.length % n = 0 → P l) n hn (fun _ => hnil) ?_ ?_
  · intro l hne hlt hmod
    have := List.length_pos_iff.mpr hne
    rw [Nat.mod_eq_of_lt hlt] at hmod; omega
  · intro l1 l2 hl1 ih hmod
    have hmod2 : l2.length % n = 0 := by
      rw [List.length_append, hl1] at hmod
      rwa [Nat.add_mod_left] at hmod
    exact hstep l1 l2 hl1 hmod2 (ih hmod2)

theorem chunksOf_append_of_mod (n : Nat) (hn : 0 < n) (l r : List α) (h : l.length % n = 0) :
    chunksOf n (l ++ r) = chunksOf n l ++ chunksOf n r := by
  revert h
  refine chunks_induction_of_mod n hn
    (fun l => chunksOf n (l ++ r) = chunksOf n l ++ chunksOf n r) (by simp) ?_ l
  intro l1 l2 hl1 _ ih
  rw [List.append_assoc, chunksOf_append_of_length n hn l1 _ hl1, ih,
    chunksOf_append_of_length n hn l1 _ hl1, List.cons_append]

theorem chunksOf_length_eq (n : Nat) (hn : 0 < n) (l : List α) (h : l.length % n = 0) :
    ∀ c ∈ chunksOf n l, c.length = n := by
  revert h
  refine chunks_induction_of_mod n hn (fun l => ∀ c ∈ chunksOf n l, c.length = n) (by simp) ?_ l
  intro l1 l2 hl1 _ ih c hc
  rw [chunksOf_append_of_length n hn l1 _ hl1] at hc
  rcases List.mem_cons.mp hc with rfl | hc
  · exact hl1
  · exact ih c hc

theorem length_flatten_of_length (n : Nat) (ls : List (List α)) (h : ∀ l ∈ ls, l.length = n) :
    ls.flatten.length = n * ls.length := by
  induction ls with
  | nil => rfl
  | cons a t ih =>
    rw [List.flatten_cons, List.length_append, h a (by simp), ih (fun l hl => h l (by simp [hl])),
      List.length_cons, Nat.mul_succ, Nat.add_comm]

theorem chunksOf_length_of_mod (n : Nat) (hn : 0 < n) (l : List α) (h : l.length % n = 0) :
    n * (chunksOf n l).length = l.length := by
  have h1 := length_flatten_of_length n (chunksOf n l) (chunksOf_length_eq n hn l h)
  rw [flatten_chunksOf n hn l] at h1
  exact h1.symm

/-! ### `dropLast l k` is Python `l[:-k]`, `takeLast l k` is `l[-k:]` -/

theorem dropLast_append (a b : List α) (k : Nat) (h : k ≤ b.length) :
    dropLast (a ++ b) k = a ++ dropLast b k := by
  unfold dropLast
  rw [List.length_append, Nat.add_sub_assoc h, List.take_length_add_append]

theorem dropLast_append_of_length (a b : List α) (k : Nat) (h : b.length = k) :
    dropLast (a ++ b) k = a := by
  rw [dropLast_append a b k (by omega), dropLast, h, Nat.sub_self, List.take_zero, List.append_nil]

theorem takeLast_append_of_length (a b : List α) (k : Nat) (h : b.length = k) :
    takeLast (a ++ b) k = b := by
  unfold takeLast; simp [h]

theorem dropLast_append_takeLast (l : List α) (k : Nat) : dropLast l k ++ takeLast l k = l := by
  unfold dropLast takeLast; exact List.take_append_drop _ _

theorem eq_append_of_takeLast {a ck : List α} {n : Nat} (h : takeLast a n = ck) :
    a = dropLast a n ++ ck := by
  rw [← h]; exact (dropLast_append_takeLast a n).symm

theorem dropLast_append_singleton (l : List α) (x : α) : dropLast (l ++ [x]) 1 = l :=
  dropLast_append_of_length l [x] 1 rfl

theorem dropLast_append_of_getLast? (l : List α) (x : α) (h : l.getLast? = some x) :
    dropLast l 1 ++ [x] = l := by
  unfold dropLast
  have hne : l ≠ [] := by intro e; rw [e] at h; cases h
  rw [List.getLast?_eq_some_getLast hne] at h
  have hx : l.getLast hne = x := Option.some.inj h
  rw [← hx, ← List.dropLast_eq_take]
  exact List.dropLast_append_getLast hne

theorem getD_take (l : List α) (n i : Nat) (d : α) (h : i < n) : (l.take n).getD i d = l.getD i d := by
  simp only [List.getD_eq_getElem?_getD, List.getElem?_take, h, if_true]

theorem zipWith_take_drop_append {β γ} (f : α → β → γ) (d : List α) (B K : List β) :
    List.zipWith f (d.take B.length) B ++ List.zipWith f (d.drop B.length) K =
      List.zipWith f d (B ++ K) := by
  induction B generalizing d with
  | nil => rfl
  | cons b B ih =>
    cases d with
    | nil => rfl
    | cons x d => exact congrArg (f x b :: ·) (ih d)

end BipVerif.Model
