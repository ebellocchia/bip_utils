/-
Structural facts about BIP-32 node constructors and child derivation (`nodeOfPriv`, `nodeOfPub`,
`slip10ChildKey`, `kholawChildKey`, `childKey`): which record fields a successful call sets, and the
error kinds of the refusals that do not depend on any cryptography.  The two `ChildKey`
implementations differ only in the key-derivation functions they call, so everything is proved once
for `childKeyVia`.  No cryptographic primitive (`hmacSha512`, curve arithmetic, `pubOfPriv`,
`pubFromBytes`, …) is unfolded.
-/
import BipVerif.Model.Kholaw
import BipVerif.Lemmas.Except

namespace BipVerif.Model
open BipVerif

/-! ### hardened indices -/

/-- `isHardened` (a comparison of `i mod 2b`) and `harden` (a test of `⌊i/b⌋ mod 2`) look at the
same bit -/
theorem le_mod_two_mul_iff (b i : Nat) (hb : 0 < b) : b ≤ i % (b * 2) ↔ i / b % 2 = 1 := by
  rw [Nat.mod_mul]
  rcases Nat.mod_two_eq_zero_or_one (i / b) with h | h
  · rw [h, Nat.mul_zero, Nat.add_zero]
    exact ⟨fun hle => absurd (Nat.mod_lt i hb) (Nat.not_lt.2 hle), fun h01 => nomatch h01⟩
  · rw [h, Nat.mul_one]
    exact ⟨fun _ => rfl, fun _ => Nat.le_add_left b _⟩

/-- `harden` always sets bit 31, so the result is a hardened index (whatever its size) -/
theorem isHardened_harden (i : Nat) : isHardened (harden i) = true := by
  refine decide_eq_true ((le_mod_two_mul_iff (2 ^ 31) _ (Nat.two_pow_pos 31)).2 ?_)
  unfold harden
  split
  · assumption
  · rename_i hb
    rw [Nat.add_div_right i (Nat.two_pow_pos 31), Nat.add_mod, Nat.mod_two_not_eq_one.1 hb]

theorem harden_lt (i : Nat) (h : i < 2 ^ 32) : harden i < 2 ^ 32 := by
  unfold harden
  split
  · exact h
  · rename_i hb
    rw [← le_mod_two_mul_iff (2 ^ 31) i (Nat.two_pow_pos 31),
      Nat.mod_eq_of_lt (show i < 2 ^ 31 * 2 from h)] at hb
    exact Nat.add_lt_add_right (Nat.lt_of_not_le hb) (2 ^ 31)

theorem harden_of_lt (i : Nat) (h : i < 2 ^ 31) : harden i = i + 2 ^ 31 :=
  if_neg (by rw [Nat.div_eq_of_lt h]; decide)

theorem isHardened_false_of_lt (i : Nat) (h : i < 2 ^ 31) : isHardened i = false := by
  refine decide_eq_false (Nat.not_le.2 ?_)
  rwa [Nat.mod_eq_of_lt (Nat.lt_trans h (by decide))]

/-! ### node constructors -/

structure NodeFields (n : Node) (c : CurveT) (s : Scheme) (priv : Option Bytes) (depth index : Nat)
    (cc fp : Bytes) : Prop where
  depth : n.depth = depth
  index : n.index = index
  curve : n.curve = c
  scheme : n.scheme = s
  priv : n.priv = priv
  chainCode : n.chainCode = cc
  parentFp : n.parentFp = fp.take 4

section
variable (c : CurveT) (s : Scheme) (k : Bytes) (d i : Nat) (cc fp : Bytes)

theorem nodeOfPriv_of_invalid (hv : privValid c k = false) :
    nodeOfPriv c s k d i cc fp = .error .key := by
  rw [nodeOfPriv, hv]
  rfl

theorem nodeOfPriv_of_none (hv : privValid c k = true) (hp : pubOfPriv c k = none) :
    nodeOfPriv c s k d i cc fp = .error .value := by
  rw [nodeOfPriv, hv, hp]
  rfl

theorem nodeOfPriv_of_some {pub : Bytes} (hv : privValid c k = true) (hp : pubOfPriv c k = some pub) :
    nodeOfPriv c s k d i cc fp =
      .ok { curve := c, scheme := s, priv := some k, pub := pub, depth := d, index := i,
            chainCode := cc, parentFp := fp.take 4 } := by
  rw [nodeOfPriv, hv, hp]
  rfl

theorem nodeOfPriv_ok_iff (nd : Node) :
    nodeOfPriv c s k d i cc fp = .ok nd ↔
      privValid c k = true ∧ ∃ pub, pubOfPriv c k = some pub ∧
        nd = { curve := c, scheme := s, priv := some k, pub := pub, depth := d, index := i,
               chainCode := cc, parentFp := fp.take 4 } := by
  cases hv : privValid c k
  · rw [nodeOfPriv_of_invalid c s k d i cc fp hv]
    exact ⟨nofun, fun h => nomatch h.1⟩
  · cases hp : pubOfPriv c k with
    | none =>
      rw [nodeOfPriv_of_none c s k d i cc fp hv hp]
      exact ⟨nofun, fun ⟨_, _, h, _⟩ => nomatch h⟩
    | some pub =>
      rw [nodeOfPriv_of_some c s k d i cc fp hv hp]
      exact ⟨fun h => ⟨rfl, pub, rfl, (Except.ok.inj h).symm⟩,
        fun ⟨_, _, h1, h2⟩ => by rw [h2, Option.some.inj h1]⟩

theorem nodeOfPriv_error (e : Err) (h : nodeOfPriv c s k d i cc fp = .error e) :
    (e = .key ∧ privValid c k = false) ∨ (e = .value ∧ privValid c k = true ∧ pubOfPriv c k = none) := by
  cases hv : privValid c k
  · rw [nodeOfPriv_of_invalid c s k d i cc fp hv] at h
    exact Or.inl ⟨(Except.error.inj h).symm, rfl⟩
  · cases hp : pubOfPriv c k with
    | none =>
      rw [nodeOfPriv_of_none c s k d i cc fp hv hp] at h
      exact Or.inr ⟨(Except.error.inj h).symm, rfl, rfl⟩
    | some pub =>
      rw [nodeOfPriv_of_some c s k d i cc fp hv hp] at h
      cases h

end

section
variable (c : CurveT) (s : Scheme) (p : Bytes) (d i : Nat) (cc fp : Bytes)

theorem nodeOfPub_of_none (hp : pubFromBytes c p = none) :
    nodeOfPub c s p d i cc fp = .error .key := by
  rw [nodeOfPub, hp]
  rfl

theorem nodeOfPub_of_some {pub : Bytes} (hp : pubFromBytes c p = some pub) :
    nodeOfPub c s p d i cc fp =
      .ok { curve := c, scheme := s, priv := none, pub := pub, depth := d, index := i,
            chainCode := cc, parentFp := fp.take 4 } := by
  rw [nodeOfPub, hp]
  rfl

theorem nodeOfPub_ok_iff (nd : Node) :
    nodeOfPub c s p d i cc fp = .ok nd ↔
      ∃ pub, pubFromBytes c p = some pub ∧
        nd = { curve := c, scheme := s, priv := none, pub := pub, depth := d, index := i,
               chainCode := cc, parentFp := fp.take 4 } := by
  cases hp : pubFromBytes c p with
  | none =>
    rw [nodeOfPub_of_none c s p d i cc fp hp]
    exact ⟨nofun, fun ⟨_, h, _⟩ => nomatch h⟩
  | some pub =>
    rw [nodeOfPub_of_some c s p d i cc fp hp]
    exact ⟨fun h => ⟨pub, rfl, (Except.ok.inj h).symm⟩, fun ⟨_, h1, h2⟩ => by rw [h2, Option.some.inj h1]⟩

theorem nodeOfPub_error (e : Err) (h : nodeOfPub c s p d i cc fp = .error e) :
    e = .key ∧ pubFromBytes c p = none := by
  cases hp : pubFromBytes c p with
  | none =>
    rw [nodeOfPub_of_none c s p d i cc fp hp] at h
    exact ⟨(Except.error.inj h).symm, rfl⟩
  | some pub =>
    rw [nodeOfPub_of_some c s p d i cc fp hp] at h
    cases h

end

theorem nodeOfPriv_ok {c s priv depth index cc fp n}
    (h : nodeOfPriv c s priv depth index cc fp = .ok n) :
    NodeFields n c s (some priv) depth index cc fp := by
  obtain ⟨_, pub, _, rfl⟩ := (nodeOfPriv_ok_iff ..).mp h
  exact ⟨rfl, rfl, rfl, rfl, rfl, rfl, rfl⟩

theorem nodeOfPub_ok {c s pubBytes depth index cc fp n}
    (h : nodeOfPub c s pubBytes depth index cc fp = .ok n) :
    NodeFields n c s none depth index cc fp := by
  obtain ⟨pub, _, rfl⟩ := (nodeOfPub_ok_iff ..).mp h
  exact ⟨rfl, rfl, rfl, rfl, rfl, rfl, rfl⟩

/-! ### child derivation -/

structure IsChildOf (nd : Node) (idx : Nat) (c : Node) : Prop where
  depth : c.depth = nd.depth + 1
  index : c.index = idx
  curve : c.curve = nd.curve
  scheme : c.scheme = nd.scheme
  parentFp : c.parentFp = nd.fingerprint.take 4
  priv : c.priv.isSome ↔ nd.priv.isSome
  idx_lt : idx < 2 ^ 32

theorem IsChildOf.isPublicOnly {nd idx c} (h : IsChildOf nd idx c) :
    c.isPublicOnly = nd.isPublicOnly := by
  unfold Node.isPublicOnly
  rw [← Option.not_isSome, ← Option.not_isSome, Bool.eq_iff_iff.2 h.priv]

/-- what `slip10ChildKey` and `kholawChildKey` share: the `Bip32KeyIndex` range check, private or
public derivation by `ckdPriv` / `ckdPub` (a public-only parent refuses hardened indices first), the
one-byte depth check and the constructor call -/
def childKeyVia (ckdPriv : Node → Bytes → Nat → R (Bytes × Bytes))
    (ckdPub : Node → Nat → R (Bytes × Bytes)) (nd : Node) (idx : Nat) : R Node :=
  if idx > 2 ^ 32 - 1 then .error .value
  else match nd.priv with
    | some priv => ckdPriv nd priv idx >>= fun x =>
      if nd.depth ≥ 255 then .error .value
      else nodeOfPriv nd.curve nd.scheme x.1 (nd.depth + 1) idx x.2 nd.fingerprint
    | none =>
      if isHardened idx then .error .key
      else ckdPub nd idx >>= fun x =>
        if nd.depth ≥ 255 then .error .value
        else nodeOfPub nd.curve nd.scheme x.1 (nd.depth + 1) idx x.2 nd.fingerprint

theorem slip10ChildKey_eq_via : slip10ChildKey = childKeyVia slip10CkdPriv slip10CkdPub := rfl
theorem kholawChildKey_eq_via : kholawChildKey = childKeyVia kholawCkdPriv kholawCkdPub := rfl

section
variable {p : Node → Bytes → Nat → R (Bytes × Bytes)} {q : Node → Nat → R (Bytes × Bytes)}

theorem childKeyVia_idx_ge (nd : Node) (idx : Nat) (h : 2 ^ 32 ≤ idx) :
    childKeyVia p q nd idx = .error .value :=
  if_pos h

theorem childKeyVia_priv {nd : Node} {idx : Nat} {priv : Bytes} (hi : idx < 2 ^ 32)
    (hp : nd.priv = some priv) :
    childKeyVia p q nd idx = (p nd priv idx >>= fun x =>
      if nd.depth ≥ 255 then .error .value
      else nodeOfPriv nd.curve nd.scheme x.1 (nd.depth + 1) idx x.2 nd.fingerprint) := by
  rw [childKeyVia, if_neg (show ¬ idx > 2 ^ 32 - 1 from Nat.not_le.2 hi), hp]

theorem childKeyVia_pub {nd : Node} {idx : Nat} (hi : idx < 2 ^ 32) (hp : nd.priv = none) :
    childKeyVia p q nd idx =
      if isHardened idx then .error .key
      else q nd idx >>= fun x =>
        if nd.depth ≥ 255 then .error .value
        else nodeOfPub nd.curve nd.scheme x.1 (nd.depth + 1) idx x.2 nd.fingerprint := by
  rw [childKeyVia, if_neg (show ¬ idx > 2 ^ 32 - 1 from Nat.not_le.2 hi), hp]

theorem childKeyVia_pub_hardened (nd : Node) (idx : Nat) (hp : nd.priv = none)
    (hi : idx < 2 ^ 32) (hh : isHardened idx = true) : childKeyVia p q nd idx = .error .key := by
  rw [childKeyVia_pub hi hp, if_pos hh]

theorem childKeyVia_idx_lt {nd idx c} (h : childKeyVia p q nd idx = .ok c) : idx < 2 ^ 32 :=
  Nat.lt_of_not_le fun hge => by
    rw [childKeyVia_idx_ge nd idx hge] at h
    cases h

theorem childKeyVia_cases (nd : Node) (idx : Nat) (c : Node) (h : childKeyVia p q nd idx = .ok c) :
    nd.depth < 255 ∧
      ((∃ priv x, nd.priv = some priv ∧ p nd priv idx = .ok x ∧
          nodeOfPriv nd.curve nd.scheme x.1 (nd.depth + 1) idx x.2 nd.fingerprint = .ok c) ∨
       (nd.priv = none ∧ isHardened idx = false ∧ ∃ x, q nd idx = .ok x ∧
          nodeOfPub nd.curve nd.scheme x.1 (nd.depth + 1) idx x.2 nd.fingerprint = .ok c)) := by
  have hi := childKeyVia_idx_lt h
  cases hp : nd.priv with
  | some priv =>
    rw [childKeyVia_priv hi hp, bind_eq_ok_iff] at h
    obtain ⟨x, hx, hg⟩ := h
    obtain ⟨hd, hn⟩ := (ite_error_eq_ok ..).mp hg
    exact ⟨Nat.not_le.mp hd, Or.inl ⟨priv, x, rfl, hx, hn⟩⟩
  | none =>
    rw [childKeyVia_pub hi hp] at h
    cases hh : isHardened idx
    · rw [hh, if_neg Bool.noConfusion, bind_eq_ok_iff] at h
      obtain ⟨x, hx, hg⟩ := h
      obtain ⟨hd, hn⟩ := (ite_error_eq_ok ..).mp hg
      exact ⟨Nat.not_le.mp hd, Or.inr ⟨rfl, rfl, x, hx, hn⟩⟩
    · rw [hh, if_pos rfl] at h
      cases h

theorem childKeyVia_ok {nd idx c} (h : childKeyVia p q nd idx = .ok c) : IsChildOf nd idx c := by
  have hi := childKeyVia_idx_lt h
  obtain ⟨_, ⟨priv, x, hp, _, hn⟩ | ⟨hp, _, x, _, hn⟩⟩ := childKeyVia_cases nd idx c h
  · have f := nodeOfPriv_ok hn
    exact ⟨f.depth, f.index, f.curve, f.scheme, f.parentFp, by rw [f.priv, hp]; exact Iff.rfl, hi⟩
  · have f := nodeOfPub_ok hn
    exact ⟨f.depth, f.index, f.curve, f.scheme, f.parentFp, by rw [f.priv, hp], hi⟩

end

theorem childKey_ok {nd idx c} (h : childKey nd idx = .ok c) : IsChildOf nd idx c := by
  unfold childKey at h
  split at h
  · exact childKeyVia_ok (slip10ChildKey_eq_via ▸ h)
  · exact childKeyVia_ok (kholawChildKey_eq_via ▸ h)

theorem childKey_idx_ge (nd : Node) (idx : Nat) (h : 2 ^ 32 ≤ idx) :
    childKey nd idx = .error .value := by
  unfold childKey
  split
  · exact childKeyVia_idx_ge nd idx h
  · exact childKeyVia_idx_ge nd idx h

theorem childKey_pub_hardened (nd : Node) (idx : Nat) (hp : nd.priv = none)
    (hi : idx < 2 ^ 32) (hh : isHardened idx = true) : childKey nd idx = .error .key := by
  unfold childKey
  split
  · exact childKeyVia_pub_hardened nd idx hp hi hh
  · exact childKeyVia_pub_hardened nd idx hp hi hh

/-! ### SLIP-0010 ed25519 curves: no non-hardened and no public derivation -/

theorem slip10CkdPriv_ed_soft (nd : Node) (priv : Bytes) (idx : Nat) (h : nd.curve.isEcdsa = false)
    (hh : isHardened idx = false) : slip10CkdPriv nd priv idx = .error .key := by
  rw [slip10CkdPriv, h, hh]
  rfl

theorem slip10CkdPub_ed (nd : Node) (idx : Nat) (hc : nd.curve.isEcdsa = false) :
    slip10CkdPub nd idx = .error .key := by
  rw [slip10CkdPub, hc]
  rfl

theorem slip10ChildKey_ed_priv_nonhardened (nd : Node) (idx : Nat) (priv : Bytes)
    (hc : nd.curve.isEcdsa = false) (hp : nd.priv = some priv) (hi : idx < 2 ^ 32)
    (hh : isHardened idx = false) : slip10ChildKey nd idx = .error .key := by
  rw [slip10ChildKey_eq_via, childKeyVia_priv hi hp, slip10CkdPriv_ed_soft nd priv idx hc hh]
  rfl

theorem slip10ChildKey_ed_pub (nd : Node) (idx : Nat) (hc : nd.curve.isEcdsa = false)
    (hp : nd.priv = none) (hi : idx < 2 ^ 32) : slip10ChildKey nd idx = .error .key := by
  rw [slip10ChildKey_eq_via, childKeyVia_pub hi hp, slip10CkdPub_ed nd idx hc]
  cases isHardened idx <;> rfl

theorem childKey_slip10_ed_priv_nonhardened (nd : Node) (idx : Nat) (priv : Bytes)
    (hs : nd.scheme = .slip10) (hc : nd.curve.isEcdsa = false) (hp : nd.priv = some priv)
    (hi : idx < 2 ^ 32) (hh : isHardened idx = false) : childKey nd idx = .error .key := by
  unfold childKey; rw [hs]
  exact slip10ChildKey_ed_priv_nonhardened nd idx priv hc hp hi hh

theorem childKey_slip10_ed_pub (nd : Node) (idx : Nat)
    (hs : nd.scheme = .slip10) (hc : nd.curve.isEcdsa = false) (hp : nd.priv = none)
    (hi : idx < 2 ^ 32) : childKey nd idx = .error .key := by
  unfold childKey; rw [hs]
  exact slip10ChildKey_ed_pub nd idx hc hp hi

end BipVerif.Model
