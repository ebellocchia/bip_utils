/- SS58 (`SS58Encoder.Encode`, `SS58Decoder.Decode`).
The one- or two-byte format prefix is turned from bit operations into arithmetic on
`fmt = 256 * hi + 4 * q + r`, in both directions. The decoder is rewritten as Base58 decoding, a
prefix reader (`ss58PrefixStrict`) and a tail of plain `if`s (`ss58Tail`); from that form come the
round trip, canonicity (an accepted address is the encoding of the format and payload it decodes
to, hence decoding is injective), and the error classes of the decoder. -/
import BipVerif.Lemmas.Base58Check
import BipVerif.Model.SS58

namespace BipVerif.Model
open BipVerif
open C14MoreLemmas (Only)

/-! ### the format prefix
The bit operations on the prefix are arithmetic on the 14-bit format `fmt = 256 * hi + lo`:
the encoder writes `64 + lo / 4` and `64 * (lo % 4) + hi`, the decoder reassembles them. -/

/-- first prefix byte of the two-byte form (as a number) -/
def ss58B0 (fmt : Nat) : Nat := ((fmt &&& 252) >>> 2) ||| 64

/-- second prefix byte of the two-byte form (as a number) -/
def ss58B1 (fmt : Nat) : Nat := (fmt >>> 8) ||| ((fmt &&& 3) <<< 6)

/-- the decoder's formula for the two-byte form -/
def ss58Fmt2 (b0 b1 : Nat) : Nat := ((b0 &&& 63) <<< 2) ||| (b1 >>> 6) ||| ((b1 &&& 63) <<< 8)

theorem and_two_pow_eq (x i : Nat) : x &&& 2 ^ i = x / 2 ^ i % 2 * 2 ^ i := by
  have hdiv : (x &&& 2 ^ i) / 2 ^ i = x / 2 ^ i % 2 := by
    rw [Nat.and_div_two_pow, Nat.div_self (Nat.two_pow_pos i), Nat.and_one_is_mod]
  have hmod : (x &&& 2 ^ i) % 2 ^ i = 0 := by
    rw [← Nat.and_two_pow_sub_one_eq_mod, Nat.and_assoc, Nat.and_two_pow_sub_one_eq_mod,
      Nat.mod_self, Nat.and_zero]
  rw [← Nat.div_add_mod' (x &&& 2 ^ i) (2 ^ i), hdiv, hmod, Nat.add_zero]

theorem and_128_eq_zero_iff {b : Nat} (hb : b < 256) : b &&& 128 = 0 ↔ b < 128 := by
  have h : b &&& 128 = b / 128 % 2 * 128 := and_two_pow_eq b 7
  omega

theorem and_64_eq_zero_iff {b : Nat} (hb : b < 128) : b &&& 64 = 0 ↔ b < 64 := by
  have h : b &&& 64 = b / 64 % 2 * 64 := and_two_pow_eq b 6
  omega

theorem ss58B0_eq (hi : Nat) {q r : Nat} (hq : q < 64) (hr : r < 4) :
    ss58B0 (256 * hi + 4 * q + r) = 64 + q := by
  generalize hf : 256 * hi + 4 * q + r = fmt
  have h : ss58B0 fmt = 2 ^ 6 * 1 ||| (fmt >>> 2 &&& 2 ^ 6 - 1) := by
    rw [ss58B0, Nat.shiftRight_and_distrib, Nat.or_comm]; rfl
  rw [h, Nat.and_two_pow_sub_one_eq_mod, Nat.shiftRight_eq_div_pow,
    ← Nat.two_pow_add_eq_or_of_lt (Nat.mod_lt _ (by omega))]
  omega

theorem ss58B1_eq {hi q r : Nat} (hhi : hi < 64) (hq : q < 64) (hr : r < 4) :
    ss58B1 (256 * hi + 4 * q + r) = 64 * r + hi := by
  generalize hf : 256 * hi + 4 * q + r = fmt
  have h : ss58B1 fmt = (fmt &&& 2 ^ 2 - 1) <<< 6 ||| fmt >>> 8 := Nat.or_comm ..
  have hlt : fmt >>> 8 < 2 ^ 6 := by rw [Nat.shiftRight_eq_div_pow]; omega
  rw [h, ← Nat.shiftLeft_add_eq_or_of_lt hlt, Nat.and_two_pow_sub_one_eq_mod,
    Nat.shiftLeft_eq, Nat.shiftRight_eq_div_pow]
  omega

theorem ss58Fmt2_eq {hi q r : Nat} (hhi : hi < 64) (hq : q < 64) (hr : r < 4) :
    ss58Fmt2 (64 + q) (64 * r + hi) = 256 * hi + 4 * q + r := by
  generalize hb0 : 64 + q = b0
  generalize hb1 : 64 * r + hi = b1
  have h : ss58Fmt2 b0 b1
      = (b1 &&& 2 ^ 6 - 1) <<< 8 ||| ((b0 &&& 2 ^ 6 - 1) <<< 2 ||| b1 >>> 6) := Nat.or_comm ..
  have hlo : b1 >>> 6 < 2 ^ 2 := by rw [Nat.shiftRight_eq_div_pow]; omega
  have hin : (b0 &&& 2 ^ 6 - 1) <<< 2 ||| b1 >>> 6 = 4 * q + r := by
    rw [← Nat.shiftLeft_add_eq_or_of_lt hlo, Nat.and_two_pow_sub_one_eq_mod, Nat.shiftLeft_eq,
      Nat.shiftRight_eq_div_pow]
    omega
  rw [h, hin, ← Nat.shiftLeft_add_eq_or_of_lt (by omega), Nat.and_two_pow_sub_one_eq_mod,
    Nat.shiftLeft_eq]
  omega

theorem ss58_two_byte {fmt : Nat} (h1 : 64 ≤ fmt) (h2 : fmt ≤ 16383) :
    ss58B0 fmt < 256 ∧ ss58B1 fmt < 256 ∧ ss58B0 fmt &&& 64 ≠ 0 ∧ ss58B0 fmt &&& 128 = 0 ∧
      ss58Fmt2 (ss58B0 fmt) (ss58B1 fmt) = fmt := by
  obtain ⟨hi, q, r, hhi, hq, hr, rfl⟩ :
      ∃ hi q r, hi < 64 ∧ q < 64 ∧ r < 4 ∧ fmt = 256 * hi + 4 * q + r :=
    ⟨fmt / 256, fmt / 4 % 64, fmt % 4, by omega, by omega, by omega, by omega⟩
  rw [ss58B0_eq hi hq hr, ss58B1_eq hhi hq hr, Ne, and_64_eq_zero_iff (by omega),
    and_128_eq_zero_iff (by omega), ss58Fmt2_eq hhi hq hr]
  omega

theorem ss58_two_byte_conv {b0 b1 : Nat} (h0 : 64 ≤ b0) (h0' : b0 < 128) (h1 : b1 < 256) :
    ss58Fmt2 b0 b1 ≤ 16383 ∧ ss58B0 (ss58Fmt2 b0 b1) = b0 ∧ ss58B1 (ss58Fmt2 b0 b1) = b1 := by
  obtain ⟨q, hq, rfl⟩ : ∃ q, q < 64 ∧ b0 = 64 + q := ⟨b0 - 64, by omega, by omega⟩
  obtain ⟨hi, r, hhi, hr, rfl⟩ : ∃ hi r, hi < 64 ∧ r < 4 ∧ b1 = 64 * r + hi :=
    ⟨b1 % 64, b1 / 64, by omega, by omega, by omega⟩
  rw [ss58Fmt2_eq hhi hq hr, ss58B0_eq hi hq hr, ss58B1_eq hhi hq hr]
  omega

theorem ss58_one_byte {fmt : Nat} (h : fmt ≤ 63) : fmt &&& 64 = 0 ∧ fmt &&& 128 = 0 :=
  ⟨(and_64_eq_zero_iff (by omega)).mpr (by omega), (and_128_eq_zero_iff (by omega)).mpr (by omega)⟩

theorem ss58FormatBytes_small {fmt : Nat} (h : fmt ≤ 63) :
    ss58FormatBytes fmt = [UInt8.ofNat fmt] := by
  unfold ss58FormatBytes; rw [if_pos h, toBytesAuto_of_lt_256 (by omega)]

theorem ss58FormatBytes_large {fmt : Nat} (h : 64 ≤ fmt) :
    ss58FormatBytes fmt = [UInt8.ofNat (ss58B0 fmt), UInt8.ofNat (ss58B1 fmt)] := by
  unfold ss58FormatBytes; rw [if_neg (by omega)]; rfl

/-! ### the decoder as Base58 decoding, prefix reader and tail; the round trip -/

theorem ss58Checksum_length (H : Bytes → Bytes) (hH : ∀ x, 2 ≤ (H x).length) (p : Bytes) :
    (ss58Checksum H p).length = 2 := by
  unfold ss58Checksum; rw [List.length_take]; have := hH (ss58Prefix ++ p); omega

theorem ss58Encode_ok (H : Bytes → Bytes) (data : Bytes) (fmt : Nat) (hd : data.length = 32)
    (hf : fmt ≤ 16383) (h46 : fmt ≠ 46) (h47 : fmt ≠ 47) :
    ss58Encode H data fmt = .ok (b58Encode btcAlphabet
      ((ss58FormatBytes fmt ++ data) ++ ss58Checksum H (ss58FormatBytes fmt ++ data))) := by
  unfold ss58Encode
  have h1 : ¬ data.length ≠ 32 := by omega
  have h2 : ¬ fmt > 16383 := by omega
  simp [h1, h2, h46, h47, pure, Except.pure]

/-- the decoder's reading of the prefix, as (length, format): reserved first bytes (bit 7 set) and
non-canonical two-byte prefixes (decoded format `≤ 63`) are refused. -/
def ss58PrefixStrict (b : Bytes) : Option (Nat × Nat) :=
  match b with
  | [] => none
  | b0 :: rest =>
    if b0.toNat &&& 128 ≠ 0 then none
    else if b0.toNat &&& 64 ≠ 0 then
      match rest with
      | [] => none
      | b1 :: _ => if ss58Fmt2 b0.toNat b1.toNat ≤ 63 then none else some (2, ss58Fmt2 b0.toNat b1.toNat)
    else some (1, b0.toNat)

/-- the part of `ss58Decode` after the prefix, with the tests spelled as the model spells them -/
def ss58Tail (H : Bytes → Bytes) (dec : Bytes) (fmtLen fmt : Nat) : R (Nat × Bytes) :=
  if fmt = 46 || fmt = 47 then .error .value
  else
    let dataBytes := if dec.length < fmtLen + 2 then [] else dropLast (dec.drop fmtLen) 2
    if dataBytes.length ≠ 32 then .error .value
    else if takeLast dec 2 != ss58Checksum H (dropLast dec 2) then .error .checksum
    else .ok (fmt, dataBytes)

/-- `ss58Decode` is Base58 decoding, the prefix reader and the tail.  Each guard `if c then throw e`
of the `do` block is definitionally the plain `if` of `ss58Tail`, so only the prefix needs cases. -/
theorem ss58Decode_eq (H : Bytes → Bytes) (s : List Char) :
    ss58Decode H s = b58Decode btcAlphabet s >>= fun dec =>
      if dec.length < 2 then .error .value else
      match ss58PrefixStrict dec with
      | none => .error .value
      | some (fmtLen, fmt) => ss58Tail H dec fmtLen fmt := by
  unfold ss58Decode
  refine congrArg _ (funext fun dec => ?_)
  match dec with
  | [] => rfl
  | [b0] => rfl
  | b0 :: b1 :: rest =>
    have hlen : ¬ (b0 :: b1 :: rest).length < 2 := by simp
    dsimp only [ss58PrefixStrict]
    rw [guard_neg hlen, if_neg hlen, pyIdx_eq_ok (x := b0) rfl, ok_bind]
    by_cases h7 : b0.toNat &&& 128 ≠ 0
    · rw [guard_pos h7, if_pos h7]
    · rw [guard_neg h7, if_neg h7]
      by_cases h6 : b0.toNat &&& 64 ≠ 0
      · rw [if_pos h6, if_pos h6, pyIdx_eq_ok (x := b1) rfl, ok_bind]
        by_cases hf : ss58Fmt2 b0.toNat b1.toNat ≤ 63
        · rw [if_pos hf]; exact guard_pos hf
        · rw [if_neg hf]; exact guard_neg hf
      · rw [if_neg h6, if_neg h6]; rfl

theorem ss58Tail_eq_ok {H : Bytes → Bytes} {dec : Bytes} {fmtLen fmt : Nat} {r : Nat × Bytes} :
    ss58Tail H dec fmtLen fmt = .ok r ↔ fmt ≠ 46 ∧ fmt ≠ 47 ∧ r.2.length = 32 ∧
      takeLast dec 2 = ss58Checksum H (dropLast dec 2) ∧
      r = (fmt, if dec.length < fmtLen + 2 then [] else dropLast (dec.drop fmtLen) 2) := by
  unfold ss58Tail
  simp only [ite_error_eq_ok, Bool.or_eq_true, decide_eq_true_eq, not_or, bne_iff_ne, ne_eq, not_not,
    Except.ok.injEq]
  constructor
  · rintro ⟨⟨h46, h47⟩, hl, hck, rfl⟩; exact ⟨h46, h47, hl, hck, rfl⟩
  · rintro ⟨h46, h47, hl, hck, rfl⟩; exact ⟨⟨h46, h47⟩, hl, hck, rfl⟩

theorem ss58PrefixStrict_formatBytes {fmt : Nat} (h : fmt ≤ 16383) (tail : Bytes) :
    ss58PrefixStrict (ss58FormatBytes fmt ++ tail) = some ((ss58FormatBytes fmt).length, fmt) := by
  by_cases hs : fmt ≤ 63
  · rw [ss58FormatBytes_small hs]
    simp only [ss58PrefixStrict, List.cons_append, List.nil_append, uint8_toNat_ofNat_lt (by omega : fmt < 256),
      ss58_one_byte hs]
    rfl
  · obtain ⟨a, b, c, d, e⟩ := ss58_two_byte (by omega : 64 ≤ fmt) h
    rw [ss58FormatBytes_large (by omega)]
    simp only [ss58PrefixStrict, List.cons_append, List.nil_append, uint8_toNat_ofNat_lt a,
      uint8_toNat_ofNat_lt b, e, d]
    rw [if_neg (by simp), if_pos c, if_neg hs]
    rfl

theorem ss58_decode_encode (H : Bytes → Bytes) (hH : ∀ x, 2 ≤ (H x).length) (data : Bytes)
    (fmt : Nat) (hd : data.length = 32) (hf : fmt ≤ 16383) (h46 : fmt ≠ 46) (h47 : fmt ≠ 47) :
    (ss58Encode H data fmt >>= ss58Decode H) = .ok (fmt, data) := by
  rw [ss58Encode_ok H data fmt hd hf h46 h47, ok_bind, ss58Decode_eq,
    b58_decode_encode btcAlphabet btcAlphabet_nodup btcAlphabet_length, ok_bind]
  generalize hfb : ss58FormatBytes fmt = fb
  generalize hck : ss58Checksum H (fb ++ data) = ck
  have hckl : ck.length = 2 := hck ▸ ss58Checksum_length H hH _
  have hpre := ss58PrefixStrict_formatBytes hf (data ++ ck)
  rw [hfb, ← List.append_assoc] at hpre
  have hlen0 : ¬ ((fb ++ data) ++ ck).length < 2 := by
    simp only [List.length_append, hckl]; omega
  have hlen2 : ¬ ((fb ++ data) ++ ck).length < fb.length + 2 := by
    simp only [List.length_append, hckl]; omega
  have hdata : dropLast (((fb ++ data) ++ ck).drop fb.length) 2 = data := by
    rw [List.append_assoc, List.drop_left]; exact dropLast_append_of_length _ _ 2 hckl
  rw [if_neg hlen0, hpre]
  exact ss58Tail_eq_ok.mpr ⟨h46, h47, hd,
    by rw [takeLast_append_of_length _ _ 2 hckl, dropLast_append_of_length _ _ 2 hckl, hck],
    by rw [if_neg hlen2, hdata]⟩

/-! ### canonicity: an accepted address is the encoding of what it decodes to -/

theorem ss58PrefixStrict_sound {dec : Bytes} {fmtLen fmt : Nat}
    (h : ss58PrefixStrict dec = some (fmtLen, fmt)) :
    fmt ≤ 16383 ∧ dec.take fmtLen = ss58FormatBytes fmt ∧ fmtLen ≤ dec.length := by
  cases dec with
  | nil => simp [ss58PrefixStrict] at h
  | cons b0 rest =>
    have hb0 := b0.toNat_lt
    by_cases h7 : b0.toNat &&& 128 ≠ 0
    · simp only [ss58PrefixStrict, if_pos h7] at h; cases h
    · have h7' : b0.toNat &&& 128 = 0 := by simpa using h7
      have hlt : b0.toNat < 128 := (and_128_eq_zero_iff hb0).mp h7'
      by_cases h6 : b0.toNat &&& 64 ≠ 0
      · cases rest with
        | nil => simp only [ss58PrefixStrict, if_neg h7, if_pos h6] at h; cases h
        | cons b1 rest' =>
          have hb1 := b1.toNat_lt
          by_cases hf : ss58Fmt2 b0.toNat b1.toNat ≤ 63
          · simp only [ss58PrefixStrict, if_neg h7, if_pos h6, if_pos hf] at h; cases h
          · simp only [ss58PrefixStrict, if_neg h7, if_pos h6, if_neg hf, Option.some.injEq,
              Prod.mk.injEq] at h
            obtain ⟨rfl, rfl⟩ := h
            have hr0 : 64 ≤ b0.toNat := by rw [Ne, and_64_eq_zero_iff hlt] at h6; omega
            obtain ⟨a, b, c⟩ := ss58_two_byte_conv hr0 hlt hb1
            refine ⟨a, ?_, by simp⟩
            rw [ss58FormatBytes_large (by omega), b, c]
            simp
      · simp only [ss58PrefixStrict, if_neg h7, if_neg h6, Option.some.injEq, Prod.mk.injEq] at h
        obtain ⟨rfl, rfl⟩ := h
        have hle : b0.toNat < 64 := (and_64_eq_zero_iff hlt).mp (by simpa using h6)
        refine ⟨by omega, ?_, by simp⟩
        rw [ss58FormatBytes_small (by omega)]
        simp

theorem ss58Decode_ok_inv {H : Bytes → Bytes} {s : List Char} {fmt : Nat} {data : Bytes}
    (h : ss58Decode H s = .ok (fmt, data)) :
    ∃ dec, b58Decode btcAlphabet s = .ok dec ∧ fmt ≤ 16383 ∧ fmt ≠ 46 ∧ fmt ≠ 47 ∧ data.length = 32 ∧
      dec = (ss58FormatBytes fmt ++ data) ++ ss58Checksum H (ss58FormatBytes fmt ++ data) := by
  rw [ss58Decode_eq] at h
  obtain ⟨dec, hdec, h⟩ := bind_ok_inv h
  obtain ⟨-, h⟩ := (ite_error_eq_ok ..).mp h
  split at h
  · cases h
  · rename_i fmtLen fmt' hp
    obtain ⟨h46, h47, hd, hck, hr⟩ := ss58Tail_eq_ok.mp h
    obtain ⟨rfl, hdata⟩ := Prod.mk.inj hr
    obtain ⟨hf, htake, hfl⟩ := ss58PrefixStrict_sound hp
    -- the slice `dec[fmtLen:-2]` is not the empty one, having 32 bytes
    have hlong : ¬ dec.length < fmtLen + 2 := fun hc => by
      rw [hdata, if_pos hc] at hd; cases hd
    rw [if_neg hlong] at hdata
    have hdl : dropLast dec 2 = ss58FormatBytes fmt ++ data := by
      rw [← htake, hdata]
      conv_lhs => rw [← List.take_append_drop fmtLen dec]
      exact dropLast_append _ _ 2 (by rw [List.length_drop]; omega)
    refine ⟨dec, hdec, hf, h46, h47, hd, ?_⟩
    rw [← hdl, ← hck, dropLast_append_takeLast]

/-- No assumption on the output length of `H`: a checksum shorter than two bytes never equals the
two trailing bytes, so then nothing is accepted. -/
theorem ss58_decode_canonical' (H : Bytes → Bytes) {s : List Char} {fmt : Nat} {data : Bytes}
    (h : ss58Decode H s = .ok (fmt, data)) : ss58Encode H data fmt = .ok s := by
  obtain ⟨dec, hdec, hf, h46, h47, hd, hshape⟩ := ss58Decode_ok_inv h
  rw [ss58Encode_ok H data fmt hd hf h46 h47, ← hshape,
    b58Encode_of_b58Decode btcAlphabet btcAlphabet_length hdec]

theorem ss58Decode_inj (H : Bytes → Bytes) {s t : List Char} {r : Nat × Bytes}
    (hs : ss58Decode H s = .ok r) (ht : ss58Decode H t = .ok r) : s = t := by
  obtain ⟨fmt, data⟩ := r
  have h1 := ss58_decode_canonical' H hs
  rw [ss58_decode_canonical' H ht] at h1
  exact (Except.ok.inj h1).symm

/-! ### the decoder raises no `IndexError` -/

/-- Only `ValueError` or `SS58ChecksumError`: the length test precedes the reads of `dec_bytes[0]`
and `dec_bytes[1]`. -/
theorem ss58_decode_errors (H : Bytes → Bytes) {s : List Char} {e : Err}
    (h : ss58Decode H s = .error e) : e = .value ∨ e = .checksum := by
  have hv : ∀ {α}, Only (fun e => e = .value ∨ e = .checksum) (.error .value : R α) :=
    .error (.inl rfl)
  refine Only.h (P := fun e => e = .value ∨ e = .checksum) ?_ e h
  rw [ss58Decode_eq]
  refine .bind ⟨fun _ h => .inl (b58Decode_error h)⟩ fun dec _ => .ite (fun _ => hv) fun _ => ?_
  split
  · exact hv
  · exact .ite (fun _ => hv) fun _ => .ite (fun _ => hv) fun _ =>
      .ite (fun _ => .error (.inr rfl)) fun _ => .ok _

end BipVerif.Model
