/-
SLIP-0010 / BIP-32 child key derivation, about the model in `BipVerif/Model/Bip32.lean`.

First what needs no curve algebra: the re-hash loop, validity of the derived key, metadata,
refusals, the master key, path depth.  Then `CKDpub ∘ N = N ∘ CKDpriv` on the ECDSA curves, under
an explicit law about the key layer (`EcdsaLaw`) and exactly where the public loop does not stop at a
zero sum (`ckdPub_comm_iff`).  The curve arithmetic of `Prim` is never unfolded.
-/
import BipVerif.Model.Bip32
import BipVerif.Lemmas.IntBytes
import BipVerif.Lemmas.Bip32Nodes

namespace BipVerif.Model
open BipVerif BipVerif.Prim

theorem Slip10.bind_error {α β} (e : Err) (f : α → R β) : ((Except.error e : R α) >>= f) = .error e :=
  error_bind e f

/-! ## The re-hash loop -/

/-- the next state of the SLIP-0010 re-hash loop: `HMAC(cc, 0x01 ‖ IR ‖ ser32 idx)` -/
def slip10Rehash (cc : Bytes) (idx : Nat) (ir : Bytes) : Bytes × Bytes :=
  hmacSha512Halves cc ([1] ++ ir ++ ser32 idx)

theorem slip10Rehash_snd_length (cc : Bytes) (idx : Nat) (ir : Bytes) :
    (slip10Rehash cc idx ir).2.length = 32 :=
  hmacSha512Halves_snd_length cc ([1] ++ ir ++ ser32 idx)

/-- the condition under which an `(IL, IR)` pair is rejected -/
def slip10Bad (n : Nat) (kpar : Option Nat) (il : Bytes) : Prop :=
  n ≤ Bytes.toNatBE il ∨ ∃ k, kpar = some k ∧ (Bytes.toNatBE il + k) % n = 0

theorem slip10Bad_none (n : Nat) (il : Bytes) : slip10Bad n none il ↔ n ≤ Bytes.toNatBE il := by
  unfold slip10Bad; simp

theorem slip10Bad_some (n k : Nat) (il : Bytes) :
    slip10Bad n (some k) il ↔ n ≤ Bytes.toNatBE il ∨ (Bytes.toNatBE il + k) % n = 0 := by
  unfold slip10Bad; simp

/-- what the public side rejects (`IL ≥ n`) the private side rejects too -/
theorem slip10Bad_of_none {n : Nat} {kpar : Option Nat} {il : Bytes} (h : slip10Bad n none il) :
    slip10Bad n kpar il :=
  Or.inl ((slip10Bad_none n il).mp h)

instance (n : Nat) (kpar : Option Nat) (il : Bytes) : Decidable (slip10Bad n kpar il) :=
  match kpar with
  | none => decidable_of_iff _ (slip10Bad_none n il).symm
  | some k => decidable_of_iff _ (slip10Bad_some n k il).symm

theorem slip10Retry_zero (n : Nat) (cc : Bytes) (idx : Nat) (kpar : Option Nat) (s : Bytes × Bytes) :
    slip10Retry n cc idx kpar 0 s = .error .fuel := rfl

/-- one step of the loop.  Common case (= plain BIP-32): `IL < n` and the child key is not zero, so
`(IL, IR)` is used; otherwise SLIP-0010's rule: re-hash with `0x01 ‖ IR ‖ ser32 idx` -/
theorem slip10Retry_succ (n : Nat) (cc : Bytes) (idx : Nat) (kpar : Option Nat) (fuel : Nat)
    (il ir : Bytes) :
    slip10Retry n cc idx kpar (fuel + 1) (il, ir) =
      if slip10Bad n kpar il then slip10Retry n cc idx kpar fuel (slip10Rehash cc idx ir)
      else .ok (Bytes.toNatBE il, ir) := by
  conv_lhs => unfold slip10Retry
  unfold slip10Rehash
  cases kpar with
  | none => simp only [slip10Bad_none, ge_iff_le, Bool.or_false, decide_eq_true_eq]; rfl
  | some k => simp only [slip10Bad_some, ge_iff_le, Bool.or_eq_true, decide_eq_true_eq]; rfl

theorem slip10Retry_ok (n : Nat) (cc : Bytes) (idx : Nat) (kpar : Option Nat) (fuel : Nat)
    (s : Bytes × Bytes) (r : Nat × Bytes) (h : slip10Retry n cc idx kpar fuel s = .ok r) :
    ∃ il, ¬ slip10Bad n kpar il ∧ r.1 = Bytes.toNatBE il ∧
      (r.2 = s.2 ∨ ∃ ir, r.2 = (slip10Rehash cc idx ir).2) := by
  induction fuel generalizing s with
  | zero => rw [slip10Retry_zero] at h; cases h
  | succ f ih =>
    obtain ⟨il, ir⟩ := s
    rw [slip10Retry_succ] at h
    split at h
    · obtain ⟨il', hb, hv, hr⟩ := ih _ h
      exact ⟨il', hb, hv, Or.inr (hr.elim (fun e => ⟨ir, e⟩) id)⟩
    · next hb => cases h; exact ⟨il, hb, rfl, Or.inl rfl⟩

theorem slip10Retry_spec (n : Nat) (cc : Bytes) (idx : Nat) (kpar : Option Nat) (fuel : Nat)
    (il ir : Bytes) (v : Nat) (ir' : Bytes)
    (h : slip10Retry n cc idx kpar fuel (il, ir) = .ok (v, ir')) :
    v < n ∧ (∀ k, kpar = some k → (v + k) % n ≠ 0) := by
  obtain ⟨il', hb, rfl, _⟩ := slip10Retry_ok _ _ _ _ _ _ _ h
  unfold slip10Bad at hb
  rw [not_or] at hb
  exact ⟨Nat.not_le.mp hb.1, fun k hk e => hb.2 ⟨k, hk, e⟩⟩

theorem slip10Retry_snd_length (n : Nat) (cc : Bytes) (idx : Nat) (kpar : Option Nat) (fuel : Nat)
    (s : Bytes × Bytes) (r : Nat × Bytes) (hs : s.2.length = 32)
    (h : slip10Retry n cc idx kpar fuel s = .ok r) : r.2.length = 32 := by
  obtain ⟨_, _, _, hr | ⟨ir, hr⟩⟩ := slip10Retry_ok _ _ _ _ _ _ _ h
  · rw [hr]; exact hs
  · rw [hr]; exact slip10Rehash_snd_length cc idx ir

theorem slip10Retry_error (n : Nat) (cc : Bytes) (idx : Nat) (kpar : Option Nat) (fuel : Nat)
    (s : Bytes × Bytes) (e : Err) (h : slip10Retry n cc idx kpar fuel s = .error e) : e = .fuel := by
  induction fuel generalizing s with
  | zero => rw [slip10Retry_zero] at h; cases h; rfl
  | succ f ih =>
    obtain ⟨il, ir⟩ := s
    rw [slip10Retry_succ] at h
    split at h
    · exact ih _ h
    · cases h

/-! ## Validity of the derived private key -/

theorem CurveT.isEcdsa_iff (c : CurveT) : c.isEcdsa = true ↔ c = .secp256k1 ∨ c = .nist256p1 := by
  cases c <;> decide

theorem ecdsa_order_lt (c : CurveT) (h : c.isEcdsa = true) : c.order < 256 ^ 32 := by
  obtain rfl | rfl := (CurveT.isEcdsa_iff c).mp h <;> decide

theorem ecdsa_order_pos (c : CurveT) (h : c.isEcdsa = true) : 0 < c.order := by
  obtain rfl | rfl := (CurveT.isEcdsa_iff c).mp h <;> decide

theorem ecdsa_mod_order_lt (c : CurveT) (h : c.isEcdsa = true) (x : Nat) : x % c.order < 256 ^ 32 :=
  Nat.lt_trans (Nat.mod_lt _ (ecdsa_order_pos c h)) (ecdsa_order_lt c h)

theorem privValid_ecdsa_iff (c : CurveT) (h : c.isEcdsa = true) (b : Bytes) :
    privValid c b = true ↔ b.length = 32 ∧ 0 < Bytes.toNatBE b ∧ Bytes.toNatBE b < c.order := by
  obtain rfl | rfl := (CurveT.isEcdsa_iff c).mp h <;> simp [privValid, and_assoc]

/-- the data fed to the first HMAC of the private derivation -/
def slip10PrivData (nd : Node) (priv : Bytes) (idx : Nat) : Bytes :=
  if isHardened idx then [0] ++ priv ++ ser32 idx else nd.pub ++ ser32 idx

/-- for a non-hardened index both sides hash the same data -/
theorem slip10PrivData_soft (nd : Node) (k : Bytes) {idx : Nat} (hh : isHardened idx = false) :
    slip10PrivData nd k idx = nd.pub ++ ser32 idx := by
  unfold slip10PrivData; rw [hh]; rfl

theorem slip10CkdPriv_ecdsa (nd : Node) (priv : Bytes) (idx : Nat) (h : nd.curve.isEcdsa = true) :
    slip10CkdPriv nd priv idx =
      (slip10Retry nd.curve.order nd.chainCode idx (some (Bytes.toNatBE priv)) 4096
          (hmacSha512Halves nd.chainCode (slip10PrivData nd priv idx)) >>= fun x =>
        toBytesBE ((x.1 + Bytes.toNatBE priv) % nd.curve.order) 32 >>= fun nk => .ok (nk, x.2)) := by
  rw [slip10CkdPriv, if_pos h]
  exact bind_congr fun (_, _) => rfl

theorem slip10CkdPub_ecdsa (nd : Node) (idx : Nat) (h : nd.curve.isEcdsa = true) :
    slip10CkdPub nd idx =
      (slip10Retry nd.curve.order nd.chainCode idx none 4096
          (hmacSha512Halves nd.chainCode (nd.pub ++ ser32 idx)) >>= fun x =>
        match pubAddMulG nd.curve nd.pub x.1 with
        | some p => .ok (p, x.2)
        | none => .error .key) := by
  rw [slip10CkdPub, if_pos h]
  exact bind_congr fun (_, _) => rfl

theorem slip10CkdPriv_ecdsa_ok_iff (nd : Node) (priv : Bytes) (idx : Nat) (h : nd.curve.isEcdsa = true)
    (k cc : Bytes) :
    slip10CkdPriv nd priv idx = .ok (k, cc) ↔
      ∃ il, slip10Retry nd.curve.order nd.chainCode idx (some (Bytes.toNatBE priv)) 4096
              (hmacSha512Halves nd.chainCode (slip10PrivData nd priv idx)) = .ok (il, cc) ∧
            toBytesBE ((il + Bytes.toNatBE priv) % nd.curve.order) 32 = .ok k := by
  rw [slip10CkdPriv_ecdsa nd priv idx h, bind_eq_ok_iff]
  constructor
  · rintro ⟨⟨il, ir⟩, h1, h2⟩
    obtain ⟨nk, hnk, he⟩ := bind_ok_inv h2
    cases he
    exact ⟨il, h1, hnk⟩
  · rintro ⟨il, h1, h2⟩
    exact ⟨(il, cc), h1, by rw [h2]; rfl⟩

/-- errors of the ECDSA private derivation: only fuel exhaustion (the 32-byte conversion cannot
overflow because `n < 2^256`) -/
theorem slip10CkdPriv_ecdsa_error (nd : Node) (priv : Bytes) (idx : Nat) (h : nd.curve.isEcdsa = true)
    (e : Err) (he : slip10CkdPriv nd priv idx = .error e) : e = .fuel := by
  rw [slip10CkdPriv_ecdsa nd priv idx h] at he
  rcases bind_error_inv he with h1 | ⟨⟨il, ir⟩, _, h2⟩
  · exact slip10Retry_error _ _ _ _ _ _ _ h1
  · rw [toBytesBE_eq_ok _ _ (ecdsa_mod_order_lt _ h _)] at h2
    cases h2

/-- Neither `0 < n` nor validity of the parent key is assumed: `n` is one of two concrete orders, and
`k' ≠ 0` is what the loop tested. -/
theorem ckdPriv_key_valid (nd : Node) (priv : Bytes) (idx : Nat) (h : nd.curve.isEcdsa = true)
    (k cc : Bytes) (hok : slip10CkdPriv nd priv idx = .ok (k, cc)) :
    privValid nd.curve k = true ∧ cc.length = 32 := by
  obtain ⟨il, h1, h2⟩ := (slip10CkdPriv_ecdsa_ok_iff nd priv idx h k cc).mp hok
  have hn := ecdsa_order_pos _ h
  obtain ⟨hv, hl⟩ := toBytesBE_toNatBE h2
  obtain ⟨_, hz⟩ := slip10Retry_spec _ _ _ _ _ _ _ _ _ h1
  refine ⟨(privValid_ecdsa_iff _ h k).mpr ⟨hl, ?_, ?_⟩, ?_⟩
  · rw [hv]; exact Nat.pos_of_ne_zero (hz _ rfl)
  · rw [hv]; exact Nat.mod_lt _ hn
  · exact slip10Retry_snd_length _ _ _ _ _ _ (il, cc) (hmacSha512Halves_snd_length _ _) h1

theorem ckdPriv_key_value (nd : Node) (priv : Bytes) (idx : Nat) (h : nd.curve.isEcdsa = true)
    (k cc : Bytes) (hok : slip10CkdPriv nd priv idx = .ok (k, cc)) :
    ∃ il, slip10Retry nd.curve.order nd.chainCode idx (some (Bytes.toNatBE priv)) 4096
              (hmacSha512Halves nd.chainCode (slip10PrivData nd priv idx)) = .ok (il, cc) ∧
      Bytes.toNatBE k = (il + Bytes.toNatBE priv) % nd.curve.order := by
  obtain ⟨il, h1, h2⟩ := (slip10CkdPriv_ecdsa_ok_iff nd priv idx h k cc).mp hok
  exact ⟨il, h1, (toBytesBE_toNatBE h2).1⟩

/-! ## `slip10ChildKey`, an instance of the `ChildKey` frame `childKeyVia` -/

theorem slip10ChildKey_range (nd : Node) (idx : Nat) (h : 2 ^ 32 ≤ idx) :
    slip10ChildKey nd idx = .error .value :=
  childKeyVia_idx_ge nd idx h

theorem slip10ChildKey_priv (nd : Node) (idx : Nat) (priv : Bytes) (hi : idx < 2 ^ 32)
    (hp : nd.priv = some priv) :
    slip10ChildKey nd idx =
      (slip10CkdPriv nd priv idx >>= fun x =>
        if nd.depth ≥ 255 then .error .value
        else nodeOfPriv nd.curve nd.scheme x.1 (nd.depth + 1) idx x.2 nd.fingerprint) :=
  childKeyVia_priv hi hp

theorem slip10ChildKey_pub (nd : Node) (idx : Nat) (hi : idx < 2 ^ 32)
    (hp : nd.priv = none) (hh : isHardened idx = false) :
    slip10ChildKey nd idx =
      (slip10CkdPub nd idx >>= fun x =>
        if nd.depth ≥ 255 then .error .value
        else nodeOfPub nd.curve nd.scheme x.1 (nd.depth + 1) idx x.2 nd.fingerprint) := by
  rw [slip10ChildKey_eq_via, childKeyVia_pub hi hp, hh, if_neg Bool.noConfusion]

theorem slip10ChildKey_priv_of_depth_lt (nd : Node) (idx : Nat) (priv : Bytes) (hi : idx < 2 ^ 32)
    (hp : nd.priv = some priv) (hd : nd.depth < 255) :
    slip10ChildKey nd idx =
      (slip10CkdPriv nd priv idx >>= fun x =>
        nodeOfPriv nd.curve nd.scheme x.1 (nd.depth + 1) idx x.2 nd.fingerprint) := by
  rw [slip10ChildKey_priv nd idx priv hi hp]
  simp only [ge_iff_le, Nat.not_le.mpr hd, if_false]

theorem slip10ChildKey_pub_of_depth_lt (nd : Node) (idx : Nat) (hi : idx < 2 ^ 32)
    (hp : nd.priv = none) (hh : isHardened idx = false) (hd : nd.depth < 255) :
    slip10ChildKey nd idx =
      (slip10CkdPub nd idx >>= fun x =>
        nodeOfPub nd.curve nd.scheme x.1 (nd.depth + 1) idx x.2 nd.fingerprint) := by
  rw [slip10ChildKey_pub nd idx hi hp hh]
  simp only [ge_iff_le, Nat.not_le.mpr hd, if_false]

theorem child_metadata (nd : Node) (idx : Nat) (c : Node) (h : slip10ChildKey nd idx = .ok c) :
    c.depth = nd.depth + 1 ∧ c.index = idx ∧ idx < 2 ^ 32 ∧ c.parentFp = nd.fingerprint.take 4 ∧
      c.curve = nd.curve ∧ c.scheme = nd.scheme ∧ c.priv.isSome = nd.priv.isSome := by
  have f := childKeyVia_ok (slip10ChildKey_eq_via ▸ h)
  exact ⟨f.depth, f.index, f.idx_lt, f.parentFp, f.curve, f.scheme, Bool.eq_iff_iff.mpr f.priv⟩

/-! ### the depth limit (`Bip32Depth.Increase()`: the depth is one byte) -/

theorem slip10ChildKey_depth_lt (nd : Node) (idx : Nat) (c : Node) (h : slip10ChildKey nd idx = .ok c) :
    nd.depth < 255 := by
  rw [slip10ChildKey_eq_via] at h; exact (childKeyVia_cases nd idx c h).1

theorem slip10ChildKey_depth_le (nd : Node) (idx : Nat) (c : Node) (h : slip10ChildKey nd idx = .ok c) :
    c.depth ≤ 255 := by
  have h1 := slip10ChildKey_depth_lt nd idx c h
  have h2 := (child_metadata nd idx c h).1
  omega

theorem Slip10.hash160_length (b : Bytes) : (hash160 b).length = 20 := ripemd160_length _

theorem fingerprint_length (nd : Node) : nd.fingerprint.length = 4 := by
  unfold Node.fingerprint; rw [List.length_take, Slip10.hash160_length]; rfl

/-! ## Refusals -/

theorem ed25519_soft_refused (nd : Node) (priv : Bytes) (idx : Nat) (hc : nd.curve.isEcdsa = false)
    (hp : nd.priv = some priv) (hh : isHardened idx = false) (hi : idx < 2 ^ 32) :
    slip10ChildKey nd idx = .error .key :=
  slip10ChildKey_ed_priv_nonhardened nd idx priv hc hp hi hh

theorem public_hardened_refused (nd : Node) (idx : Nat) (hp : nd.priv = none)
    (hh : isHardened idx = true) (hi : idx < 2 ^ 32) : slip10ChildKey nd idx = .error .key :=
  childKeyVia_pub_hardened nd idx hp hi hh

theorem ed25519_public_refused (nd : Node) (idx : Nat) (hc : nd.curve.isEcdsa = false)
    (hp : nd.priv = none) (hi : idx < 2 ^ 32) : slip10ChildKey nd idx = .error .key :=
  slip10ChildKey_ed_pub nd idx hc hp hi

theorem neuter_has_no_private (nd : Node) : nd.neuter.priv = none := rfl

/-- the ECDSA private derivation never raises `Bip32KeyError`: the derived key is always valid
(no law needed) -/
theorem ckdPriv_never_key (nd : Node) (k : Bytes) (idx : Nat) (hc : nd.curve.isEcdsa = true)
    (hp : nd.priv = some k) : slip10ChildKey nd idx ≠ .error .key := by
  intro h
  by_cases hi : idx < 2 ^ 32
  swap
  · rw [slip10ChildKey_range _ _ (Nat.le_of_not_lt hi)] at h; cases h
  rw [slip10ChildKey_priv nd idx k hi hp] at h
  rcases bind_error_inv h with h1 | ⟨⟨k', cc⟩, hx, h2⟩
  · have := slip10CkdPriv_ecdsa_error nd k idx hc _ h1; cases this
  · split at h2
    · cases h2
    · rcases nodeOfPriv_error _ _ _ _ _ _ _ _ h2 with ⟨_, h4⟩ | ⟨h3, _⟩
      · rw [(ckdPriv_key_valid nd k idx hc k' cc hx).1] at h4; cases h4
      · cases h3

/-! ## Master key -/

/-- `j`-th iterate of `I ↦ HMAC-SHA512(key_c, I)` starting from the seed -/
def mstIter (c : CurveT) (j : Nat) (seed : Bytes) : Bytes :=
  Nat.iterate (hmacSha512 (slip10HmacKey c)) j seed

theorem mstIter_succ (c : CurveT) (j : Nat) (seed : Bytes) :
    mstIter c (j + 1) seed = mstIter c j (hmacSha512 (slip10HmacKey c) seed) := rfl

theorem slip10MasterLoop_zero (c : CurveT) (data : Bytes) : slip10MasterLoop c 0 data = .error .fuel := rfl

theorem mstValid_eq (c : CurveT) (il : Bytes) : mstValid c il = privValid c il := by
  cases c <;> rfl

theorem slip10MasterLoop_succ (c : CurveT) (fuel : Nat) (data : Bytes) :
    slip10MasterLoop c (fuel + 1) data =
      if privValid c ((mstIter c 1 data).take 32) = true
      then .ok ((mstIter c 1 data).take 32, (mstIter c 1 data).drop 32)
      else slip10MasterLoop c fuel (mstIter c 1 data) := by
  rw [← mstValid_eq]
  conv_lhs => unfold slip10MasterLoop
  rfl

/-- the master loop returns the first iterate of `I ↦ HMAC(key, I)` whose left half is a valid key
(`j` = number of rejected iterates), or runs out of fuel when the first `fuel` iterates are all
rejected -/
theorem slip10MasterLoop_cases (c : CurveT) (fuel : Nat) (data : Bytes) :
    (∃ j, j < fuel ∧ (∀ i, i < j → privValid c ((mstIter c (i + 1) data).take 32) = false) ∧
      privValid c ((mstIter c (j + 1) data).take 32) = true ∧
      slip10MasterLoop c fuel data =
        .ok ((mstIter c (j + 1) data).take 32, (mstIter c (j + 1) data).drop 32)) ∨
    ((∀ i, i < fuel → privValid c ((mstIter c (i + 1) data).take 32) = false) ∧
      slip10MasterLoop c fuel data = .error .fuel) := by
  induction fuel generalizing data with
  | zero => exact Or.inr ⟨fun i hi => absurd hi (Nat.not_lt_zero i), rfl⟩
  | succ f ih =>
    rw [slip10MasterLoop_succ]
    by_cases hv : privValid c ((mstIter c 1 data).take 32) = true
    · rw [if_pos hv]
      exact Or.inl ⟨0, Nat.succ_pos f, fun i hi => absurd hi (Nat.not_lt_zero i), hv, rfl⟩
    · rw [if_neg hv]
      -- iterate `i + 1` from `mstIter c 1 data` is iterate `i + 2` from `data`
      have shift : ∀ n, (∀ i, i < n → privValid c ((mstIter c (i + 1) (mstIter c 1 data)).take 32) = false) →
          ∀ i, i < n + 1 → privValid c ((mstIter c (i + 1) data).take 32) = false := by
        intro n hall i hi
        cases i with
        | zero => exact Bool.eq_false_iff.mpr hv
        | succ i => exact hall i (Nat.lt_of_succ_lt_succ hi)
      rcases ih (mstIter c 1 data) with ⟨j, hj, hall, hvj, he⟩ | ⟨hall, he⟩
      · exact Or.inl ⟨j + 1, Nat.succ_lt_succ hj, shift j hall, hvj, he⟩
      · exact Or.inr ⟨shift f hall, he⟩

theorem slip10MasterLoop_ok_iff (c : CurveT) (fuel : Nat) (data k cc : Bytes) :
    slip10MasterLoop c fuel data = .ok (k, cc) ↔
      ∃ j, j < fuel ∧ (∀ i, i < j → privValid c ((mstIter c (i + 1) data).take 32) = false) ∧
        privValid c ((mstIter c (j + 1) data).take 32) = true ∧
        k = (mstIter c (j + 1) data).take 32 ∧ cc = (mstIter c (j + 1) data).drop 32 := by
  constructor
  · intro h
    rcases slip10MasterLoop_cases c fuel data with ⟨j, hj, hall, hv, he⟩ | ⟨_, he⟩
    · rw [he] at h; cases h
      exact ⟨j, hj, hall, hv, rfl, rfl⟩
    · rw [he] at h; cases h
  · rintro ⟨j, hj, hall, hv, rfl, rfl⟩
    -- the first valid iterate is unique
    rcases slip10MasterLoop_cases c fuel data with ⟨j', _, hall', hv', he⟩ | ⟨hall', _⟩
    · rcases Nat.lt_trichotomy j j' with hlt | rfl | hgt
      · rw [hall' j hlt] at hv; cases hv
      · exact he
      · rw [hall j' hgt] at hv'; cases hv'
    · rw [hall' j hj] at hv; cases hv

theorem slip10MasterLoop_error_iff (c : CurveT) (fuel : Nat) (data : Bytes) (e : Err) :
    slip10MasterLoop c fuel data = .error e ↔
      e = .fuel ∧ ∀ i, i < fuel → privValid c ((mstIter c (i + 1) data).take 32) = false := by
  constructor
  · intro h
    rcases slip10MasterLoop_cases c fuel data with ⟨_, _, _, _, he⟩ | ⟨hall, he⟩
    · rw [he] at h; cases h
    · rw [he] at h; cases h
      exact ⟨rfl, hall⟩
  · rintro ⟨rfl, hall⟩
    rcases slip10MasterLoop_cases c fuel data with ⟨j, hj, _, hv, _⟩ | ⟨_, he⟩
    · rw [hall j hj] at hv; cases hv
    · exact he

theorem slip10MasterLoop_valid (c : CurveT) (fuel : Nat) (data k cc : Bytes)
    (h : slip10MasterLoop c fuel data = .ok (k, cc)) : privValid c k = true ∧ cc.length = 32 := by
  obtain ⟨j, _, _, hv, rfl, rfl⟩ := (slip10MasterLoop_ok_iff ..).mp h
  refine ⟨hv, ?_⟩
  have : (mstIter c (j + 1) data).length = 64 := by
    rw [mstIter, Function.iterate_succ_apply']; exact hmacSha512_length _ _
  rw [List.length_drop, this]

/-- for the SLIP-0010 ed25519 curves the first iterate is always accepted: every 32-byte string is
a valid key -/
theorem slip10MasterLoop_ed (c : CurveT) (hc : c = .ed25519 ∨ c = .ed25519Blake2b) (fuel : Nat) (data : Bytes) :
    slip10MasterLoop c (fuel + 1) data =
      .ok (hmacSha512Halves (slip10HmacKey c) data) := by
  rw [slip10MasterLoop_succ]
  have : privValid c ((mstIter c 1 data).take 32) = true := by
    have hl : ((mstIter c 1 data).take 32).length = 32 := by
      show ((hmacSha512 _ data).take 32).length = 32
      rw [List.length_take, hmacSha512_length]; rfl
    rcases hc with rfl | rfl <;> simp [privValid, hl]
  rw [if_pos this]; rfl

theorem slip10Master_eq (c : CurveT) (seed : Bytes) :
    slip10Master c seed =
      if seed.length < 16 then .error .value
      else slip10MasterLoop c 4096 seed >>= fun x => nodeOfPriv c .slip10 x.1 0 0 x.2 [0, 0, 0, 0] := by
  unfold slip10Master
  split
  · rfl
  · simp only [bind, Except.bind]

/-- how master key generation fails: on a short seed (`ValueError`), by fuel exhaustion, or because
the key layer refuses to compute the public key of the master key (`ValueError`).  `.key` is impossible
because the loop already tested validity. -/
theorem slip10Master_error (c : CurveT) (seed : Bytes) (e : Err) (h : slip10Master c seed = .error e) :
    (seed.length < 16 ∧ e = .value) ∨
    (16 ≤ seed.length ∧ (e = .fuel ∨
      (e = .value ∧ ∃ k cc, slip10MasterLoop c 4096 seed = .ok (k, cc) ∧ pubOfPriv c k = none))) := by
  rw [slip10Master_eq] at h
  split at h
  · next hl => exact Or.inl ⟨hl, (Except.error.inj h).symm⟩
  · next hl =>
    refine Or.inr ⟨Nat.le_of_not_lt hl, ?_⟩
    rcases bind_error_inv h with h1 | ⟨⟨k, cc⟩, hx, h2⟩
    · exact Or.inl ((slip10MasterLoop_error_iff ..).mp h1).1
    · rcases nodeOfPriv_error _ _ _ _ _ _ _ _ h2 with ⟨_, h4⟩ | ⟨h3, _, h4⟩
      · rw [(slip10MasterLoop_valid _ _ _ _ _ hx).1] at h4; cases h4
      · exact Or.inr ⟨h3, k, cc, hx, h4⟩

/-- `Bip32Slip10*.FromSeed` raises `ValueError` for seeds shorter than 16 bytes, and
otherwise only when the key layer refuses to compute the public key of the (valid) master key -/
theorem master_spec (c : CurveT) (seed : Bytes) :
    slip10Master c seed = .error .value ↔
      seed.length < 16 ∨
        (16 ≤ seed.length ∧ ∃ k cc, slip10MasterLoop c 4096 seed = .ok (k, cc) ∧ pubOfPriv c k = none) := by
  constructor
  · intro h
    rcases slip10Master_error c seed _ h with ⟨hl, _⟩ | ⟨h16, he | ⟨_, hk⟩⟩
    · exact Or.inl hl
    · cases he
    · exact Or.inr ⟨h16, hk⟩
  · rw [slip10Master_eq]
    rintro (hl | ⟨h16, k, cc, hx, hnone⟩)
    · rw [if_pos hl]
    · rw [if_neg (Nat.not_lt.mpr h16), hx, ok_bind]
      exact nodeOfPriv_of_none _ _ _ _ _ _ _ (slip10MasterLoop_valid _ _ _ _ _ hx).1 hnone

/-- when the key layer computes a public key for every valid private key (true of the SLIP-0010
ed25519 classes by definition, and of the ECDSA curves by the group law): `ValueError` exactly for
seeds shorter than 16 bytes -/
theorem master_spec_of_total (c : CurveT) (seed : Bytes)
    (htot : ∀ k, privValid c k = true → pubOfPriv c k ≠ none) :
    slip10Master c seed = .error .value ↔ seed.length < 16 := by
  rw [master_spec]
  constructor
  · rintro (hl | ⟨_, k, cc, hx, hnone⟩)
    · exact hl
    · exact absurd hnone (htot k (slip10MasterLoop_valid _ _ _ _ _ hx).1)
  · exact Or.inl

theorem master_metadata (c : CurveT) (seed : Bytes) (nd : Node) (h : slip10Master c seed = .ok nd) :
    16 ≤ seed.length ∧ nd.depth = 0 ∧ nd.index = 0 ∧ nd.parentFp = [0, 0, 0, 0] ∧ nd.curve = c ∧
      nd.scheme = .slip10 ∧
      ∃ k cc, slip10MasterLoop c 4096 seed = .ok (k, cc) ∧ nd.priv = some k ∧ nd.chainCode = cc ∧
        cc.length = 32 ∧ privValid c k = true ∧ pubOfPriv c k = some nd.pub := by
  rw [slip10Master_eq] at h
  split at h
  · cases h
  · next hl =>
    obtain ⟨⟨k, cc⟩, hx, h2⟩ := bind_ok_inv h
    obtain ⟨hv, pub, hp, rfl⟩ := (nodeOfPriv_ok_iff ..).mp h2
    exact ⟨Nat.le_of_not_lt hl, rfl, rfl, rfl, rfl, rfl, k, cc, hx, rfl, rfl,
      (slip10MasterLoop_valid _ _ _ _ _ hx).2, hv, hp⟩

/-- SLIP-0010 ed25519 master key: total on seeds of at least 16 bytes, `k = I_L`, `c = I_R` -/
theorem master_ed25519 (seed : Bytes) (hl : 16 ≤ seed.length) :
    slip10Master .ed25519 seed = .ok
      { curve := .ed25519, scheme := .slip10,
        priv := some (hmacSha512Halves (slip10HmacKey .ed25519) seed).1,
        pub := 0 :: edEncode (edMulBase (edClamp (sha512 (hmacSha512Halves (slip10HmacKey .ed25519) seed).1))),
        depth := 0, index := 0,
        chainCode := (hmacSha512Halves (slip10HmacKey .ed25519) seed).2, parentFp := [0, 0, 0, 0] } := by
  rw [slip10Master_eq, if_neg (Nat.not_lt.mpr hl), slip10MasterLoop_ed _ (Or.inl rfl)]
  rw [ok_bind]
  rw [nodeOfPriv_ok_iff]
  refine ⟨?_, _, rfl, rfl⟩
  simp [privValid]

/-! ## Path derivation -/

theorem foldlM_depth (child : Node → Nat → R Node)
    (hchild : ∀ nd i c, child nd i = .ok c → c.depth = nd.depth + 1)
    (l : List Nat) (nd c : Node) (h : l.foldlM child nd = .ok c) : c.depth = nd.depth + l.length := by
  induction l generalizing nd with
  | nil => simp only [List.foldlM_nil, pure, Except.pure] at h; cases h; rfl
  | cons a t ih =>
    rw [List.foldlM_cons, bind_eq_ok_iff] at h
    obtain ⟨b, hb, ht⟩ := h
    rw [ih b ht, hchild nd a b hb, List.length_cons]; omega

theorem foldlM_invariant (child : Node → Nat → R Node) (P : Node → Prop)
    (hchild : ∀ nd i c, P nd → child nd i = .ok c → P c)
    (l : List Nat) (nd c : Node) (h0 : P nd) (h : l.foldlM child nd = .ok c) : P c := by
  induction l generalizing nd with
  | nil => simp only [List.foldlM_nil, pure, Except.pure] at h; cases h; exact h0
  | cons a t ih =>
    rw [List.foldlM_cons, bind_eq_ok_iff] at h
    obtain ⟨b, hb, ht⟩ := h
    exact ih b (hchild nd a b h0 hb) ht

theorem derivePathWith_eq (child : Node → Nat → R Node) (nd : Node) (p : Path) :
    derivePathWith child nd p =
      if (nd.depth > 0 && p.absolute) = true then .error .value else p.elems.foldlM child nd := by
  unfold derivePathWith
  split <;> rfl

theorem foldlM_of_derivePathWith_ok {child : Node → Nat → R Node} {nd : Node} {p : Path} {c : Node}
    (h : derivePathWith child nd p = .ok c) : p.elems.foldlM child nd = .ok c := by
  rw [derivePathWith_eq] at h
  exact ((ite_error_eq_ok ..).mp h).2

theorem derivePathWith_invariant (child : Node → Nat → R Node) (P : Node → Prop)
    (hchild : ∀ nd i c, P nd → child nd i = .ok c → P c)
    (nd : Node) (p : Path) (c : Node) (h0 : P nd) (h : derivePathWith child nd p = .ok c) : P c :=
  foldlM_invariant child P hchild _ _ _ h0 (foldlM_of_derivePathWith_ok h)

theorem derive_depth (nd : Node) (p : Path) (c : Node) (h : derivePathWith slip10ChildKey nd p = .ok c) :
    c.depth = nd.depth + p.elems.length :=
  foldlM_depth _ (fun nd i c hc => (child_metadata nd i c hc).1) _ _ _ (foldlM_of_derivePathWith_ok h)

theorem derivePathWith_depth_le (child : Node → Nat → R Node)
    (hchild : ∀ nd i c, child nd i = .ok c → c.depth ≤ 255)
    (nd : Node) (p : Path) (c : Node) (hd : nd.depth ≤ 255) (h : derivePathWith child nd p = .ok c) :
    c.depth ≤ 255 :=
  derivePathWith_invariant child (fun n => n.depth ≤ 255) (fun nd i c _ hc => hchild nd i c hc) nd p c hd h

/-! ## Public/private commutation (ECDSA curves) -/

/-! ### the two re-hash loops side by side -/

/-- The private loop rejects whatever the public loop rejects, so from the same state and with the
same fuel it follows the public loop up to the state `(il, ir)` where that one stops, or out of fuel
with it.  There it stops too unless `il + k ≡ 0 (mod n)`; in that case it continues from
`HMAC(cc, 0x01 ‖ ir ‖ ser32 idx)` with the fuel that is left. -/
theorem slip10Retry_none_some (n : Nat) (cc : Bytes) (idx k fuel : Nat) (s : Bytes × Bytes) :
    (∀ e, slip10Retry n cc idx none fuel s = .error e →
      slip10Retry n cc idx (some k) fuel s = .error e) ∧
    (∀ il ir, slip10Retry n cc idx none fuel s = .ok (il, ir) →
      ((il + k) % n ≠ 0 → slip10Retry n cc idx (some k) fuel s = .ok (il, ir)) ∧
      ((il + k) % n = 0 → ∃ f', f' < fuel ∧
        slip10Retry n cc idx (some k) fuel s =
          slip10Retry n cc idx (some k) f' (slip10Rehash cc idx ir))) := by
  induction fuel generalizing s with
  | zero =>
    refine ⟨fun e h => h, fun il ir h => ?_⟩
    rw [slip10Retry_zero] at h
    cases h
  | succ f ih =>
    obtain ⟨il0, ir0⟩ := s
    rw [slip10Retry_succ, slip10Retry_succ]
    by_cases hb : slip10Bad n none il0
    · rw [if_pos hb, if_pos (slip10Bad_of_none hb)]
      obtain ⟨ihe, iho⟩ := ih (slip10Rehash cc idx ir0)
      refine ⟨ihe, fun il ir h => ⟨(iho il ir h).1, fun hz => ?_⟩⟩
      obtain ⟨f', hf, he⟩ := (iho il ir h).2 hz
      exact ⟨f', Nat.lt_succ_of_lt hf, he⟩
    · rw [if_neg hb]
      refine ⟨fun e => nofun, fun il ir h => ?_⟩
      cases h
      refine ⟨fun hz => if_neg fun hbk => ?_, fun hz => ⟨f, Nat.lt_succ_self f, if_pos ?_⟩⟩
      · exact ((slip10Bad_some ..).mp hbk).elim (fun hge => hb ((slip10Bad_none ..).mpr hge)) hz
      · exact (slip10Bad_some ..).mpr (Or.inr hz)

/-! ### the key-layer laws -/

/-- What the commutation proof needs to know about the ECDSA key layer of curve `c`
(`pubOfPriv`, `pubAddMulG`, `pubFromBytes` of `BipVerif/Model/Ecc.lean`).  Both fields are
consequences of "the curve is a cyclic group of order `n` generated by `G`, `pubOfPriv k = enc(k·G)`,
`pubAddMulG (enc X) il = enc (X + il·G)`, `enc` defined exactly off the point at infinity and
`decode ∘ enc = id`" — see `BipVerif/Lemmas/GroupModel.lean`, `ecdsaLaw_of_group_model`. -/
structure EcdsaLaw (c : CurveT) : Prop where
  /-- `K_par + il·G` is the public key of the private key `(il + k_par) mod n` — required only
  when that key is non-zero, for valid 32-byte keys `k`, `k'` and `il < n`. -/
  pub_add : ∀ (k P : Bytes) (il : Nat) (k' : Bytes),
    privValid c k = true → pubOfPriv c k = some P → il < c.order →
    (il + Bytes.toNatBE k) % c.order ≠ 0 →
    privValid c k' = true → Bytes.toNatBE k' = (il + Bytes.toNatBE k) % c.order →
    ∃ P', pubOfPriv c k' = some P' ∧ pubAddMulG c P il = some P'
  /-- the compressed public key of a valid private key is accepted by the public key class and
  is already canonical (`decode ∘ compress = id` on such points). -/
  pub_canon : ∀ (k P : Bytes), privValid c k = true → pubOfPriv c k = some P →
    pubFromBytes c P = some P

/-- The companion of `EcdsaLaw.pub_add` at the zero key: `K_par + il·G` is the point at infinity
when `(il + k_par) mod n = 0`, and the key layer refuses to encode it.  Also a consequence of the
group model (`ecdsaInfLaw_of_group_model`). -/
structure EcdsaInfLaw (c : CurveT) : Prop where
  pub_inf : ∀ (k P : Bytes) (il : Nat), privValid c k = true → pubOfPriv c k = some P →
    il < c.order → (il + Bytes.toNatBE k) % c.order = 0 → pubAddMulG c P il = none

/-! ### sound nodes -/

/-- a private node whose stored public key is the public key of its (valid) private key; every
node built by `nodeOfPriv` is of this kind -/
def Node.Sound (nd : Node) : Prop :=
  ∃ k, nd.priv = some k ∧ privValid nd.curve k = true ∧ pubOfPriv nd.curve k = some nd.pub

theorem nodeOfPriv_sound (c : CurveT) (s : Scheme) (k : Bytes) (d i : Nat) (cc fp : Bytes) (nd : Node)
    (h : nodeOfPriv c s k d i cc fp = .ok nd) : nd.Sound := by
  obtain ⟨hv, pub, hp, rfl⟩ := (nodeOfPriv_ok_iff ..).mp h
  exact ⟨k, rfl, hv, hp⟩

theorem slip10ChildKey_sound (nd : Node) (idx : Nat) (c : Node) (hp : nd.priv.isSome = true)
    (h : slip10ChildKey nd idx = .ok c) : c.Sound := by
  rw [slip10ChildKey_eq_via] at h
  obtain ⟨_, ⟨_, _, _, _, hn⟩ | ⟨hnone, _⟩⟩ := childKeyVia_cases nd idx c h
  · exact nodeOfPriv_sound _ _ _ _ _ _ _ _ hn
  · rw [hnone] at hp; cases hp

theorem master_sound (c : CurveT) (seed : Bytes) (nd : Node) (h : slip10Master c seed = .ok nd) :
    nd.Sound := by
  obtain ⟨_, _, _, _, hc, _, k, cc, _, hp, _, _, hv, hpub⟩ := master_metadata c seed nd h
  exact ⟨k, hp, hc ▸ hv, hc ▸ hpub⟩

/-! ### commutation at one index -/

/-- the hypothesis under which commutation holds at node `nd` and index `idx`: the `IL` selected
by the *public* re-hash loop does not make the child private key zero.  (For `IL` values rejected
because `IL ≥ n` nothing is required.) -/
def NoZeroSum (nd : Node) (idx : Nat) : Prop :=
  ∀ k il ir, nd.priv = some k →
    slip10Retry nd.curve.order nd.chainCode idx none 4096
      (hmacSha512Halves nd.chainCode (nd.pub ++ ser32 idx)) = .ok (il, ir) →
    (il + Bytes.toNatBE k) % nd.curve.order ≠ 0

theorem nodeOfPub_eq_map_neuter (c : CurveT) (s : Scheme) (k P : Bytes) (d i : Nat) (cc fp : Bytes)
    (hv : privValid c k = true) (hP : pubOfPriv c k = some P) (hcanon : pubFromBytes c P = some P) :
    nodeOfPub c s P d i cc fp = (nodeOfPriv c s k d i cc fp).map Node.neuter := by
  rw [nodeOfPub_of_some c s P d i cc fp hcanon, nodeOfPriv_of_some c s k d i cc fp hv hP]
  rfl

/-- commutation of the `ChildKey` frame with neutering at a non-hardened index: it is enough that the
two derivation functions fail alike, or succeed with the same chain code and with the public side's
key being the canonical public key of the private side's (valid) key -/
theorem childKeyVia_comm {ckdPriv : Node → Bytes → Nat → R (Bytes × Bytes)}
    {ckdPub : Node → Nat → R (Bytes × Bytes)} (nd : Node) (k : Bytes) (idx : Nat)
    (hp : nd.priv = some k) (hh : isHardened idx = false)
    (hcore : (∃ e, ckdPub nd.neuter idx = .error e ∧ ckdPriv nd k idx = .error e) ∨
      ∃ P k' cc, ckdPub nd.neuter idx = .ok (P, cc) ∧ ckdPriv nd k idx = .ok (k', cc) ∧
        privValid nd.curve k' = true ∧ pubOfPriv nd.curve k' = some P ∧
        pubFromBytes nd.curve P = some P) :
    childKeyVia ckdPriv ckdPub nd.neuter idx = (childKeyVia ckdPriv ckdPub nd idx).map Node.neuter := by
  by_cases hi : idx < 2 ^ 32
  swap
  · rw [childKeyVia_idx_ge _ _ (Nat.le_of_not_lt hi), childKeyVia_idx_ge _ _ (Nat.le_of_not_lt hi)]
    rfl
  rw [childKeyVia_pub (nd := nd.neuter) hi rfl, hh, if_neg Bool.noConfusion, childKeyVia_priv hi hp]
  rcases hcore with ⟨e, hq, hpe⟩ | ⟨P, k', cc, hq, hpk, hv, hP, hcanon⟩
  · rw [hq, hpe]; rfl
  · rw [hq, hpk, ok_bind, ok_bind]
    show (if nd.depth ≥ 255 then _ else _) = Except.map Node.neuter (if nd.depth ≥ 255 then _ else _)
    split
    · rfl
    · exact nodeOfPub_eq_map_neuter nd.curve nd.scheme k' P (nd.depth + 1) idx cc nd.fingerprint
        hv hP hcanon

theorem map_neuter_error (e : Err) : (Except.error e : R Node).map Node.neuter = .error e := rfl
theorem map_neuter_ok (c : Node) : (Except.ok c : R Node).map Node.neuter = .ok c.neuter := rfl

/-- the public derivation does not look at the private key -/
theorem slip10CkdPub_neuter (nd : Node) (idx : Nat) : slip10CkdPub nd.neuter idx = slip10CkdPub nd idx :=
  rfl

/-- `CKDpub(N(parent), i) = N(CKDpriv(parent, i))` for non-hardened `i` on ECDSA curves, as an
equation between results (same public key, chain code, depth, index, parent fingerprint, or the same
error), under the key-layer law and `NoZeroSum`. -/
theorem ckdPub_comm (nd : Node) (law : EcdsaLaw nd.curve) (idx : Nat)
    (hc : nd.curve.isEcdsa = true) (hs : nd.Sound) (hh : isHardened idx = false)
    (hz : NoZeroSum nd idx) :
    slip10ChildKey nd.neuter idx = (slip10ChildKey nd idx).map Node.neuter := by
  obtain ⟨k, hp, hv, hpub⟩ := hs
  rw [slip10ChildKey_eq_via]
  apply childKeyVia_comm nd k idx hp hh
  rw [slip10CkdPub_neuter, slip10CkdPub_ecdsa nd idx hc, slip10CkdPriv_ecdsa nd k idx hc,
    slip10PrivData_soft nd k hh]
  cases hr : slip10Retry nd.curve.order nd.chainCode idx none 4096
          (hmacSha512Halves nd.chainCode (nd.pub ++ ser32 idx)) with
  | error e =>
    rw [(slip10Retry_none_some _ _ _ _ _ _).1 e hr]
    exact Or.inl ⟨e, rfl, rfl⟩
  | ok x =>
    obtain ⟨il, ir⟩ := x
    have hnz := hz k il ir hp hr
    rw [((slip10Retry_none_some _ _ _ _ _ _).2 il ir hr).1 hnz]
    have hiln := (slip10Retry_spec _ _ _ _ _ _ _ _ _ hr).1
    have hn := ecdsa_order_pos _ hc
    obtain ⟨k', hk'⟩ := (toBytesBE_ok_iff _ _).mpr (ecdsa_mod_order_lt _ hc (il + Bytes.toNatBE k))
    obtain ⟨hval, hlen⟩ := toBytesBE_toNatBE hk'
    have hv' : privValid nd.curve k' = true :=
      (privValid_ecdsa_iff _ hc k').mpr
        ⟨hlen, by rw [hval]; exact Nat.pos_of_ne_zero hnz, by rw [hval]; exact Nat.mod_lt _ hn⟩
    obtain ⟨P', hP', hadd⟩ := law.pub_add k nd.pub il k' hv hpub hiln hnz hv' hval
    refine Or.inr ⟨P', k', ir, ?_, ?_, hv', hP', law.pub_canon k' P' hv' hP'⟩
    · rw [ok_bind]
      show (match pubAddMulG nd.curve nd.pub il with
          | some p => Except.ok (p, ir)
          | none => Except.error Err.key) = _
      rw [hadd]
    · rw [ok_bind, hk']; rfl

/-! ### the asymmetry at a zero sum -/

/-- When the `IL` on which the public loop stops makes the child private key zero,
the public side cannot notice: it computes the point at infinity and raises `Bip32KeyError`, while
the private side re-hashes (`0x01 ‖ IR ‖ ser32 i`) and never raises `Bip32KeyError`; so the
commutation equation is *false* there.  This is why `ckdPub_comm` carries `NoZeroSum`. -/
theorem zero_sum_asymmetry (nd : Node) (ilaw : EcdsaInfLaw nd.curve) (k : Bytes) (idx il : Nat)
    (ir : Bytes) (hc : nd.curve.isEcdsa = true) (hp : nd.priv = some k)
    (hv : privValid nd.curve k = true) (hpub : pubOfPriv nd.curve k = some nd.pub)
    (hh : isHardened idx = false) (hi : idx < 2 ^ 32)
    (hr : slip10Retry nd.curve.order nd.chainCode idx none 4096
            (hmacSha512Halves nd.chainCode (nd.pub ++ ser32 idx)) = .ok (il, ir))
    (hz : (il + Bytes.toNatBE k) % nd.curve.order = 0) :
    slip10ChildKey nd.neuter idx = .error .key ∧
    (∃ f', f' < 4096 ∧
      slip10Retry nd.curve.order nd.chainCode idx (some (Bytes.toNatBE k)) 4096
          (hmacSha512Halves nd.chainCode (slip10PrivData nd k idx)) =
        slip10Retry nd.curve.order nd.chainCode idx (some (Bytes.toNatBE k)) f'
          (slip10Rehash nd.chainCode idx ir)) ∧
    slip10ChildKey nd idx ≠ .error .key ∧
    slip10ChildKey nd.neuter idx ≠ (slip10ChildKey nd idx).map Node.neuter := by
  have hiln := (slip10Retry_spec _ _ _ _ _ _ _ _ _ hr).1
  have hpubside : slip10ChildKey nd.neuter idx = .error .key := by
    rw [slip10ChildKey_pub nd.neuter idx hi rfl hh, slip10CkdPub_neuter, slip10CkdPub_ecdsa nd idx hc,
      hr, ok_bind]
    show (match pubAddMulG nd.curve nd.pub il with
          | some p => Except.ok (p, ir)
          | none => Except.error Err.key) >>= _ = _
    rw [ilaw.pub_inf k nd.pub il hv hpub hiln hz]
    rfl
  have hnk := ckdPriv_never_key nd k idx hc hp
  refine ⟨hpubside, ?_, hnk, ?_⟩
  · rw [slip10PrivData_soft nd k hh]
    exact ((slip10Retry_none_some _ _ _ _ _ _).2 il ir hr).2 hz
  · rw [hpubside]
    intro he
    cases hx : slip10ChildKey nd idx with
    | error e => rw [hx] at he; cases he; exact hnk hx
    | ok c => rw [hx] at he; cases he

/-- under both laws `NoZeroSum` is not only sufficient but necessary -/
theorem ckdPub_comm_iff (nd : Node) (law : EcdsaLaw nd.curve) (ilaw : EcdsaInfLaw nd.curve)
    (idx : Nat) (hc : nd.curve.isEcdsa = true) (hs : nd.Sound) (hh : isHardened idx = false)
    (hi : idx < 2 ^ 32) :
    slip10ChildKey nd.neuter idx = (slip10ChildKey nd idx).map Node.neuter ↔ NoZeroSum nd idx := by
  constructor
  · intro heq k il ir hp hr hz
    obtain ⟨k0, hp0, hv, hpub⟩ := hs
    rw [hp] at hp0; cases hp0
    exact (zero_sum_asymmetry nd ilaw k idx il ir hc hp hv hpub hh hi hr hz).2.2.2 heq
  · exact ckdPub_comm nd law idx hc hs hh

/-! ### paths -/

/-- `NoZeroSum` at every node visited while deriving the path `l` from `nd` on the private side -/
def PathNoZeroSum : Node → List Nat → Prop
  | _, [] => True
  | nd, i :: t => NoZeroSum nd i ∧ ∀ c, slip10ChildKey nd i = .ok c → PathNoZeroSum c t

theorem foldlM_comm (c : CurveT) (law : EcdsaLaw c) (hc : c.isEcdsa = true) (l : List Nat)
    (hl : ∀ i ∈ l, isHardened i = false) (nd : Node) (hcur : nd.curve = c) (hs : nd.Sound)
    (hz : PathNoZeroSum nd l) :
    l.foldlM slip10ChildKey nd.neuter = (l.foldlM slip10ChildKey nd).map Node.neuter := by
  induction l generalizing nd with
  | nil => rfl
  | cons a t ih =>
    subst hcur
    rw [List.foldlM_cons, List.foldlM_cons,
      ckdPub_comm nd law a hc hs (hl a (List.mem_cons_self ..)) hz.1]
    cases hx : slip10ChildKey nd a with
    | error e => rfl
    | ok c' =>
      rw [map_neuter_ok, ok_bind, ok_bind]
      have hm := child_metadata nd a c' hx
      exact ih (fun i hi => hl i (List.mem_cons_of_mem _ hi)) c' hm.2.2.2.2.1
        (slip10ChildKey_sound nd a c' (by obtain ⟨k, hk, _⟩ := hs; rw [hk]; rfl) hx) (hz.2 c' hx)

/-- `DerivePath` commutes with neutering along any non-hardened path (ECDSA curves) -/
theorem derivePath_comm (nd : Node) (law : EcdsaLaw nd.curve) (hc : nd.curve.isEcdsa = true)
    (p : Path) (hl : ∀ i ∈ p.elems, isHardened i = false) (hs : nd.Sound)
    (hz : PathNoZeroSum nd p.elems) :
    derivePathWith slip10ChildKey nd.neuter p = (derivePathWith slip10ChildKey nd p).map Node.neuter := by
  rw [derivePathWith_eq, derivePathWith_eq]
  show (if (nd.depth > 0 && p.absolute) = true then _ else _) = _
  split
  · rfl
  · exact foldlM_comm nd.curve law hc p.elems hl nd rfl hs hz

theorem child_public_only (nd : Node) (idx : Nat) (c : Node) (hp : nd.priv = none)
    (h : slip10ChildKey nd idx = .ok c) : c.priv = none := by
  have := (child_metadata nd idx c h).2.2.2.2.2.2
  rw [hp] at this
  cases hc : c.priv with
  | none => rfl
  | some k => rw [hc] at this; cases this

theorem neuter_derive_public_only (nd : Node) (p : Path) (c : Node) (hp : nd.priv = none)
    (h : derivePathWith slip10ChildKey nd p = .ok c) : c.priv = none :=
  derivePathWith_invariant slip10ChildKey (fun n => n.priv = none) child_public_only nd p c hp h

end BipVerif.Model
