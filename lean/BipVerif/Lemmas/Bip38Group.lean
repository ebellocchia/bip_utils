/-
The two curve hypotheses of the BIP-38 EC-multiplied round trip (`Props/C13.lean`) are theorems:
`CompressCanon` (a compressed point produced by `secpMulG` re-validates to itself) and `GroupLaw`
(`b·(a·G) = (a·b mod n)·G` for the point adapters, including both refusals of the point at
infinity) follow from the fact that the executable secp256k1 arithmetic is Mathlib's group law
(`Lemmas/WGroup/*`, `Props/C12Group.lean`) and that `n` is prime.
-/
import BipVerif.Props.C13
import BipVerif.Props.C12Group

namespace BipVerif.Bip38Group
open BipVerif BipVerif.Prim BipVerif.Model BipVerif.WGroup

theorem mulG_mod (k : ℕ) : secp256k1.mulG (k % secp256k1.n) = secp256k1.mulG k :=
  WGroup.mulG_mod secp256k1_G_onCurve secp256k1_hasOrder k

theorem mulG_congr {j k : ℕ} (h : j % secp256k1.n = k % secp256k1.n) :
    secp256k1.mulG j = secp256k1.mulG k := by
  rw [← mulG_mod j, h, mulG_mod]

theorem secpMulG_ok_iff {s : ℕ} {p : Bytes} :
    secpMulG s = .ok p ↔
      s % secp256k1.n ≠ 0 ∧ secp256k1.compress (secp256k1.mulG s) = some p := by
  unfold secpMulG
  dsimp only
  rw [mulG_mod]
  by_cases h0 : s % secp256k1.n = 0
  · rw [if_pos h0]
    constructor
    · intro h; cases h
    · intro h; exact absurd h0 h.1
  · rw [if_neg h0]
    cases hc : secp256k1.compress (secp256k1.mulG s) with
    | none =>
      constructor
      · intro h; cases h
      · intro h; cases h.2
    | some c =>
      constructor
      · intro h; exact ⟨h0, by rw [Except.ok.inj h]⟩
      · intro h; rw [Option.some.inj h.2]; rfl

theorem compress_mulG_of_ne {s : ℕ} (h : s % secp256k1.n ≠ 0) :
    ∃ c, secp256k1.compress (secp256k1.mulG s) = some c := by
  cases hc : secp256k1.compress (secp256k1.mulG s) with
  | some c => exact ⟨c, rfl⟩
  | none =>
    rw [compress_eq_none_iff, Props.C12Group.secp256k1_mulG_inf_iff] at hc
    exact absurd (Nat.mod_eq_zero_of_dvd hc) h

theorem secpMulG_error_iff (s : ℕ) :
    secpMulG s = .error .value ↔ s % secp256k1.n = 0 := by
  by_cases h0 : s % secp256k1.n = 0
  · unfold secpMulG
    dsimp only
    rw [if_pos h0]; exact ⟨fun _ => h0, fun _ => rfl⟩
  · obtain ⟨c, hc⟩ := compress_mulG_of_ne h0
    rw [secpMulG_ok_iff.mpr ⟨h0, hc⟩]
    exact ⟨fun h => (by cases h), fun h => absurd h h0⟩

theorem compressCanon : BipVerif.Props.C13.CompressCanon := by
  intro s p h
  obtain ⟨_, hc⟩ := secpMulG_ok_iff.mp h
  have hcan := ecdsaGroupModel_secp256k1.canon s p (by
    unfold enc secp256k1G
    rw [ofM_nsmul_G secp256k1_G_onCurve]; exact hc)
  unfold addrKey
  rw [hcan]; rfl

theorem groupLaw : BipVerif.Props.C13.GroupLaw := by
  intro a b
  have hn := Pratt.secp256k1_n_prime
  by_cases ha : a % secp256k1.n = 0
  · -- `n ∣ a`: both sides refuse
    have hr : secpMulG (a * b % secp256k1.n) = .error .value := by
      rw [secpMulG_error_iff, Nat.mod_mod, Nat.mul_mod, ha, Nat.zero_mul, Nat.zero_mod]
    rw [hr, (secpMulG_error_iff a).mpr ha]; rfl
  · have hGa := onCurve_mulG (c := secp256k1) a secp256k1_G_onCurve
    obtain ⟨c, hca⟩ := compress_mulG_of_ne ha
    have hl : secpMulG a = .ok c := secpMulG_ok_iff.mpr ⟨ha, hca⟩
    rw [hl]
    show secpMul c b = _
    by_cases hb : b % secp256k1.n = 0
    · -- `n ∣ b`: `secpMul` refuses the scalar, and `a·b ≡ 0`
      have hr : secpMulG (a * b % secp256k1.n) = .error .value := by
        rw [secpMulG_error_iff, Nat.mod_mod, Nat.mul_mod, hb, Nat.mul_zero, Nat.zero_mod]
      rw [hr]
      unfold secpMul
      dsimp only
      rw [if_pos hb]; rfl
    · -- neither: `n` is prime, so `a·b ≢ 0` and no side refuses
      have hab : a * b % secp256k1.n ≠ 0 := by
        intro h
        rcases (Nat.Prime.dvd_mul hn).mp (Nat.dvd_of_mod_eq_zero h) with h | h
        · exact ha (Nat.mod_eq_zero_of_dvd h)
        · exact hb (Nat.mod_eq_zero_of_dvd h)
      have hdec : secp256k1.decode c = some (secp256k1.mulG a) :=
        decode_of_compress (by decide +kernel) hGa hca
      have hmul : secp256k1.mul (b % secp256k1.n) (secp256k1.mulG a)
          = secp256k1.mulG (a * b % secp256k1.n) := by
        unfold WCurve.mulG
        rw [Props.C12Group.mul_mul_scalar _ _ secp256k1_G_onCurve]
        apply mulG_congr
        rw [Nat.mod_mod, Nat.mul_comm a b, Nat.mul_mod (b % secp256k1.n), Nat.mod_mod,
          ← Nat.mul_mod]
      unfold secpMul
      dsimp only
      rw [if_neg hb, hdec]
      dsimp only
      rw [hmul]
      unfold secpMulG
      dsimp only
      rw [Nat.mod_mod, if_neg hab]

end BipVerif.Bip38Group
