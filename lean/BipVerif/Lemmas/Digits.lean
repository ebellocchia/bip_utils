/-
Radix lemmas: the model's digit loops agree with `Nat.digits` / `Nat.ofDigits`, hence are
mutually inverse; positional facts about `ofDigitsBE` (append, single digit, bound).
-/
import Mathlib.Data.Nat.Digits.Lemmas
import BipVerif.Model.Basic

namespace BipVerif.Model
open BipVerif

theorem digitsBE_eq (r : Nat) (hr : 2 ≤ r) (v : Nat) (acc : List Nat) :
    digitsBE r v acc = (Nat.digits r v).reverse ++ acc := by
  induction v using Nat.strong_induction_on generalizing acc with
  | _ v ih =>
    unfold digitsBE
    by_cases hv : v = 0
    · simp [hv]
    · have h : ¬ (v = 0 ∨ r < 2) := by omega
      rw [dif_neg h]
      have hlt : v / r < v := Nat.div_lt_self (Nat.pos_of_ne_zero hv) (by omega)
      rw [ih _ hlt]
      have : Nat.digits r v = v % r :: Nat.digits r (v / r) :=
        Nat.digits_def' (by omega) (Nat.pos_of_ne_zero hv)
      rw [this]; simp

theorem ofDigitsBE_eq (r : Nat) (ds : List Nat) :
    ofDigitsBE r ds = Nat.ofDigits r ds.reverse := by
  unfold ofDigitsBE
  suffices h : ∀ acc, ds.foldl (fun acc d => acc * r + d) acc
      = Nat.ofDigits r ds.reverse + acc * r ^ ds.length by simpa using h 0
  induction ds with
  | nil => intro acc; simp
  | cons d ds ih =>
    intro acc
    simp only [List.foldl_cons, List.reverse_cons, List.length_cons]
    rw [ih, Nat.ofDigits_append, Nat.ofDigits_singleton]
    simp; ring

theorem ofDigitsBE_digitsBE (r : Nat) (hr : 2 ≤ r) (v : Nat) :
    ofDigitsBE r (digitsBE r v []) = v := by
  rw [digitsBE_eq r hr, ofDigitsBE_eq]; simp [Nat.ofDigits_digits]

theorem ofDigitsBE_append (r : Nat) (a b : List Nat) :
    ofDigitsBE r (a ++ b) = ofDigitsBE r a * r ^ b.length + ofDigitsBE r b := by
  rw [ofDigitsBE_eq, ofDigitsBE_eq, ofDigitsBE_eq, List.reverse_append, Nat.ofDigits_append]
  simp; ring

theorem ofDigitsBE_concat (r : Nat) (ds : List Nat) (d : Nat) :
    ofDigitsBE r (ds ++ [d]) = ofDigitsBE r ds * r + d := by
  simp [ofDigitsBE]

/-- Of the `n` fixed-width digits `c / r^(n-1) % r, …, c % r`, the `k` most significant ones
spell `c / r^(n-k) % r^k`: with `m = c / r^(n-(k+1))`, appending the digit `m % r` to
`m / r % r^k` gives `m % r + r * (m / r % r^k) = m % r^(k+1)`. -/
theorem ofDigitsBE_map_range (r n c k : Nat) (hk : k ≤ n) :
    ofDigitsBE r ((List.range k).map fun i => c / r ^ (n - 1 - i) % r) = c / r ^ (n - k) % r ^ k := by
  induction k with
  | zero => simp [ofDigitsBE, Nat.mod_one]
  | succ k ih =>
    have e : n - k = n - (k + 1) + 1 := by omega
    have e' : n - 1 - k = n - (k + 1) := by omega
    rw [List.range_succ, List.map_append, List.map_singleton, ofDigitsBE_concat, ih (by omega), e, e',
      Nat.pow_succ, ← Nat.div_div_eq_div_mul, Nat.pow_succ', Nat.mod_mul, Nat.mul_comm, Nat.add_comm]

theorem ofDigitsBE_replicate_zero (r n : Nat) : ofDigitsBE r (List.replicate n 0) = 0 := by
  induction n with
  | zero => rfl
  | succ n ih =>
    rw [List.replicate_succ', ofDigitsBE_append, ih]; simp [ofDigitsBE]

theorem ofDigitsBE_zeros_append (r n : Nat) (ds : List Nat) :
    ofDigitsBE r (List.replicate n 0 ++ ds) = ofDigitsBE r ds := by
  rw [ofDigitsBE_append, ofDigitsBE_replicate_zero]; simp

theorem digitsBE_lt (r : Nat) (hr : 2 ≤ r) (v : Nat) : ∀ d ∈ digitsBE r v [], d < r := by
  intro d hd
  rw [digitsBE_eq r hr] at hd
  simp at hd
  exact Nat.digits_lt_base (by omega) hd

theorem div_mod_of_eq {V A P C : Nat} (h : V = A * P + C) (hC : C < P) : V / P = A ∧ V % P = C := by
  subst h
  constructor
  · rw [Nat.add_comm, Nat.add_mul_div_right _ _ (by omega), Nat.div_eq_of_lt hC, Nat.zero_add]
  · rw [Nat.add_comm, Nat.add_mul_mod_self_right, Nat.mod_eq_of_lt hC]

theorem mul_add_lt_mul {a A c P : Nat} (ha : a < A) (hc : c < P) : a * P + c < A * P :=
  calc a * P + c < a * P + P := Nat.add_lt_add_left hc _
    _ = (a + 1) * P := (Nat.succ_mul a P).symm
    _ ≤ A * P := Nat.mul_le_mul_right P ha

theorem ofDigitsBE_cons (r d : Nat) (ds : List Nat) :
    ofDigitsBE r (d :: ds) = d * r ^ ds.length + ofDigitsBE r ds := by
  have := ofDigitsBE_append r [d] ds
  simpa [ofDigitsBE] using this

theorem ofDigitsBE_lt (r : Nat) (ds : List Nat) (h : ∀ d ∈ ds, d < r) :
    ofDigitsBE r ds < r ^ ds.length := by
  induction ds with
  | nil => simp [ofDigitsBE]
  | cons d t ih =>
    rw [ofDigitsBE_cons, List.length_cons, Nat.pow_succ']
    exact mul_add_lt_mul (h d (by simp)) (ih (fun x hx => h x (by simp [hx])))

theorem ofDigitsBE_digit (r : Nat) (ds : List Nat) (h : ∀ d ∈ ds, d < r) (i : Nat)
    (hi : i < ds.length) : ofDigitsBE r ds / r ^ (ds.length - 1 - i) % r = ds[i] := by
  have hsplit : ds = ds.take i ++ (ds[i] :: ds.drop (i + 1)) := by
    rw [List.cons_getElem_drop_succ, List.take_append_drop]
  have hlen : (ds.drop (i + 1)).length = ds.length - 1 - i := by rw [List.length_drop]; omega
  have hv : ofDigitsBE r ds
      = (ofDigitsBE r (ds.take i) * r + ds[i]) * r ^ (ds.length - 1 - i)
        + ofDigitsBE r (ds.drop (i + 1)) := by
    conv_lhs => rw [hsplit]
    rw [ofDigitsBE_append, ofDigitsBE_cons, List.length_cons, hlen, Nat.pow_succ]
    ring
  have hlt : ofDigitsBE r (ds.drop (i + 1)) < r ^ (ds.length - 1 - i) := by
    have := ofDigitsBE_lt r (ds.drop (i + 1)) (fun d hd => h d (List.mem_of_mem_drop hd))
    rwa [hlen] at this
  rw [(div_mod_of_eq hv hlt).1, Nat.mul_comm, Nat.mul_add_mod]
  exact Nat.mod_eq_of_lt (h _ (List.getElem_mem hi))

theorem ofDigitsBE_groups (r n V : Nat) (hV : V < r ^ n) :
    ofDigitsBE r ((List.range n).map fun i => V / r ^ (n - 1 - i) % r) = V := by
  rw [ofDigitsBE_map_range r n V n (Nat.le_refl n), Nat.sub_self, Nat.pow_zero, Nat.div_one,
    Nat.mod_eq_of_lt hV]

theorem digitsBE_head_ne_zero (r : Nat) (hr : 2 ≤ r) (v : Nat) :
    (digitsBE r v []).head? ≠ some 0 := by
  rw [digitsBE_eq r hr]
  simp only [List.append_nil, List.head?_reverse]
  by_cases hv : v = 0
  · simp [hv]
  · have h := Nat.getLast_digit_ne_zero r hv
    intro hc
    rw [List.getLast?_eq_some_getLast (Nat.digits_ne_nil_iff_ne_zero.mpr hv)] at hc
    exact h (Option.some.inj hc)

theorem digitsBE_zero (r : Nat) : digitsBE r 0 [] = [] := by
  unfold digitsBE; simp

theorem digitsBE_ofDigitsBE (r : Nat) (hr : 2 ≤ r) (ds : List Nat) (hlt : ∀ d ∈ ds, d < r)
    (hhd : ds.head? ≠ some 0) : digitsBE r (ofDigitsBE r ds) [] = ds := by
  rw [digitsBE_eq r hr, ofDigitsBE_eq]
  simp only [List.append_nil]
  rw [Nat.digits_ofDigits r (by omega) ds.reverse (by simpa using hlt)]
  · simp
  · intro hne
    have hne' : ds ≠ [] := by simpa using hne
    intro h0
    apply hhd
    rw [List.getLast_reverse] at h0
    cases ds with
    | nil => exact absurd rfl hne'
    | cons a t => simp at h0 ⊢; exact h0

end BipVerif.Model
