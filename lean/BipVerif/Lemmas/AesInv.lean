/-
AES-256 of `Prim/Aes.lean`: single-block decryption inverts encryption, for every key (of any
length) and every 16-byte block.  That the two S-box tables are inverse to each other is checked by
kernel evaluation over the 256 byte values; everything else is structural (`xtime` is linear, hence
`InvMixColumns ∘ MixColumns = id` column by column; `InvShiftRows ∘ ShiftRows = id`; `AddRoundKey`
is an involution; the inverse cipher undoes the rounds in reverse order with the same key
schedule).  Mathlib is used for the `interval_cases` tactic only.
-/
import Mathlib.Tactic.IntervalCases
import BipVerif.Prim.Aes

namespace BipVerif.AesInv
open BipVerif BipVerif.Prim BipVerif.Prim.Aes

theorem forall_byte {P : UInt8 → Bool}
    (h : ((List.range 256).all fun n => P (UInt8.ofNat n)) = true) (x : UInt8) : P x = true := by
  have := List.all_eq_true.mp h x.toNat (List.mem_range.mpr (UInt8.toNat_lt x))
  rwa [UInt8.ofNat_toNat] at this

def pack (l : List UInt8) : Nat := l.foldr (fun b n => b.toNat + 256 * n) 0

/-- A table lookup is a shift of the packed table.  The kernel walks a list literal in unary but
shifts a number in one step, so sweeps over table lookups are stated on the packed tables. -/
theorem getD_eq_pack (a : Array UInt8) (i : Nat) :
    a.getD i 0 = UInt8.ofNat (pack a.toList >>> (8 * i)) := by
  rw [Array.getD_eq_getD_getElem?, ← Array.getElem?_toList]
  induction a.toList generalizing i with
  | nil => simp [pack]
  | cons b l ih =>
    have hb := UInt8.toNat_lt b
    cases i with
    | zero =>
      show b = UInt8.ofNat ((b.toNat + 256 * pack l) >>> 0)
      rw [Nat.shiftRight_zero, ← UInt8.ofNat_mod_size, Nat.add_mul_mod_self_left,
        Nat.mod_eq_of_lt hb, UInt8.ofNat_toNat]
    | succ i =>
      show l[i]?.getD 0 = UInt8.ofNat ((b.toNat + 256 * pack l) >>> (8 * (i + 1)))
      have h8 : (b.toNat + 256 * pack l) >>> 8 = pack l := by
        rw [Nat.shiftRight_eq_div_pow]; omega
      rw [ih, Nat.mul_add, Nat.add_comm (8 * i), Nat.shiftRight_add, h8]

theorem invSub_sub (x : UInt8) : invSub (sub x) = x := by
  unfold sub invSub
  rw [getD_eq_pack, getD_eq_pack]
  exact eq_of_beq (forall_byte (P := fun x => UInt8.ofNat (pack invSbox.toList >>>
    (8 * (UInt8.ofNat (pack sbox.toList >>> (8 * x.toNat))).toNat)) == x) (by decide +kernel) x)

theorem and80_cases (x : UInt8) : x &&& 0x80 = 0 ∨ x &&& 0x80 = 0x80 := by
  simpa using
    forall_byte (P := fun x => x &&& 0x80 == 0 || x &&& 0x80 == 0x80) (by decide +kernel) x

theorem xor_and (x y z : UInt8) : (x ^^^ y) &&& z = (x &&& z) ^^^ (y &&& z) :=
  UInt8.toNat_inj.mp (by simp [Nat.and_xor_distrib_right])

theorem xtime_xor (x y : UInt8) : xtime (x ^^^ y) = xtime x ^^^ xtime y := by
  have e : ∀ a b c d : UInt8, (a ^^^ b) ^^^ (c ^^^ d) = (a ^^^ c) ^^^ (b ^^^ d) := by
    intro a b c d; ac_rfl
  unfold xtime
  rw [UInt8.shiftLeft_xor, xor_and, e]
  congr 1
  rcases and80_cases x with hx | hx <;> rcases and80_cases y with hy | hy <;> rw [hx, hy] <;> decide

/-- One row of `InvMixColumns ∘ MixColumns` on a column `(a, b, c, d)` read from that row on.
Writing `t` for `xtime`, the coefficients are `2 = t`, `3 = t + 1`, `9 = t³ + 1`, `11 = t³ + t + 1`,
`13 = t³ + t² + 1`, `14 = t³ + t² + t`, and `14·2 + 11 + 13 + 9·3 = 1`,
`14·3 + 11·2 + 13 + 9 = 14 + 11·3 + 13·2 + 9 = 14 + 11 + 13·3 + 9·2 = 0` hold already in `GF(2)[t]`:
the AES polynomial plays no part, only the linearity of `xtime` does.  So after distributing `xtime`
over `⊕` and sorting the terms, they cancel in pairs from the inside, leaving `a`. -/
theorem column_inv (a b c d : UInt8) :
    mul14 (mul2 a ^^^ mul3 b ^^^ c ^^^ d) ^^^ mul11 (mul2 b ^^^ mul3 c ^^^ d ^^^ a) ^^^
      mul13 (mul2 c ^^^ mul3 d ^^^ a ^^^ b) ^^^ mul9 (mul2 d ^^^ mul3 a ^^^ b ^^^ c) = a := by
  simp only [mul14, mul11, mul13, mul9, mul2, mul3, xtime_xor]
  ac_nf
  simp only [UInt8.xor_self, UInt8.xor_zero]

theorem xor_xor_cancel (x k : UInt8) : x ^^^ k ^^^ k = x := by
  rw [UInt8.xor_assoc, UInt8.xor_self, UInt8.xor_zero]

theorem getD_ofFn {n : Nat} (f : Fin n → UInt8) (j : Nat) (h : j < n) :
    (Array.ofFn f).getD j 0 = f ⟨j, h⟩ := by
  simp [h]

theorem ext16 {s t : St} (hs : s.size = 16) (ht : t.size = 16)
    (h : ∀ j < 16, s.getD j 0 = t.getD j 0) : s = t := by
  apply Array.ext (hs.trans ht.symm)
  intro i h1 h2
  have := h i (hs ▸ h1)
  simpa [h1, h2] using this

theorem subBytes_size (s : St) : (subBytes s).size = 16 := Array.size_ofFn

theorem invSubBytes_size (s : St) : (invSubBytes s).size = 16 := Array.size_ofFn

theorem shiftRows_size (s : St) : (shiftRows s).size = 16 := Array.size_ofFn

theorem invShiftRows_size (s : St) : (invShiftRows s).size = 16 := Array.size_ofFn

theorem mixColumns_size (s : St) : (mixColumns s).size = 16 := Array.size_ofFn

theorem invMixColumns_size (s : St) : (invMixColumns s).size = 16 := Array.size_ofFn

theorem addRoundKey_getD (rk : Array UInt8) (r : Nat) (s : St) (j : Nat) (h : j < 16) :
    (addRoundKey rk r s).getD j 0 = s.getD j 0 ^^^ rk.getD (16 * r + j) 0 :=
  getD_ofFn _ j h

theorem subBytes_getD (s : St) (j : Nat) (h : j < 16) :
    (subBytes s).getD j 0 = sub (s.getD j 0) :=
  getD_ofFn _ j h

theorem invSubBytes_getD (s : St) (j : Nat) (h : j < 16) :
    (invSubBytes s).getD j 0 = invSub (s.getD j 0) :=
  getD_ofFn _ j h

theorem shiftRows_getD (s : St) (j : Nat) (h : j < 16) :
    (shiftRows s).getD j 0 = s.getD (j % 4 + 4 * ((j / 4 + j % 4) % 4)) 0 :=
  getD_ofFn _ j h

theorem invShiftRows_getD (s : St) (j : Nat) (h : j < 16) :
    (invShiftRows s).getD j 0 = s.getD (j % 4 + 4 * ((j / 4 + 4 - j % 4) % 4)) 0 :=
  getD_ofFn _ j h

theorem mixColumns_getD (s : St) (m q : Nat) (hm : m < 4) (hq : q < 4) :
    (mixColumns s).getD (4 * m + q) 0 =
      mul2 (s.getD (4 * m + q) 0) ^^^ mul3 (s.getD (4 * m + (q + 1) % 4) 0) ^^^
        s.getD (4 * m + (q + 2) % 4) 0 ^^^ s.getD (4 * m + (q + 3) % 4) 0 := by
  unfold mixColumns
  rw [getD_ofFn _ _ (show 4 * m + q < 16 by omega)]
  dsimp only
  rw [Nat.mul_add_div (by decide), Nat.div_eq_of_lt hq, Nat.add_zero, Nat.mul_add_mod,
    Nat.mod_eq_of_lt hq]

theorem invMixColumns_getD (s : St) (m q : Nat) (hm : m < 4) (hq : q < 4) :
    (invMixColumns s).getD (4 * m + q) 0 =
      mul14 (s.getD (4 * m + q) 0) ^^^ mul11 (s.getD (4 * m + (q + 1) % 4) 0) ^^^
        mul13 (s.getD (4 * m + (q + 2) % 4) 0) ^^^ mul9 (s.getD (4 * m + (q + 3) % 4) 0) := by
  unfold invMixColumns
  rw [getD_ofFn _ _ (show 4 * m + q < 16 by omega)]
  dsimp only
  rw [Nat.mul_add_div (by decide), Nat.div_eq_of_lt hq, Nat.add_zero, Nat.mul_add_mod,
    Nat.mod_eq_of_lt hq]

theorem addRoundKey_addRoundKey (rk : Array UInt8) (r : Nat) {s : St} (hs : s.size = 16) :
    addRoundKey rk r (addRoundKey rk r s) = s :=
  ext16 (addRoundKey_size _ _ _) hs fun j hj => by
    rw [addRoundKey_getD _ _ _ _ hj, addRoundKey_getD _ _ _ _ hj, xor_xor_cancel]

theorem invSubBytes_subBytes {s : St} (hs : s.size = 16) : invSubBytes (subBytes s) = s :=
  ext16 (invSubBytes_size _) hs fun j hj => by
    rw [invSubBytes_getD _ _ hj, subBytes_getD _ _ hj, invSub_sub]

theorem invShiftRows_shiftRows {s : St} (hs : s.size = 16) : invShiftRows (shiftRows s) = s :=
  ext16 (invShiftRows_size _) hs fun j hj => by
    rw [invShiftRows_getD _ _ hj, shiftRows_getD _ _ (by omega)]
    congr 1
    omega

theorem invMixColumns_mixColumns {s : St} (hs : s.size = 16) :
    invMixColumns (mixColumns s) = s :=
  ext16 (invMixColumns_size _) hs fun j hj => by
    obtain ⟨m, q, hm, hq, rfl⟩ : ∃ m q, m < 4 ∧ q < 4 ∧ j = 4 * m + q :=
      ⟨j / 4, j % 4, by omega, by omega, by omega⟩
    rw [invMixColumns_getD _ _ _ hm hq]
    interval_cases q <;>
      rw [mixColumns_getD _ _ _ hm (by decide), mixColumns_getD _ _ _ hm (by decide),
        mixColumns_getD _ _ _ hm (by decide), mixColumns_getD _ _ _ hm (by decide)] <;>
      exact column_inv _ _ _ _

theorem encRounds_size (rk : Array UInt8) (n r : Nat) {s : St} (hs : s.size = 16) :
    (encRounds rk n r s).size = 16 := by
  induction n generalizing r s with
  | zero => exact hs
  | succ n ih => exact ih (r + 1) (addRoundKey_size _ _ _)

theorem encRounds_succ_last (rk : Array UInt8) (n r : Nat) (s : St) :
    encRounds rk (n + 1) r s
      = addRoundKey rk (r + n) (mixColumns (shiftRows (subBytes (encRounds rk n r s)))) := by
  induction n generalizing r s with
  | zero => rfl
  | succ n ih =>
    show encRounds rk (n + 1) (r + 1) _ = _
    rw [ih (r + 1)]
    show _ = addRoundKey rk (r + (n + 1)) (mixColumns (shiftRows (subBytes
      (encRounds rk n (r + 1) (addRoundKey rk r (mixColumns (shiftRows (subBytes s))))))))
    rw [Nat.add_assoc, Nat.add_comm 1 n]

/-- `n` decryption rounds going down from round `r + n - 1` undo `n` encryption rounds going up
from round `r`, as seen through the `ShiftRows ∘ SubBytes` of the next round -/
theorem decRounds_encRounds (rk : Array UInt8) (n r : Nat) (s : St) :
    decRounds rk n (r + n - 1) (shiftRows (subBytes (encRounds rk n r s)))
      = shiftRows (subBytes s) := by
  induction n with
  | zero => rfl
  | succ n ih =>
    rw [encRounds_succ_last]
    show decRounds rk n (r + (n + 1) - 1 - 1) (invMixColumns (addRoundKey rk (r + (n + 1) - 1)
      (invSubBytes (invShiftRows (shiftRows (subBytes (addRoundKey rk (r + n)
        (mixColumns (shiftRows (subBytes (encRounds rk n r s))))))))))) = _
    rw [invShiftRows_shiftRows (subBytes_size _), invSubBytes_subBytes (addRoundKey_size _ _ _)]
    have e1 : r + (n + 1) - 1 = r + n := by omega
    rw [e1, addRoundKey_addRoundKey _ _ (mixColumns_size _),
      invMixColumns_mixColumns (shiftRows_size _)]
    exact ih

theorem decryptState_encryptState (rk : Array UInt8) {s : St} (hs : s.size = 16) :
    decryptState rk (encryptState rk s) = s := by
  unfold decryptState encryptState
  dsimp only
  rw [addRoundKey_addRoundKey _ _ (shiftRows_size _)]
  have h := decRounds_encRounds rk 13 1 (addRoundKey rk 0 s)
  rw [show (1 + 13 - 1 : Nat) = 13 from rfl] at h
  rw [h, invShiftRows_shiftRows (subBytes_size _), invSubBytes_subBytes (addRoundKey_size _ _ _),
    addRoundKey_addRoundKey _ _ hs]

theorem loadBlock_of_length {b : Bytes} (hb : b.length = 16) : loadBlock b = b.toArray :=
  ext16 Array.size_ofFn (List.size_toArray.trans hb) fun j hj => getD_ofFn _ j hj

theorem aes256_decrypt_encrypt (k b : Bytes) (hb : b.length = 16) :
    aes256DecryptBlock k (aes256EncryptBlock k b) = b := by
  unfold aes256DecryptBlock aes256EncryptBlock
  rw [loadBlock_of_length (Array.length_toList.trans (encryptState_size _ _)), Array.toArray_toList,
    loadBlock_of_length hb, decryptState_encryptState _ (List.size_toArray.trans hb)]

/-! ### the cipher with its two lookups as parameters

For the kernel a read at index `i` of an array walks `i` cells of a list, and most of the work of
evaluating the cipher goes into reads of the S-box and of the 240 round-key bytes.  So the test
vector below is evaluated on a copy of the cipher that takes both lookups as functions: the S-box
is then read from the packed table and the round keys from the words of the key schedule. -/

def addRoundKeyWith (k : Nat → UInt8) (r : Nat) (s : St) : St :=
  Array.ofFn (n := 16) fun i => s.getD i.val 0 ^^^ k (16 * r + i.val)

def subBytesWith (sb : UInt8 → UInt8) (s : St) : St :=
  Array.ofFn (n := 16) fun i => sb (s.getD i.val 0)

def encRoundsWith (sb : UInt8 → UInt8) (k : Nat → UInt8) : Nat → Nat → St → St
  | 0, _, s => s
  | n+1, r, s =>
    encRoundsWith sb k n (r + 1) (addRoundKeyWith k r (mixColumns (shiftRows (subBytesWith sb s))))

def encryptStateWith (sb : UInt8 → UInt8) (k : Nat → UInt8) (s : St) : St :=
  addRoundKeyWith k 14 (shiftRows (subBytesWith sb (encRoundsWith sb k 13 1 (addRoundKeyWith k 0 s))))

theorem encRounds_eq_with (rk : Array UInt8) (n r : Nat) (s : St) :
    encRounds rk n r s = encRoundsWith sub (fun j => rk.getD j 0) n r s := by
  induction n generalizing r s with
  | zero => rfl
  | succ n ih => exact ih _ _

theorem encryptState_eq_with (rk : Array UInt8) (s : St) :
    encryptState rk s = encryptStateWith sub (fun j => rk.getD j 0) s := by
  unfold encryptState encryptStateWith
  rw [encRounds_eq_with]
  rfl

def roundKeyByte (key : Bytes) (j : Nat) : UInt8 :=
  if j < 240 then
    ((expand 52 (Array.ofFn (n := 8) fun j => be32 key.toArray (4 * j.val))).getD (j / 4) 0
      >>> UInt32.ofNat (24 - 8 * (j % 4))).toUInt8
  else 0

theorem roundKeys_getD (key : Bytes) (j : Nat) : (roundKeys key).getD j 0 = roundKeyByte key j := by
  unfold roundKeyByte
  by_cases h : j < 240
  · rw [if_pos h]; exact getD_ofFn _ j h
  · rw [if_neg h]; simp [roundKeys, h]

theorem aes256EncryptBlock_eq_with (key block : Bytes) :
    aes256EncryptBlock key block =
      (encryptStateWith (fun x => UInt8.ofNat (pack sbox.toList >>> (8 * x.toNat)))
        (roundKeyByte key) (loadBlock block)).toList := by
  unfold aes256EncryptBlock
  rw [encryptState_eq_with, funext (roundKeys_getD key),
    show sub = fun x => UInt8.ofNat (pack sbox.toList >>> (8 * x.toNat)) from
      funext fun x => getD_eq_pack sbox x.toNat]

/-- non-vacuity: the cipher that was inverted is AES-256 — FIPS 197 appendix C.3, evaluated by
the kernel (key expansion included) -/
example : aes256EncryptBlock
    [0x00,0x01,0x02,0x03,0x04,0x05,0x06,0x07,0x08,0x09,0x0a,0x0b,0x0c,0x0d,0x0e,0x0f,
     0x10,0x11,0x12,0x13,0x14,0x15,0x16,0x17,0x18,0x19,0x1a,0x1b,0x1c,0x1d,0x1e,0x1f]
    [0x00,0x11,0x22,0x33,0x44,0x55,0x66,0x77,0x88,0x99,0xaa,0xbb,0xcc,0xdd,0xee,0xff]
    = [0x8e,0xa2,0xb7,0xca,0x51,0x67,0x45,0xbf,0xea,0xfc,0x49,0x90,0x4b,0x49,0x60,0x89] :=
  (aes256EncryptBlock_eq_with _ _).trans (by decide +kernel)

end BipVerif.AesInv
