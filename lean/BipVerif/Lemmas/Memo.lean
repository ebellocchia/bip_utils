/-
The memoisation model (`BipVerif/Model/Memo.lean`).  The keyed machine is treated once (cache
invariant, transparency, the two witness histories); the whole-argument machine is the keyed one with
`key := id` and inherits its results.  For the interleaved machine the invariant that is carried
along a schedule (`SInv`) has a ghost argument per thread, and `CInv` is its existential closure.
Mathlib-free.
-/
import BipVerif.Model.Memo

namespace BipVerif.Model.Memo

variable {St Arg Out : Type} [DecidableEq Arg]

theorem mem_of_lookup_eq_some {a : Arg} {o : Out} {l : List (Arg × Out)}
    (h : l.lookup a = some o) : (a, o) ∈ l := by
  obtain ⟨l₁, l₂, rfl, _⟩ := List.lookup_eq_some_iff.1 h
  exact List.mem_append_right _ List.mem_cons_self

section Keyed

variable {St Arg K Out : Type} [DecidableEq K]

theorem stepKeyed_call_hit (m : KMethod St Arg K Out) (s : KState St K Out) {a : Arg} {o : Out}
    (h : s.cache.lookup (m.key a) = some o) : stepKeyed m s (.call a) = (s, some o) := by
  simp only [stepKeyed, h]

theorem stepKeyed_call_miss (m : KMethod St Arg K Out) (s : KState St K Out) {a : Arg}
    (h : s.cache.lookup (m.key a) = none) :
    stepKeyed m s (.call a)
      = (⟨s.st, (m.key a, m.pureOut s.st a) :: s.cache⟩, some (m.pureOut s.st a)) := by
  simp only [stepKeyed, h]

theorem stepKeyed_mutate (m : KMethod St Arg K Out) (s : KState St K Out) (f : St → St) :
    stepKeyed m s (.mutate f) = (⟨f s.st, s.cache⟩, none) := rfl

theorem runKeyed_cons (m : KMethod St Arg K Out) (s : KState St K Out) (op : Op St Arg)
    (rest : List (Op St Arg)) :
    runKeyed m s (op :: rest) = (stepKeyed m s op).2 :: runKeyed m (stepKeyed m s op).1 rest := rfl

/-- every stored result is the one the body would compute now, for EVERY argument with that key -/
def KCacheOk (m : KMethod St Arg K Out) (s : KState St K Out) : Prop :=
  ∀ k o, (k, o) ∈ s.cache → ∀ a, m.key a = k → o = m.pureOut s.st a

/-- `KeyRespects` is what makes the value computed for `a` on a miss right for every argument with
the key of `a`. -/
theorem stepKeyed_call_ok (m : KMethod St Arg K Out) (hk : KeyRespects m) (s : KState St K Out)
    (a : Arg) (hs : KCacheOk m s) :
    ∃ c, stepKeyed m s (.call a) = (⟨s.st, c⟩, some (m.pureOut s.st a)) ∧ KCacheOk m ⟨s.st, c⟩ := by
  cases hl : s.cache.lookup (m.key a) with
  | some o =>
    rw [stepKeyed_call_hit m s hl, hs _ o (mem_of_lookup_eq_some hl) a rfl]
    exact ⟨s.cache, rfl, hs⟩
  | none =>
    refine ⟨_, stepKeyed_call_miss m s hl, fun k o hb b hbk => ?_⟩
    rcases List.mem_cons.1 hb with hb | hb
    · cases hb
      exact hk s.st a b hbk.symm
    · exact hs k o hb b hbk

omit [DecidableEq K] in
theorem kcacheOk_mutate (m : KMethod St Arg K Out) (s : KState St K Out) (f : St → St)
    (hf : Independent m.toMethod f) (hs : KCacheOk m s) : KCacheOk m ⟨f s.st, s.cache⟩ :=
  fun k o h a hak => (hs k o h a hak).trans (hf s.st a).symm

theorem runKeyed_eq_runPure (m : KMethod St Arg K Out) (hk : KeyRespects m) (h : List (Op St Arg))
    (s : KState St K Out) (hs : KCacheOk m s) (hi : HistoryIndependent m.toMethod h) :
    runKeyed m s h = runPure m.toMethod s.st h := by
  induction h generalizing s with
  | nil => rfl
  | cons op rest ih =>
    cases op with
    | call a =>
      obtain ⟨c, hstep, hc⟩ := stepKeyed_call_ok m hk s a hs
      rw [runKeyed_cons, hstep]
      exact congrArg (List.cons _) (ih ⟨s.st, c⟩ hc hi)
    | mutate f =>
      exact congrArg (List.cons none) (ih ⟨f s.st, s.cache⟩ (kcacheOk_mutate m s f hi.1 hs) hi.2)

theorem runKeyed_collide (m : KMethod St Arg K Out) (st : St) {a b : Arg} (hab : m.key a = m.key b) :
    runKeyed m ⟨st, []⟩ [.call a, .call b] = [some (m.pureOut st a), some (m.pureOut st a)] := by
  simp [runKeyed, stepKeyed, List.lookup, hab]

omit [DecidableEq K] in
theorem runPure_two_calls (m : KMethod St Arg K Out) (st : St) (a b : Arg) :
    runPure m.toMethod st [.call a, .call b] = [some (m.pureOut st a), some (m.pureOut st b)] := rfl

theorem runKeyed_stale (m : KMethod St Arg K Out) (st : St) (f : St → St) (a : Arg) :
    runKeyed m ⟨st, []⟩ [.call a, .mutate f, .call a]
      = [some (m.pureOut st a), none, some (m.pureOut st a)] := by
  simp [runKeyed, stepKeyed, List.lookup]

omit [DecidableEq K] in
theorem runPure_stale (m : Method St Arg Out) (st : St) (f : St → St) (a : Arg) :
    runPure m st [.call a, .mutate f, .call a]
      = [some (m.pureOut st a), none, some (m.pureOut (f st) a)] := rfl

theorem eq_of_stale_agree (m : KMethod St Arg K Out) (st : St) (f : St → St) (a : Arg)
    (h : runKeyed m ⟨st, []⟩ [.call a, .mutate f, .call a]
      = runPure m.toMethod st [.call a, .mutate f, .call a]) :
    m.pureOut (f st) a = m.pureOut st a := by
  rw [runKeyed_stale, runPure_stale] at h
  exact (Option.some.inj (List.cons.inj (List.cons.inj (List.cons.inj h).2).2).1).symm

end Keyed

theorem stepMemo_call_hit (m : Method St Arg Out) (s : MState St Arg Out) {a : Arg} {o : Out}
    (h : s.cache.lookup a = some o) : stepMemo m s (.call a) = (s, some o) := by
  simp only [stepMemo, h]

theorem stepMemo_call_miss (m : Method St Arg Out) (s : MState St Arg Out) {a : Arg}
    (h : s.cache.lookup a = none) :
    stepMemo m s (.call a)
      = (⟨s.st, (a, m.pureOut s.st a) :: s.cache⟩, some (m.pureOut s.st a)) := by
  simp only [stepMemo, h]

theorem stepMemo_mutate (m : Method St Arg Out) (s : MState St Arg Out) (f : St → St) :
    stepMemo m s (.mutate f) = (⟨f s.st, s.cache⟩, none) := rfl

theorem runMemo_cons (m : Method St Arg Out) (s : MState St Arg Out) (op : Op St Arg)
    (rest : List (Op St Arg)) :
    runMemo m s (op :: rest) = (stepMemo m s op).2 :: runMemo m (stepMemo m s op).1 rest := rfl

theorem stepMemo_call_lookup (m : Method St Arg Out) (s : MState St Arg Out) (a : Arg) :
    ∃ o, (stepMemo m s (.call a)).2 = some o ∧
      (stepMemo m s (.call a)).1.cache.lookup a = some o := by
  cases hl : s.cache.lookup a with
  | some o =>
    rw [stepMemo_call_hit m s hl]
    exact ⟨o, rfl, hl⟩
  | none =>
    rw [stepMemo_call_miss m s hl]
    exact ⟨_, rfl, List.lookup_cons_self⟩

theorem stepKeyed_id (m : Method St Arg Out) (s : MState St Arg Out) (op : Op St Arg) :
    stepKeyed ⟨m.pureOut, id⟩ ⟨s.st, s.cache⟩ op
      = (⟨(stepMemo m s op).1.st, (stepMemo m s op).1.cache⟩, (stepMemo m s op).2) := by
  cases op with
  | mutate f => rfl
  | call a =>
    cases hl : s.cache.lookup a with
    | some o =>
      rw [stepMemo_call_hit m s hl]
      exact stepKeyed_call_hit _ _ hl
    | none =>
      rw [stepMemo_call_miss m s hl]
      exact stepKeyed_call_miss _ _ hl

theorem runKeyed_id_eq_runMemo (m : Method St Arg Out) (h : List (Op St Arg))
    (s : MState St Arg Out) : runKeyed ⟨m.pureOut, id⟩ ⟨s.st, s.cache⟩ h = runMemo m s h := by
  induction h generalizing s with
  | nil => rfl
  | cons op rest ih =>
    rw [runKeyed_cons, runMemo_cons, stepKeyed_id]
    exact congrArg (List.cons _) (ih (stepMemo m s op).1)

theorem runMemo_eq_runPure (m : Method St Arg Out) (h : List (Op St Arg)) (s : MState St Arg Out)
    (hs : ∀ a o, (a, o) ∈ s.cache → o = m.pureOut s.st a) (hi : HistoryIndependent m h) :
    runMemo m s h = runPure m s.st h :=
  (runKeyed_id_eq_runMemo m h s).symm.trans <|
    runKeyed_eq_runPure ⟨m.pureOut, id⟩ (fun st _ _ hab => congrArg (m.pureOut st) hab) h
      ⟨s.st, s.cache⟩ (fun k o hk a hak => (show a = k from hak) ▸ hs k o hk) hi

def BuiltFrom (F : (St → St) → Prop) (h : List (Op St Arg)) : Prop :=
  ∀ f, Op.mutate f ∈ h → F f

omit [DecidableEq Arg] in
theorem historyIndependent_of_builtFrom (m : Method St Arg Out) (F : (St → St) → Prop)
    (hF : ∀ f, F f → Independent m f) (h : List (Op St Arg)) (hb : BuiltFrom F h) :
    HistoryIndependent m h := by
  induction h with
  | nil => trivial
  | cons op rest ih =>
    have hrest := ih fun f hf => hb f (List.mem_cons_of_mem _ hf)
    cases op with
    | call _ => exact hrest
    | mutate f => exact ⟨hF f (hb f List.mem_cons_self), hrest⟩

omit [DecidableEq Arg] in
theorem builtFrom_map_call (F : (St → St) → Prop) (as : List Arg) :
    BuiltFrom F (as.map Op.call : List (Op St Arg)) := by
  intro f hf
  obtain ⟨_, _, h⟩ := List.mem_map.1 hf
  cases h

omit [DecidableEq Arg] in
theorem builtFrom_stale (F : (St → St) → Prop) {f : St → St} (hf : F f) (a : Arg) :
    BuiltFrom F ([.call a, .mutate f, .call a] : List (Op St Arg)) := by
  intro g hg
  simp only [List.mem_cons, List.not_mem_nil, or_false, reduceCtorEq, false_or] at hg
  cases hg
  exact hf

def cinit : CState Arg Out := ⟨[], fun _ => .idle⟩

/-- What `Props/C15.lean` claims of every reachable state (`interleaving_sound`): every cache entry,
every computed-but-not-yet-stored value and every value returned to a finished call is a value of
the reference function. -/
def CInv (m : Method St Arg Out) (st : St) (s : CState Arg Out) : Prop :=
  (∀ a o, (a, o) ∈ s.cache → o = m.pureOut st a) ∧
  (∀ t, match s.phase t with
        | .computed a o => o = m.pureOut st a
        | .done o => ∃ a, o = m.pureOut st a
        | _ => True)

/-! `CInv` forgets which argument a thread is working on.  The invariant that is proved (`SInv`)
remembers it, in a ghost "pending argument" per thread: the argument of the thread's last `lookup`
(`gstep` updates it, `lastLookup` is its value after a schedule).  `CInv` is `SInv` for SOME ghost. -/

def gstep (t : Nat) (g : Option Arg) : Atom Arg → Option Arg
  | .lookup u a => if u = t then some a else g
  | _ => g

def lastLookup (t : Nat) (sched : List (Atom Arg)) : Option Arg := sched.foldl (gstep t) none

omit [DecidableEq Arg] in
theorem gstep_lookup_self (t : Nat) (g : Option Arg) (a : Arg) :
    gstep t g (.lookup t a) = some a := if_pos rfl

omit [DecidableEq Arg] in
theorem gstep_lookup_ne {t u : Nat} (g : Option Arg) (a : Arg) (h : t ≠ u) :
    gstep t g (.lookup u a) = g := if_neg (Ne.symm h)

def SPhaseOk (m : Method St Arg Out) (st : St) (g : Option Arg) : Phase Arg Out → Prop
  | .idle => True
  | .missed a => g = some a
  | .computed a o => g = some a ∧ o = m.pureOut st a
  | .done o => ∃ a, g = some a ∧ o = m.pureOut st a

def SInv (m : Method St Arg Out) (st : St) (g : Nat → Option Arg) (s : CState Arg Out) : Prop :=
  (∀ a o, (a, o) ∈ s.cache → o = m.pureOut st a) ∧ ∀ t, SPhaseOk m st (g t) (s.phase t)

omit [DecidableEq Arg] in
theorem cinv_iff_exists_sinv (m : Method St Arg Out) (st : St) (s : CState Arg Out) :
    CInv m st s ↔ ∃ g, SInv m st g s := by
  unfold CInv SInv
  rw [exists_and_left]
  -- thread by thread a phase is right iff it is right for some pending argument; choice collects these
  refine and_congr_right fun _ => Iff.trans (forall_congr' fun t => ?_)
    (Classical.skolem (p := fun t y => SPhaseOk m st y (s.phase t)))
  cases s.phase t with
  | idle => exact iff_of_true trivial ⟨none, trivial⟩
  | missed a => exact iff_of_true trivial ⟨some a, rfl⟩
  | computed a o =>
    constructor
    · intro h
      exact ⟨some a, rfl, h⟩
    · rintro ⟨_, _, h⟩
      exact h
  | done o =>
    constructor
    · rintro ⟨a, h⟩
      exact ⟨some a, a, rfl, h⟩
    · rintro ⟨_, a, _, h⟩
      exact ⟨a, h⟩

omit [DecidableEq Arg] in
theorem sinv_cinit (m : Method St Arg Out) (st : St) :
    SInv m st (fun _ => none) (cinit : CState Arg Out) :=
  ⟨fun _ _ h => (nomatch h), fun _ => trivial⟩

omit [DecidableEq Arg] in
/-- the shape of every effective step: thread `t` gets a new phase `p` that is right for its new
ghost, the other threads keep phase and ghost, the cache `c` is right -/
theorem sinv_update (m : Method St Arg Out) (st : St) {g g' : Nat → Option Arg}
    {c : List (Arg × Out)} {ph : Nat → Phase Arg Out} {t : Nat} {p : Phase Arg Out}
    (hc : ∀ a o, (a, o) ∈ c → o = m.pureOut st a) (hp : ∀ u, SPhaseOk m st (g u) (ph u))
    (hg : ∀ u, u ≠ t → g' u = g u) (ht : SPhaseOk m st (g' t) p) :
    SInv m st g' ⟨c, fun u => if u = t then p else ph u⟩ := by
  refine ⟨hc, fun u => ?_⟩
  show SPhaseOk m st (g' u) (if u = t then p else ph u)
  by_cases hu : u = t
  · rw [if_pos hu, hu]
    exact ht
  · rw [if_neg hu, hg u hu]
    exact hp u

theorem cstep_preserves_sinv (m : Method St Arg Out) (st : St) (g : Nat → Option Arg)
    (s : CState Arg Out) (x : Atom Arg) (hs : SInv m st g s) :
    SInv m st (fun t => gstep t (g t) x) (cstep m st s x) := by
  obtain ⟨hc, hp⟩ := hs
  cases x with
  | lookup t a =>
    have hupd : ∀ p, SPhaseOk m st (some a) p →
        SInv m st (fun u => gstep u (g u) (.lookup t a))
          ⟨s.cache, fun u => if u = t then p else s.phase u⟩ := by
      intro p h
      refine sinv_update m st hc hp (fun u hu => gstep_lookup_ne _ a hu) ?_
      rw [gstep_lookup_self]
      exact h
    simp only [cstep]
    split
    · next o hl => exact hupd _ ⟨a, rfl, hc a o (mem_of_lookup_eq_some hl)⟩
    · exact hupd _ rfl
  | compute t =>
    simp only [cstep]
    split
    · next a h =>
      have hta : SPhaseOk m st (g t) (s.phase t) := hp t
      rw [h] at hta
      exact sinv_update m st hc hp (fun _ _ => rfl) ⟨hta, rfl⟩
    · exact ⟨hc, hp⟩
  | store t =>
    simp only [cstep]
    split
    · next a o h =>
      have hto : SPhaseOk m st (g t) (s.phase t) := hp t
      rw [h] at hto
      refine sinv_update m st (fun b p hb => ?_) hp (fun _ _ => rfl) ⟨a, hto⟩
      rcases List.mem_cons.1 hb with hb | hb
      · cases hb
        exact hto.2
      · exact hc b p hb
    · exact ⟨hc, hp⟩

theorem crun_preserves_sinv (m : Method St Arg Out) (st : St) (sched : List (Atom Arg))
    (g : Nat → Option Arg) (s : CState Arg Out) (hs : SInv m st g s) :
    SInv m st (fun t => sched.foldl (gstep t) (g t)) (crun m st s sched) := by
  induction sched generalizing g s with
  | nil => exact hs
  | cons x rest ih => exact ih _ _ (cstep_preserves_sinv m st g s x hs)

theorem crun_sinv (m : Method St Arg Out) (st : St) (sched : List (Atom Arg)) :
    SInv m st (fun t => lastLookup t sched) (crun m st (cinit : CState Arg Out) sched) :=
  crun_preserves_sinv m st sched (fun _ => none) cinit (sinv_cinit m st)

omit [DecidableEq Arg] in
theorem foldl_gstep_of_no_lookup (t : Nat) (post : List (Atom Arg)) (g : Option Arg)
    (h : ∀ b, Atom.lookup t b ∉ post) : post.foldl (gstep t) g = g := by
  induction post with
  | nil => rfl
  | cons x post ih =>
    have hx : gstep t g x = g := by
      cases x with
      | lookup u b => exact gstep_lookup_ne g b fun hu => h b (hu ▸ List.mem_cons_self)
      | compute u => rfl
      | store u => rfl
    rw [List.foldl_cons, hx]
    exact ih fun b hb => h b (List.mem_cons_of_mem _ hb)

omit [DecidableEq Arg] in
theorem lastLookup_of_split (t : Nat) (a : Arg) (pre post : List (Atom Arg))
    (h : ∀ b, Atom.lookup t b ∉ post) : lastLookup t (pre ++ Atom.lookup t a :: post) = some a := by
  unfold lastLookup
  rw [List.foldl_append, List.foldl_cons, foldl_gstep_of_no_lookup t post _ h, gstep_lookup_self]

end BipVerif.Model.Memo
