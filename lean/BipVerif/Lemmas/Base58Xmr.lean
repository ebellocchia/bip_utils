/- Monero block Base58 (`Base58XmrEncoder`, `Base58XmrDecoder`): 8-byte blocks become 11 symbols, a
shorter last block the number of symbols the table `BLOCK_ENC_BYTE_LENS` gives, each block
left-padded with `'1'`.
Encoder and decoder are brought to per-block form (`xmrEncBlk`, `xmrDecBlk`). Padding with `'1'` is
prepending zero bytes, so one block is the plain Base58 round trip plus a few inequalities on the
table, checked by `decide`; the whole string follows by induction on the blocks. Two results: the
round trip `xmrDecode (xmrEncode b) = .ok b`, and canonicity, every accepted string is the
encoding of its payload. -/
import BipVerif.Lemmas.Chunks
import BipVerif.Lemmas.Base58Check

namespace BipVerif.Model
open BipVerif

def xmrEncLen (k : Nat) : Nat := xmrBlockEncLens.getD k 0

/-- per-block encoder, as in `xmrEncode` -/
def xmrEncBlk (blk : Bytes) : List Char :=
  rjust (xmrBlockEncLens.getD blk.length 0) '1' (b58Encode btcAlphabet blk)

/-- per-block decoder, as in `xmrDecode` -/
def xmrDecBlk (lastDec : Nat) (blk : List Char) : R Bytes := do
  let d ← b58Decode btcAlphabet blk
  let k := if blk.length = 11 then 8 else lastDec
  if (d.dropWhile (· == 0)).length > k then throw .value
  pure (xmrUnPad d k)

theorem xmrDecBlk_eq (lastDec : Nat) (blk : List Char) :
    xmrDecBlk lastDec blk = match b58Decode btcAlphabet blk with
      | .error e => .error e
      | .ok d =>
        if (d.dropWhile (· == 0)).length > (if blk.length = 11 then 8 else lastDec) then .error .value
        else .ok (xmrUnPad d (if blk.length = 11 then 8 else lastDec)) := by
  unfold xmrDecBlk
  cases b58Decode btcAlphabet blk with
  | error e => rfl
  | ok d =>
    simp only [bind, Except.bind]
    split <;> rfl

theorem xmrEncode_eq (data : Bytes) : xmrEncode data = (chunksOf 8 data).flatMap xmrEncBlk := rfl

theorem xmrDecode_eq (s : List Char) :
    xmrDecode s = match xmrBlockEncLens.idxOf? (s.length % 11) with
      | some i => (chunksOf 11 s).mapM (xmrDecBlk i) >>= fun decs => pure decs.flatten
      | none => throw .value := by
  unfold xmrDecode
  dsimp only
  cases h : xmrBlockEncLens.idxOf? (s.length % 11) <;> rfl

/-! ### what the round trip needs of the length table, by `decide` -/

/-- a `j`-byte value fits in `xmrEncLen j` Base58 digits -/
theorem xmr_fits : ∀ j : Fin 9, 256 ^ j.val ≤ 58 ^ xmrEncLen j.val := by decide

/-- leading zero bytes cost one symbol each, and the table grows by at least one per byte -/
theorem xmr_lens_mono : ∀ k z : Fin 9, z.val ≤ k.val → z.val + xmrEncLen (k.val - z.val) ≤ xmrEncLen k.val := by
  decide

theorem xmr_idxOf : ∀ k : Fin 9, xmrBlockEncLens.idxOf? (xmrEncLen k.val) = some k.val := by decide

theorem xmr_len_lt : ∀ k : Fin 8, 0 < k.val → 0 < xmrEncLen k.val ∧ xmrEncLen k.val < 11 := by decide

theorem btc_zero : btcAlphabet.getD 0 'x' = '1' := by rw [btcAlphabet_eq]; rfl

/-! ### one block: padding with `'1'` is prepending zero bytes -/

theorem leadingCount_replicate_append' {α} [BEq α] [LawfulBEq α] (x : α) (p : Nat) (l : List α) :
    leadingCount x (List.replicate p x ++ l) = p + leadingCount x l := by
  unfold leadingCount
  induction p with
  | zero => simp
  | succ p ih =>
    rw [List.replicate_succ, List.cons_append, List.takeWhile_cons]
    simp only [beq_self_eq_true, if_true, List.length_cons, ih]; omega

theorem b58Encode_zeros_append (alph : List Char) (p : Nat) (b : Bytes) :
    b58Encode alph (List.replicate p 0 ++ b)
      = List.replicate p (alph.getD 0 'x') ++ b58Encode alph b := by
  unfold b58Encode
  simp only
  rw [toNatBE_zeros_append, leadingCount_replicate_append', List.replicate_add, List.append_assoc]

theorem b58Encode_length (alph : List Char) (b : Bytes) :
    (b58Encode alph b).length
      = leadingCount (0 : UInt8) b + (Nat.digits 58 (Bytes.toNatBE b)).length := by
  unfold b58Encode
  simp only [List.length_append, List.length_replicate, List.length_map]
  rw [digitsBE_eq 58 (by omega)]; simp

theorem toNatBE_lt_of_leading (b : Bytes) :
    Bytes.toNatBE b < 256 ^ (b.length - leadingCount (0 : UInt8) b) := by
  have h := length_eq_leadingCount_add b
  have hs := split_leading (0 : UInt8) b
  have : Bytes.toNatBE b = Bytes.toNatBE (b.dropWhile (· == 0)) := by
    conv_lhs => rw [hs]
    exact toNatBE_zeros_append _ _
  rw [this]
  have := toNatBE_lt (b.dropWhile (· == 0))
  have he : b.length - leadingCount (0 : UInt8) b = (b.dropWhile (· == 0)).length := by omega
  rw [he]; exact this

theorem b58Encode_length_le (alph : List Char) (blk : Bytes) (hk : blk.length ≤ 8) :
    (b58Encode alph blk).length ≤ xmrEncLen blk.length := by
  rw [b58Encode_length]
  have hz : leadingCount (0 : UInt8) blk ≤ blk.length := (List.takeWhile_sublist _).length_le
  set z := leadingCount (0 : UInt8) blk with hzdef
  have hv := toNatBE_lt_of_leading blk
  rw [← hzdef] at hv
  have hfit := xmr_fits ⟨blk.length - z, by omega⟩
  have hmono := xmr_lens_mono ⟨blk.length, by omega⟩ ⟨z, by omega⟩ hz
  simp only at hfit hmono
  have hd : (Nat.digits 58 (Bytes.toNatBE blk)).length ≤ xmrEncLen (blk.length - z) :=
    (Nat.digits_length_le_iff (by omega) _).mpr (lt_of_lt_of_le hv hfit)
  omega

theorem xmrEncBlk_eq (blk : Bytes) :
    xmrEncBlk blk = b58Encode btcAlphabet
      (List.replicate (xmrEncLen blk.length - (b58Encode btcAlphabet blk).length) 0 ++ blk) := by
  rw [b58Encode_zeros_append, btc_zero]; rfl

theorem xmrEncBlk_length (blk : Bytes) (hk : blk.length ≤ 8) :
    (xmrEncBlk blk).length = xmrEncLen blk.length := by
  have := b58Encode_length_le btcAlphabet blk hk
  unfold xmrEncBlk rjust
  simp only [List.length_append, List.length_replicate]
  unfold xmrEncLen at this ⊢
  omega

theorem xmrUnPad_append_right (a b : Bytes) : xmrUnPad (a ++ b) b.length = b := by
  unfold xmrUnPad pySlice pyBound
  simp only [List.length_append]
  have h1 : ¬ ((↑(a.length + b.length) : Int) - ↑b.length < 0) := by omega
  have h2 : ¬ ((↑(a.length + b.length) : Int) < 0) := by omega
  have h3 : ((↑(a.length + b.length) : Int) - ↑b.length).toNat = a.length := by omega
  have h4 : ¬ (a.length > a.length + b.length) := by omega
  simp only [h1, h2, h3, h4, if_false, Int.toNat_natCast, gt_iff_lt, Nat.lt_irrefl]
  rw [List.take_of_length_le (by simp), List.drop_left' rfl]

theorem xmrDecBlk_xmrEncBlk (lastDec : Nat) (blk : Bytes) (hk : blk.length ≤ 8)
    (hl : blk.length < 8 → lastDec = blk.length) (hne : blk ≠ []) :
    xmrDecBlk lastDec (xmrEncBlk blk) = .ok blk := by
  rw [xmrDecBlk_eq, xmrEncBlk_length blk hk]
  rw [xmrEncBlk_eq, b58_decode_encode btcAlphabet btcAlphabet_nodup btcAlphabet_length]
  simp only
  have hsel : (if xmrEncLen blk.length = 11 then 8 else lastDec) = blk.length := by
    by_cases h8 : blk.length = 8
    · rw [h8]; rfl
    · have hpos : 0 < blk.length := List.length_pos_iff.mpr hne
      have := xmr_len_lt ⟨blk.length, by omega⟩ hpos
      simp only at this
      rw [if_neg (by omega), hl (by omega)]
  rw [hsel, xmrUnPad_append_right]
  have hdw : ¬ ((List.replicate (xmrEncLen blk.length - (b58Encode btcAlphabet blk).length) (0 : UInt8)
      ++ blk).dropWhile (· == 0)).length > blk.length := by
    rw [List.dropWhile_append_of_pos (by intro a ha; simp [(List.mem_replicate.mp ha).2])]
    have := (List.dropWhile_sublist (· == (0 : UInt8)) (l := blk)).length_le
    omega
  rw [if_neg hdw]

/-! ### the whole string, block by block -/

theorem xmr_blocks (data : Bytes) :
    ∀ lastDec, (data.length % 8 ≠ 0 → lastDec = data.length % 8) →
      (xmrEncode data).length % 11 = xmrEncLen (data.length % 8) ∧
      (chunksOf 11 (xmrEncode data)).mapM (xmrDecBlk lastDec) = .ok (chunksOf 8 data) := by
  induction data using chunks_induction 8 (by omega) with
  | hnil =>
    intro lastDec _
    simp only [xmrEncode_eq, chunksOf_nil, List.flatMap_nil, List.length_nil, Nat.zero_mod,
      List.mapM_nil]
    exact ⟨rfl, rfl⟩
  | hlast l hne hlt =>
    intro lastDec hld
    have hpos : 0 < l.length := List.length_pos_iff.mpr hne
    have hmod : l.length % 8 = l.length := Nat.mod_eq_of_lt hlt
    have henc : xmrEncode l = xmrEncBlk l := by
      rw [xmrEncode_eq, chunksOf_of_length_le 8 l hne (by omega)]; simp
    have hlen := xmrEncBlk_length l (by omega)
    have hrange := xmr_len_lt ⟨l.length, hlt⟩ hpos
    simp only at hrange
    rw [henc, hmod, hlen]
    refine ⟨Nat.mod_eq_of_lt hrange.2, ?_⟩
    have hne' : xmrEncBlk l ≠ [] := by
      intro e; rw [e] at hlen; simp at hlen; omega
    rw [chunksOf_of_length_le 11 _ hne' (by omega), chunksOf_of_length_le 8 l hne (by omega)]
    rw [List.mapM_cons, xmrDecBlk_xmrEncBlk lastDec l (by omega) (fun _ => by rw [hld (by omega), hmod]) hne]
    rfl
  | hstep l1 l2 h8 ih =>
    intro lastDec hld
    have hlenmod : (l1 ++ l2).length % 8 = l2.length % 8 := by
      rw [List.length_append, h8]; omega
    rw [hlenmod] at hld ⊢
    obtain ⟨ih1, ih2⟩ := ih lastDec hld
    have hne1 : l1 ≠ [] := by intro e; rw [e] at h8; simp at h8
    have henc : xmrEncode (l1 ++ l2) = xmrEncBlk l1 ++ xmrEncode l2 := by
      rw [xmrEncode_eq, chunksOf_append_of_length 8 (by omega) l1 l2 h8, List.flatMap_cons,
        xmrEncode_eq]
    have hlen : (xmrEncBlk l1).length = 11 := by
      rw [xmrEncBlk_length l1 (by omega), h8]; rfl
    rw [henc]
    refine ⟨by rw [List.length_append, hlen, ← ih1]; omega, ?_⟩
    rw [chunksOf_append_of_length 11 (by omega) _ _ hlen,
      chunksOf_append_of_length 8 (by omega) l1 l2 h8, List.mapM_cons,
      xmrDecBlk_xmrEncBlk lastDec l1 (by omega) (fun h => by omega) hne1, ih2]
    rfl

theorem xmr_decode_encode (b : Bytes) : xmrDecode (xmrEncode b) = .ok b := by
  obtain ⟨h1, h2⟩ := xmr_blocks b (b.length % 8) (fun _ => rfl)
  rw [xmrDecode_eq, h1]
  have := xmr_idxOf ⟨b.length % 8, by omega⟩
  simp only at this
  rw [this]
  simp only [h2, bind, Except.bind, pure, Except.pure]
  rw [flatten_chunksOf 8 (by omega)]

/-! ### canonicity: every accepted string is the encoding of its payload -/

/-- a digit string of `xmrEncLen k - z` Base58 digits without leading zero needs at least `k - z` bytes -/
theorem xmr_lens_lower : ∀ k z : Fin 9, z.val < k.val →
    256 ^ (k.val - z.val - 1) ≤ 58 ^ (xmrEncLen k.val - z.val - 1) := by decide

theorem xmr_lens_ge : ∀ k : Fin 9, k.val ≤ xmrEncLen k.val := by decide

theorem leadingCount_dropWhile (b : Bytes) : leadingCount (0 : UInt8) (b.dropWhile (· == 0)) = 0 := by
  have := leadingCount_replicate_append (0 : UInt8) 0 _ (dropWhile_head_ne (0 : UInt8) b)
  simpa using this

theorem pow_digits_pred_le (v : Nat) (h : 0 < (Nat.digits 58 v).length) :
    58 ^ ((Nat.digits 58 v).length - 1) ≤ v := by
  have hv : v ≠ 0 := by rintro rfl; simp at h
  have := Nat.base_pow_length_digits_le 58 v (by omega) hv
  have hs : (Nat.digits 58 v).length = ((Nat.digits 58 v).length - 1) + 1 := by omega
  rw [hs, Nat.pow_succ] at this
  omega

theorem xmrDecBlk_canonical (lastDec k : Nat) (blk : List Char) (out : Bytes) (hk : k ≤ 8)
    (hL : blk.length = xmrEncLen k) (hsel : (if blk.length = 11 then 8 else lastDec) = k)
    (h : xmrDecBlk lastDec blk = .ok out) : out.length = k ∧ xmrEncBlk out = blk := by
  rw [xmrDecBlk_eq, hsel] at h
  cases hd : b58Decode btcAlphabet blk with
  | error e => rw [hd] at h; cases h
  | ok d =>
    rw [hd] at h
    simp only at h
    by_cases hgt : (d.dropWhile (· == 0)).length > k
    · rw [if_pos hgt] at h; cases h
    · rw [if_neg hgt] at h
      have hout : out = xmrUnPad d k := by cases h; rfl
      have henc := b58Encode_of_b58Decode btcAlphabet btcAlphabet_length hd
      have hsplit := split_leading (0 : UInt8) d
      set z := leadingCount (0 : UInt8) d with hz
      set d' := d.dropWhile (· == 0) with hd'
      set E := b58Encode btcAlphabet d' with hE
      have hblk : blk = List.replicate z '1' ++ E := by
        rw [← henc, hsplit, b58Encode_zeros_append, btc_zero]
      have hElen : E.length = (Nat.digits 58 (Bytes.toNatBE d')).length := by
        rw [hE, b58Encode_length, hd', leadingCount_dropWhile]; omega
      have hLz : xmrEncLen k = z + E.length := by
        rw [← hL, hblk]; simp
      have hkL := xmr_lens_ge ⟨k, by omega⟩
      simp only at hkL
      -- otherwise `d'` would be too small a number to have `xmrEncLen k - z` digits (`xmr_lens_lower`)
      have hzm : k ≤ z + d'.length := by
        by_contra hlt
        have hzk : z < k := by omega
        have hpos : 0 < (Nat.digits 58 (Bytes.toNatBE d')).length := by omega
        have h1 := pow_digits_pred_le _ hpos
        have h2 := toNatBE_lt d'
        have h3 := xmr_lens_lower ⟨k, by omega⟩ ⟨z, by omega⟩ hzk
        simp only at h3
        have h4 : 256 ^ d'.length ≤ 256 ^ (k - z - 1) := Nat.pow_le_pow_right (by omega) (by omega)
        have h5 : (Nat.digits 58 (Bytes.toNatBE d')).length - 1 = xmrEncLen k - z - 1 := by omega
        rw [h5] at h1
        omega
      have hdsplit : d = List.replicate (z - (k - d'.length)) 0 ++ (List.replicate (k - d'.length) 0 ++ d') := by
        rw [← List.append_assoc, ← List.replicate_add,
          show z - (k - d'.length) + (k - d'.length) = z by omega]
        exact hsplit
      have hlen : (List.replicate (k - d'.length) (0 : UInt8) ++ d').length = k := by
        simp; omega
      have hout' : out = List.replicate (k - d'.length) 0 ++ d' := by
        have := xmrUnPad_append_right (List.replicate (z - (k - d'.length)) 0)
          (List.replicate (k - d'.length) 0 ++ d')
        rwa [hlen, ← hdsplit, ← hout] at this
      refine ⟨by rw [hout', hlen], ?_⟩
      rw [hout']
      unfold xmrEncBlk rjust
      rw [hlen, b58Encode_zeros_append, btc_zero, ← hE, hblk, ← List.append_assoc,
        ← List.replicate_add]
      congr 2
      simp only [List.length_append, List.length_replicate]
      unfold xmrEncLen at hLz
      omega

theorem xmr_idxOf_inv {n i : Nat} (hn : n < 11) (h : xmrBlockEncLens.idxOf? n = some i) :
    i < 8 ∧ xmrEncLen i = n := by
  rw [List.idxOf?, List.findIdx?_eq_some_iff_getElem] at h
  obtain ⟨hlt, heq, _⟩ := h
  have hlen : xmrBlockEncLens.length = 9 := rfl
  have he : xmrEncLen i = n := by
    unfold xmrEncLen
    simp only [beq_iff_eq] at heq
    simp [List.getD_eq_getElem?_getD, hlt, heq]
  refine ⟨?_, he⟩
  by_contra h8
  have h8' : i = 8 := by omega
  subst h8'
  have : xmrEncLen 8 = 11 := rfl
  omega

theorem xmr_blocks_canonical (kl : Nat) (hkl : kl < 8) (s : List Char) :
    ∀ decs, s.length % 11 = xmrEncLen kl →
      (chunksOf 11 s).mapM (xmrDecBlk kl) = .ok decs → xmrEncode decs.flatten = s := by
  induction s using chunks_induction 11 (by omega) with
  | hnil =>
    intro decs _ h
    rw [chunksOf_nil, List.mapM_nil] at h
    have : decs = [] := by cases h; rfl
    subst this
    rfl
  | hlast l hne hlt =>
    intro decs hmod h
    have hpos : 0 < l.length := List.length_pos_iff.mpr hne
    rw [Nat.mod_eq_of_lt hlt] at hmod
    rw [chunksOf_of_length_le 11 l hne (by omega)] at h
    obtain ⟨out, bs, h1, h2, rfl⟩ := mapM_cons_ok h
    rw [List.mapM_nil] at h2
    have hbs : bs = [] := by cases h2; rfl
    subst hbs
    obtain ⟨hol, hoe⟩ := xmrDecBlk_canonical kl kl l out (by omega) hmod
      (by rw [if_neg (by omega)]) h1
    have hkl0 : kl ≠ 0 := by
      rintro rfl
      have : xmrEncLen 0 = 0 := rfl
      omega
    have hone : out ≠ [] := by
      intro e; rw [e] at hol; simp at hol; omega
    simp only [List.flatten_cons, List.flatten_nil, List.append_nil]
    rw [xmrEncode_eq, chunksOf_of_length_le 8 out hone (by omega)]
    simpa using hoe
  | hstep l1 l2 h11 ih =>
    intro decs hmod h
    have hmod2 : l2.length % 11 = xmrEncLen kl := by
      rw [List.length_append, h11] at hmod
      rwa [Nat.add_mod_left] at hmod
    rw [chunksOf_append_of_length 11 (by omega) l1 l2 h11] at h
    obtain ⟨out, bs, h1, h2, rfl⟩ := mapM_cons_ok h
    obtain ⟨hol, hoe⟩ := xmrDecBlk_canonical kl 8 l1 out (by omega) (by rw [h11]; rfl)
      (by rw [if_pos h11]) h1
    have ih' := ih bs hmod2 h2
    rw [List.flatten_cons, xmrEncode_eq, chunksOf_append_of_length 8 (by omega) out _ hol,
      List.flatMap_cons, ← xmrEncode_eq, ih', hoe]

theorem xmr_decode_canonical {s : List Char} {b : Bytes} (h : xmrDecode s = .ok b) :
    xmrEncode b = s := by
  rw [xmrDecode_eq] at h
  cases hi : xmrBlockEncLens.idxOf? (s.length % 11) with
  | none => rw [hi] at h; cases h
  | some kl =>
    rw [hi] at h
    simp only at h
    obtain ⟨hkl, hlen⟩ := xmr_idxOf_inv (Nat.mod_lt _ (by omega)) hi
    cases hm : (chunksOf 11 s).mapM (xmrDecBlk kl) with
    | error e => rw [hm] at h; cases h
    | ok decs =>
      rw [hm] at h
      have hb : b = decs.flatten := by cases h; rfl
      rw [hb]
      exact xmr_blocks_canonical kl hkl s decs hlen.symm hm

end BipVerif.Model
