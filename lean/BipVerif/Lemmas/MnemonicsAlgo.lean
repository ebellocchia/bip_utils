/-
Algorand mnemonics.  `algoConvertBits` (`AlgorandMnemonicUtils.ConvertBits`, regrouping of bit
groups through a little-endian accumulator) is fixed-width little-endian radix conversion:
`leDigits` of `valLE` (`algoConvertBits_eq`).  With it `algoEncode` in closed form, and
`algoDecode` as word-count check, language selection (`pickLang`), word look-up and `algoTail`,
which accepts exactly the index lists the encoder produces (`algoTail_ok_iff`).
-/
import BipVerif.Lemmas.Mnemonics

namespace BipVerif.Model
open BipVerif

/-- the `cnt` least significant base-`2^t` digits of `N`, least significant first -/
def leDigits (t : Nat) : (cnt : Nat) → (N : Nat) → List Nat
  | 0, _ => []
  | cnt + 1, N => N % 2 ^ t :: leDigits t cnt (N / 2 ^ t)

/-- value of a little-endian list of `f`-bit groups -/
def valLE (f : Nat) : List Nat → Nat
  | [] => 0
  | v :: rest => v + 2 ^ f * valLE f rest

@[simp] theorem leDigits_length (t cnt N : Nat) : (leDigits t cnt N).length = cnt := by
  induction cnt generalizing N with
  | zero => rfl
  | succ c ih => simp [leDigits, ih]

theorem leDigits_lt (t cnt N : Nat) : ∀ d ∈ leDigits t cnt N, d < 2 ^ t := by
  induction cnt generalizing N with
  | zero => intro d hd; cases hd
  | succ c ih =>
    intro d hd
    rw [leDigits, List.mem_cons] at hd
    rcases hd with rfl | hd
    · exact Nat.mod_lt _ (Nat.two_pow_pos t)
    · exact ih _ d hd

theorem leDigits_add (t q c N : Nat) :
    leDigits t (q + c) N = leDigits t q N ++ leDigits t c (N / 2 ^ (t * q)) := by
  induction q generalizing N with
  | zero => simp [leDigits]
  | succ q ih =>
    have e : q + 1 + c = (q + c) + 1 := by omega
    rw [e, leDigits, leDigits, ih, List.cons_append, Nat.div_div_eq_div_mul, ← Nat.pow_add]
    have : t + t * q = t * (q + 1) := by ring
    rw [this]

theorem leDigits_succ' (t c N : Nat) :
    leDigits t (c + 1) N = leDigits t c N ++ [N / 2 ^ (t * c) % 2 ^ t] := by
  rw [leDigits_add t c 1 N]; rfl

theorem leDigits_add_mul (t q a b : Nat) :
    leDigits t q (a + 2 ^ (t * q) * b) = leDigits t q a := by
  induction q generalizing a b with
  | zero => rfl
  | succ q ih =>
    have e : 2 ^ (t * (q + 1)) * b = 2 ^ t * (2 ^ (t * q) * b) := by
      rw [← Nat.mul_assoc, ← Nat.pow_add]; congr 2; ring
    rw [leDigits, leDigits, e, Nat.add_mul_mod_self_left,
      Nat.add_mul_div_left _ _ (Nat.two_pow_pos t), ih]

theorem valLE_lt (f : Nat) (data : List Nat) (h : ∀ v ∈ data, v < 2 ^ f) :
    valLE f data < 2 ^ (f * data.length) := by
  induction data with
  | nil => simp [valLE]
  | cons v rest ih =>
    have hv := h v (by simp)
    have hr := ih (fun x hx => h x (by simp [hx]))
    rw [valLE, List.length_cons]
    have e : 2 ^ (f * (rest.length + 1)) = 2 ^ f * 2 ^ (f * rest.length) := by
      rw [← Nat.pow_add]; congr 1; ring
    rw [e]
    calc v + 2 ^ f * valLE f rest < 2 ^ f + 2 ^ f * valLE f rest := by omega
      _ = 2 ^ f * (valLE f rest + 1) := by ring
      _ ≤ 2 ^ f * 2 ^ (f * rest.length) := Nat.mul_le_mul_left _ hr

theorem leDigits_valLE (t : Nat) (data : List Nat) (h : ∀ v ∈ data, v < 2 ^ t) :
    leDigits t data.length (valLE t data) = data := by
  induction data with
  | nil => rfl
  | cons v rest ih =>
    have hv := h v (by simp)
    rw [List.length_cons, leDigits, valLE, Nat.add_mul_mod_self_left, Nat.mod_eq_of_lt hv,
      Nat.add_mul_div_left _ _ (Nat.two_pow_pos t), Nat.div_eq_of_lt hv, Nat.zero_add,
      ih (fun x hx => h x (by simp [hx]))]

theorem valLE_leDigits (t cnt N : Nat) (h : N < 2 ^ (t * cnt)) : valLE t (leDigits t cnt N) = N := by
  induction cnt generalizing N with
  | zero => simp at h; subst h; rfl
  | succ c ih =>
    rw [leDigits, valLE, ih]
    · exact Nat.mod_add_div N (2 ^ t)
    · rw [Nat.div_lt_iff_lt_mul (Nat.two_pow_pos t), ← Nat.pow_add]
      have : t * c + t = t * (c + 1) := by ring
      rwa [this]

theorem valLE_leDigits_mod (t cnt N : Nat) :
    valLE t (leDigits t cnt N) = N % 2 ^ (t * cnt) := by
  have h := leDigits_add_mul t cnt (N % 2 ^ (t * cnt)) (N / 2 ^ (t * cnt))
  rw [Nat.mod_add_div] at h
  rw [h, valLE_leDigits _ _ _ (Nat.mod_lt _ (Nat.two_pow_pos _))]

theorem valLE_eq_ofDigits (t : Nat) (l : List Nat) : valLE t l = Nat.ofDigits (2 ^ t) l := by
  induction l with
  | nil => rfl
  | cons a r ih => rw [valLE, Nat.ofDigits_cons, ih]

theorem valLE_bytes (b : Bytes) : valLE 8 (b.map UInt8.toNat) = Bytes.toNatLE b := by
  induction b with
  | nil => rfl
  | cons x t ih => rw [List.map_cons, valLE, ih, toNatLE_cons]; norm_num

theorem leDigits_bytes (cnt N : Nat) : (leDigits 8 cnt N).map UInt8.ofNat = Bytes.ofNatLE cnt N := by
  induction cnt generalizing N with
  | zero => rfl
  | succ c ih => rw [leDigits, List.map_cons, Bytes.ofNatLE, ih]; norm_num

/-! `bits` pending bits and `n` more groups of `f` bits give `⌈(bits + f·n) / t⌉` output groups. -/

/-- at the end of the input the pending bits, if any, make one more group -/
theorem groupCount_nil {bits t : Nat} (h0 : bits ≠ 0) (hb : bits < t) : (bits + t - 1) / t = 1 := by
  have e : bits + t - 1 = (bits - 1) + t := by omega
  rw [e, Nat.add_div_right _ (by omega), Nat.div_eq_of_lt (by omega)]

/-- an input group that lets `q` output groups drain and leaves `b'` bits pending -/
theorem groupCount_cons {bits f t q b' : Nat} (ht : 0 < t) (hsplit : bits + f = t * q + b') (n : Nat) :
    (bits + f * (n + 1) + t - 1) / t = q + (b' + f * n + t - 1) / t := by
  have e : bits + f * (n + 1) + t - 1 = (b' + f * n + t - 1) + t * q := by
    rw [Nat.mul_succ]; omega
  rw [e, Nat.add_mul_div_left _ _ ht, Nat.add_comm]

theorem algo_drain_spec (t : Nat) (ht : 0 < t) :
    ∀ (fuel acc bits : Nat) (ret : List Nat), bits / t < fuel →
      algoConvertBits.drain t (2 ^ t - 1) fuel acc bits ret
        = (acc / 2 ^ (t * (bits / t)), bits % t, ret ++ leDigits t (bits / t) acc) := by
  intro fuel
  induction fuel with
  | zero => intro acc bits ret h; exact absurd h (Nat.not_lt_zero _)
  | succ fuel ih =>
    intro acc bits ret h
    rw [algoConvertBits.drain]
    by_cases hb : bits ≥ t ∧ t > 0
    · rw [if_pos hb]
      have hq : bits / t = (bits - t) / t + 1 := by
        have : bits = (bits - t) + t := by omega
        conv_lhs => rw [this]
        rw [Nat.add_div_right _ ht]
      have hlt : (bits - t) / t < fuel := by rw [hq] at h; exact Nat.lt_of_succ_lt_succ h
      rw [ih (acc >>> t) (bits - t) _ hlt, hq, leDigits, Nat.shiftRight_eq_div_pow,
        Nat.and_two_pow_sub_one_eq_mod, Nat.div_div_eq_div_mul, ← Nat.pow_add]
      have e1 : t + t * ((bits - t) / t) = t * ((bits - t) / t + 1) := by ring
      have e2 : (bits - t) % t = bits % t := by
        have : bits = (bits - t) + t := by omega
        conv_rhs => rw [this]
        rw [Nat.add_mod_right]
      rw [e1, e2, List.append_assoc]; rfl
    · rw [if_neg hb]
      have hlt : bits < t := by omega
      rw [Nat.div_eq_of_lt hlt, Nat.mod_eq_of_lt hlt]
      simp [leDigits]

theorem algo_go_spec (f t : Nat) (ht : 0 < t) :
    ∀ (data : List Nat) (acc bits : Nat) (ret : List Nat), bits < t → acc < 2 ^ bits →
      (∀ v ∈ data, v < 2 ^ f) →
      algoConvertBits.go f t (2 ^ t - 1) data acc bits ret
        = some (ret ++ leDigits t ((bits + f * data.length + t - 1) / t)
            (acc + 2 ^ bits * valLE f data)) := by
  intro data
  induction data with
  | nil =>
    intro acc bits ret hb hacc _
    rw [algoConvertBits.go]
    by_cases h0 : bits = 0
    · subst h0
      have : (0 + f * ([] : List Nat).length + t - 1) / t = 0 := by
        simp only [List.length_nil, Nat.mul_zero, Nat.zero_add]
        exact Nat.div_eq_of_lt (by omega)
      rw [this]; simp [leDigits]
    · have : (bits + f * ([] : List Nat).length + t - 1) / t = 1 := by
        simp only [List.length_nil, Nat.mul_zero, Nat.add_zero]
        exact groupCount_nil h0 hb
      rw [this, if_pos h0, Nat.and_two_pow_sub_one_eq_mod]
      simp [leDigits, valLE]
  | cons v rest ih =>
    intro acc bits ret hb hacc hdata
    have hv : v < 2 ^ f := hdata v (by simp)
    have hrest : ∀ x ∈ rest, x < 2 ^ f := fun x hx => hdata x (by simp [hx])
    rw [algoConvertBits.go]
    have hv0 : ¬ (v >>> f ≠ 0) := by
      rw [Nat.shiftRight_eq_div_pow, Nat.div_eq_of_lt hv]; simp
    rw [if_neg hv0]
    simp only []
    have hor : acc ||| v <<< bits = acc + v * 2 ^ bits := by
      rw [Nat.or_comm, ← Nat.shiftLeft_add_eq_or_of_lt hacc, Nat.shiftLeft_eq]; ring
    rw [hor, algo_drain_spec t ht _ _ _ _ (by
      have := Nat.div_le_self (bits + f) t; omega)]
    simp only []
    set q := (bits + f) / t with hq
    set b' := (bits + f) % t with hb'
    have hsplit : bits + f = t * q + b' := (Nat.div_add_mod (bits + f) t).symm
    have hacc' : acc + v * 2 ^ bits < 2 ^ (bits + f) := by
      rw [Nat.pow_add]
      calc acc + v * 2 ^ bits < 2 ^ bits + v * 2 ^ bits := by omega
        _ = (v + 1) * 2 ^ bits := by ring
        _ ≤ 2 ^ f * 2 ^ bits := Nat.mul_le_mul_right _ hv
        _ = 2 ^ bits * 2 ^ f := Nat.mul_comm _ _
    have hacc'' : (acc + v * 2 ^ bits) / 2 ^ (t * q) < 2 ^ b' := by
      rw [Nat.div_lt_iff_lt_mul (Nat.two_pow_pos _), ← Nat.pow_add, Nat.add_comm b', ← hsplit]
      exact hacc'
    rw [ih _ _ _ (Nat.mod_lt _ ht) hacc'' hrest]
    congr 1
    rw [List.append_assoc]
    congr 1
    -- the total value and the digit count split at the drain point
    have hN : acc + 2 ^ bits * valLE f (v :: rest)
        = (acc + v * 2 ^ bits) + 2 ^ (t * q) * (2 ^ b' * valLE f rest) := by
      rw [valLE, ← Nat.mul_assoc (2 ^ (t * q)), ← Nat.pow_add, ← hsplit, Nat.pow_add]; ring
    have hcnt : (bits + f * (v :: rest).length + t - 1) / t
        = q + (b' + f * rest.length + t - 1) / t := groupCount_cons ht hsplit rest.length
    rw [hN, hcnt, leDigits_add, leDigits_add_mul, Nat.add_mul_div_left _ _ (Nat.two_pow_pos _)]

/-- `ConvertBits` is little-endian radix conversion: the output is the
`⌈f·len/t⌉` least significant base-`2^t` digits of the little-endian value of the input -/
theorem algoConvertBits_eq (f t : Nat) (ht : 0 < t) (data : List Nat) (h : ∀ v ∈ data, v < 2 ^ f) :
    algoConvertBits data f t
      = some (leDigits t ((f * data.length + t - 1) / t) (valLE f data)) := by
  unfold algoConvertBits
  simp only [Nat.one_shiftLeft]
  rw [algo_go_spec f t ht data 0 0 [] ht (by simp) h]
  simp

theorem algo_go_none (f t m : Nat) (data : List Nat) (h : ∃ v ∈ data, 2 ^ f ≤ v) :
    ∀ (acc bits : Nat) (ret : List Nat), algoConvertBits.go f t m data acc bits ret = none := by
  induction data with
  | nil => obtain ⟨v, hv, _⟩ := h; cases hv
  | cons x rest ih =>
    intro acc bits ret
    rw [algoConvertBits.go]
    by_cases hx : x >>> f ≠ 0
    · rw [if_pos hx]
    · rw [if_neg hx]
      simp only []
      apply ih
      obtain ⟨v, hv, hle⟩ := h
      rcases List.mem_cons.mp hv with rfl | hv
      · exfalso; apply hx
        rw [Nat.shiftRight_eq_div_pow]
        exact Nat.pos_iff_ne_zero.mp (Nat.div_pos hle (Nat.two_pow_pos f))
      · exact ⟨v, hv, hle⟩

theorem algoConvertBits_bytes (b : Bytes) :
    algoConvertBits (b.map UInt8.toNat) 8 11
      = some (leDigits 11 ((8 * b.length + 10) / 11) (Bytes.toNatLE b)) := by
  rw [algoConvertBits_eq 8 11 (by omega) _ (by
    intro v hv
    obtain ⟨x, _, rfl⟩ := List.mem_map.mp hv
    exact x.toNat_lt), List.length_map, valLE_bytes]
  rfl

theorem algoChecksumIdx_eq (H : Bytes → Bytes) (ent : Bytes) (hH : 2 ≤ (H ent).length) :
    algoChecksumIdx H ent = .ok (Bytes.toNatLE ((H ent).take 2) % 2048) := by
  unfold algoChecksumIdx
  rw [algoConvertBits_bytes, List.length_take, Nat.min_eq_left hH]
  rfl

theorem algoChecksumIdx_lt {H : Bytes → Bytes} {ent : Bytes} {c : Nat}
    (hH : 2 ≤ (H ent).length) (h : algoChecksumIdx H ent = .ok c) : c < 2048 := by
  rw [algoChecksumIdx_eq H ent hH] at h; cases h; exact Nat.mod_lt _ (by omega)

theorem algoEncode_eq (H : Bytes → Bytes) (wl : List Nat) (ent : Bytes) (h : ent.length = 32) :
    algoEncode H wl ent = (algoChecksumIdx H ent >>= fun ck =>
      (leDigits 11 24 (Bytes.toNatLE ent) ++ [ck]).mapM (pyIdx wl)) := by
  unfold algoEncode
  simp only [h, ne_eq, not_true_eq_false, if_false, algoConvertBits_bytes]

theorem algoIdxs_lt (V : Nat) {c : Nat} (hc : c < 2048) : ∀ i ∈ leDigits 11 24 V ++ [c], i < 2048 := by
  intro i hi
  rcases List.mem_append.mp hi with hi | hi
  · exact leDigits_lt 11 24 V i hi
  · rw [List.mem_singleton.mp hi]; exact hc

theorem algoEncode_ok (H : Bytes → Bytes) (wl : List Nat) (hlen : wl.length = 2048) (ent : Bytes)
    (h : ent.length = 32) (hH : 2 ≤ (H ent).length) :
    algoEncode H wl ent = .ok ((leDigits 11 24 (Bytes.toNatLE ent)
      ++ [Bytes.toNatLE ((H ent).take 2) % 2048]).map (fun i => wl.getD i 0)) := by
  rw [algoEncode_eq H wl ent h, algoChecksumIdx_eq H ent hH, ok_bind]
  exact mapM_pyIdx wl _ (by rw [hlen]; exact algoIdxs_lt _ (Nat.mod_lt _ (by decide)))

/-- language selection of `algoDecode` / `electrumV2DecodeIdx` -/
def pickLang (langs : List (List Nat)) (lang : Option (List Nat)) (ws : List Nat) : R (List Nat) :=
  match lang with
  | some wl => pure wl
  | none => findLanguage langs ws

theorem pickLang_some (langs : List (List Nat)) (wl ws : List Nat) :
    pickLang langs (some wl) ws = .ok wl := rfl

theorem pickLang_error {langs : List (List Nat)} {lang : Option (List Nat)} {ws : List Nat} {e : Err}
    (h : pickLang langs lang ws = .error e) : e = .value := by
  cases lang with
  | some wl => cases h
  | none => exact findLanguage_error langs ws e h

theorem pickLang_ok {langs : List (List Nat)} {lang : Option (List Nat)} {ws wl : List Nat}
    (h : pickLang langs lang ws = .ok wl) : lang = some wl ∨ wl ∈ langs := by
  cases lang with
  | some l => cases h; exact .inl rfl
  | none => exact .inr (findLanguage_mem langs ws wl h)

/-- `algoDecode` after word-count check, language selection and word look-up -/
def algoTail (H : Bytes → Bytes) (idxs : List Nat) : R Bytes :=
  match algoConvertBits (dropLast idxs 1) 11 8 with
  | none => throw .assert
  | some el => do
    if el.getLast? ≠ some 0 then throw .value
    let ent : Bytes := (dropLast el 1).map UInt8.ofNat
    let ck ← algoChecksumIdx H ent
    if some ck ≠ idxs.getLast? then throw .checksum
    pure ent

theorem algoDecode_eq (H : Bytes → Bytes) (langs : List (List Nat)) (lang : Option (List Nat))
    (ws : List Nat) :
    algoDecode H langs lang ws = if ws.length ≠ 25 then .error .value else
      (pickLang langs lang ws >>= fun wl => ws.mapM (wordIdx wl) >>= algoTail H) := by
  unfold algoDecode
  by_cases h : ws.length ≠ 25
  · simp only [if_pos h]; rfl
  · simp only [if_neg h]
    cases lang <;> rfl

theorem algoTail_eq (H : Bytes → Bytes) (idxs : List Nat) (hl : idxs.length = 25)
    (hlt : ∀ i ∈ idxs, i < 2048) :
    algoTail H idxs =
      if 2 ^ 256 ≤ valLE 11 (dropLast idxs 1) then .error .value
      else algoChecksumIdx H (Bytes.ofNatLE 32 (valLE 11 (dropLast idxs 1))) >>= fun ck =>
        if some ck ≠ idxs.getLast? then .error .checksum
        else .ok (Bytes.ofNatLE 32 (valLE 11 (dropLast idxs 1))) := by
  have hdl : (dropLast idxs 1).length = 24 := by unfold dropLast; rw [List.length_take]; omega
  have hdlt : ∀ i ∈ dropLast idxs 1, i < 2 ^ 11 := by
    intro i hi; unfold dropLast at hi; exact hlt i (List.mem_of_mem_take hi)
  have hV := valLE_lt 11 _ hdlt
  rw [hdl] at hV
  unfold algoTail
  rw [algoConvertBits_eq 11 8 (by omega) _ hdlt, hdl]
  simp only []
  set V := valLE 11 (dropLast idxs 1) with hVdef
  have hcnt : (11 * 24 + 8 - 1) / 8 = 32 + 1 := by norm_num
  rw [hcnt, leDigits_succ', dropLast_append_of_length _ _ 1 rfl, leDigits_bytes]
  have hlast : (leDigits 8 32 V ++ [V / 2 ^ (8 * 32) % 2 ^ 8]).getLast? = some (V / 2 ^ 256 % 256) :=
    List.getLast?_concat
  rw [hlast]
  have hq : V / 2 ^ 256 < 256 := by
    rw [Nat.div_lt_iff_lt_mul (Nat.two_pow_pos _)]
    calc V < 2 ^ (11 * 24) := hV
      _ = 2 ^ 8 * 2 ^ 256 := by rw [← Nat.pow_add]
      _ = 256 * 2 ^ 256 := by norm_num
  rw [Nat.mod_eq_of_lt hq]
  by_cases hbig : 2 ^ 256 ≤ V
  · have : V / 2 ^ 256 ≠ 0 := Nat.pos_iff_ne_zero.mp (Nat.div_pos hbig (Nat.two_pow_pos _))
    rw [if_pos hbig, if_pos (by simpa using this)]
    rfl
  · have : V / 2 ^ 256 = 0 := Nat.div_eq_of_lt (by omega)
    rw [if_neg hbig, this, if_neg (by simp)]
    rfl

/-- the decoder tail accepts exactly the index lists the encoder produces: the 24 base-2048
digits of a 32-byte entropy followed by its checksum index.  (24 digits carry 264 bits; the check
that the 33rd byte is zero is what bounds the value by `2^256`.) -/
theorem algoTail_ok_iff (H : Bytes → Bytes) (hH : ∀ x, 2 ≤ (H x).length) (idxs : List Nat)
    (hl : idxs.length = 25) (hlt : ∀ i ∈ idxs, i < 2048) (e : Bytes) :
    algoTail H idxs = .ok e ↔
      e.length = 32
        ∧ idxs = leDigits 11 24 (Bytes.toNatLE e) ++ [Bytes.toNatLE ((H e).take 2) % 2048] := by
  have h256 : (256 : Nat) ^ 32 = 2 ^ 256 := by norm_num
  rw [algoTail_eq H idxs hl hlt]
  constructor
  · intro h
    have hdl : (dropLast idxs 1).length = 24 := by unfold dropLast; rw [List.length_take]; omega
    have hdlt : ∀ i ∈ dropLast idxs 1, i < 2 ^ 11 := fun i hi => by
      unfold dropLast at hi; exact hlt i (List.mem_of_mem_take hi)
    split at h
    · cases h
    rename_i hbig
    rw [algoChecksumIdx_eq H _ (hH _), ok_bind] at h
    split at h
    · cases h
    rename_i hck
    cases h
    refine ⟨length_ofNatLE 32 _, ?_⟩
    rw [toNatLE_ofNatLE (by rw [h256]; omega), ← hdl, leDigits_valLE 11 _ hdlt]
    exact (dropLast_append_of_getLast? idxs _ (not_not.mp hck).symm).symm
  · rintro ⟨he, rfl⟩
    have hV : Bytes.toNatLE e < 2 ^ 256 := by
      have := toNatLE_lt e
      rwa [he, h256] at this
    have hent : Bytes.ofNatLE 32 (Bytes.toNatLE e) = e := by rw [← he]; exact ofNatLE_toNatLE e
    rw [dropLast_append_of_length _ _ 1 rfl,
      valLE_leDigits 11 24 _ (by
        apply Nat.lt_of_lt_of_le hV
        apply Nat.pow_le_pow_right <;> omega),
      if_neg (Nat.not_le.mpr hV), hent, algoChecksumIdx_eq H e (hH e), ok_bind,
      List.getLast?_concat, if_neg (fun h => h rfl)]

theorem algoTail_error {H : Bytes → Bytes} (hH : ∀ x, 2 ≤ (H x).length) {idxs : List Nat}
    (hl : idxs.length = 25) (hlt : ∀ i ∈ idxs, i < 2048) {e : Err}
    (h : algoTail H idxs = .error e) : e = .value ∨ e = .checksum := by
  rw [algoTail_eq H idxs hl hlt] at h
  split at h
  · cases h; exact Or.inl rfl
  · rw [algoChecksumIdx_eq H _ (hH _), ok_bind] at h
    split at h
    · cases h; exact Or.inr rfl
    · cases h

end BipVerif.Model
