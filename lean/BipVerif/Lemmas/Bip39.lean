/-
BIP-39 mnemonic codec: the model's bit-string manipulations (`bin(...)`, `zfill`, slices,
`int(s, 2)`) are arithmetic on the integer `entropy ‖ checksum`; encode and decode are mutually
inverse, the decoder accepts exactly the sentences of the BIP-39 definition and its errors are
`ValueError` / `MnemonicChecksumError` only.
-/
import Mathlib.Tactic.Ring
import BipVerif.Lemmas.IntBytes
import BipVerif.Lemmas.Chunks
import BipVerif.Lemmas.ConvertBits
import BipVerif.Lemmas.WordList

namespace BipVerif.Model
open BipVerif

theorem pow_2048 (n : Nat) : 2048 ^ n = 2 ^ (11 * n) := by
  rw [Nat.pow_mul]

theorem pow_256 (n : Nat) : 256 ^ n = 2 ^ (8 * n) := by
  rw [Nat.pow_mul]

theorem ofBinStr_eq_ofBitsBE (l : List Bool) : ofBinStr l = ofBitsBE l := by
  unfold ofBinStr ofBitsBE
  congr 1
  funext a b
  cases b <;> simp <;> omega

theorem ofBinStr_lt (l : List Bool) : ofBinStr l < 2 ^ l.length := by
  rw [ofBinStr_eq_ofBitsBE]; exact ofBitsBE_lt l

theorem ofBinStr_bitsBE (w n : Nat) : ofBinStr (bitsBE w n) = n % 2 ^ w := by
  rw [ofBinStr_eq_ofBitsBE]; exact ofBitsBE_bitsBE w n

theorem ofBinStr_bitsBE_of_lt {w n : Nat} (h : n < 2 ^ w) : ofBinStr (bitsBE w n) = n := by
  rw [ofBinStr_bitsBE, Nat.mod_eq_of_lt h]

theorem bitsBE_ofBinStr (l : List Bool) : bitsBE l.length (ofBinStr l) = l := by
  rw [ofBinStr_eq_ofBitsBE]; exact bitsBE_ofBitsBE l

theorem bits_ext {a b : List Bool} (hl : a.length = b.length) (hv : ofBinStr a = ofBinStr b) :
    a = b := by
  rw [← bitsBE_ofBinStr a, ← bitsBE_ofBinStr b, hl, hv]

theorem eq_bitsBE {l : List Bool} {w v : Nat} (hl : l.length = w) (hv : ofBinStr l = v) :
    l = bitsBE w v := by
  rw [← bitsBE_ofBinStr l, hl, hv]

/-- `bin(v)[2:].zfill(w)` for a value that fits in `w ≥ 1` bits -/
theorem toBinStr_eq_bitsBE {v w : Nat} (hw : 1 ≤ w) (h : v < 2 ^ w) : toBinStr v w = bitsBE w v :=
  eq_bitsBE (toBinStr_length_of_lt hw h) (ofBinStr_toBinStr v w)

theorem ofBinStr_take (l : List Bool) (k : Nat) :
    ofBinStr (l.take k) = ofBinStr l / 2 ^ (l.length - k) := by
  have h := ofBinStr_append (l.take k) (l.drop k)
  rw [List.take_append_drop, List.length_drop] at h
  have hlt := ofBinStr_lt (l.drop k)
  rw [List.length_drop] at hlt
  exact (div_mod_of_eq h hlt).1.symm

theorem ofBinStr_drop (l : List Bool) (k : Nat) :
    ofBinStr (l.drop k) = ofBinStr l % 2 ^ (l.length - k) := by
  have h := ofBinStr_append (l.take k) (l.drop k)
  rw [List.take_append_drop, List.length_drop] at h
  have hlt := ofBinStr_lt (l.drop k)
  rw [List.length_drop] at hlt
  exact (div_mod_of_eq h hlt).2.symm

theorem ofBinStr_drop_take (l : List Bool) (a b : Nat) (h : a + b ≤ l.length) :
    ofBinStr ((l.drop a).take b) = ofBinStr l / 2 ^ (l.length - a - b) % 2 ^ b := by
  rw [ofBinStr_take, ofBinStr_drop, List.length_drop]
  have : 2 ^ (l.length - a) = 2 ^ (l.length - a - b) * 2 ^ b := by
    rw [← Nat.pow_add]; congr 1; omega
  rw [this, Nat.mod_mul_right_div_self]

theorem ofBinStr_dropLast (l : List Bool) (k : Nat) (h : k ≤ l.length) :
    ofBinStr (dropLast l k) = ofBinStr l / 2 ^ k := by
  unfold dropLast; rw [ofBinStr_take]; congr 2; omega

theorem ofBinStr_takeLast (l : List Bool) (k : Nat) (h : k ≤ l.length) :
    ofBinStr (takeLast l k) = ofBinStr l % 2 ^ k := by
  unfold takeLast; rw [ofBinStr_drop]; congr 2; omega

theorem bitsBE_append (a wa b wb : Nat) (hb : b < 2 ^ wb) :
    bitsBE wa a ++ bitsBE wb b = bitsBE (wa + wb) (a % 2 ^ wa * 2 ^ wb + b) := by
  apply eq_bitsBE
  · simp
  · rw [ofBinStr_append, ofBinStr_bitsBE, ofBinStr_bitsBE, length_bitsBE, Nat.mod_eq_of_lt hb]

theorem bytesToBits_eq (b : Bytes) (hb : 1 ≤ b.length) :
    bytesToBits b = bitsBE (b.length * 8) (Bytes.toNatBE b) := by
  unfold bytesToBits
  apply toBinStr_eq_bitsBE (by omega)
  have := toNatBE_lt b
  rwa [pow_256, Nat.mul_comm] at this

theorem hashBits_eq (h cs : Nat) (hh : h < 2 ^ 256) (hcs : cs ≤ 256) :
    (toBinStr h 256).take cs = bitsBE cs (h / 2 ^ (256 - cs)) := by
  have hl : (toBinStr h 256).length = 256 := toBinStr_length_of_lt (by omega) hh
  apply eq_bitsBE
  · rw [List.length_take, hl]; omega
  · rw [ofBinStr_take, hl, ofBinStr_toBinStr]

theorem hash_lt (H : Bytes → Bytes) (hH : ∀ x, (H x).length = 32) (x : Bytes) :
    Bytes.toNatBE (H x) < 2 ^ 256 := by
  have := toNatBE_lt (H x)
  rwa [hH, pow_256] at this

theorem hash_div_lt (H : Bytes → Bytes) (hH : ∀ x, (H x).length = 32) (x : Bytes) (cs : Nat)
    (hcs : cs ≤ 256) : Bytes.toNatBE (H x) / 2 ^ (256 - cs) < 2 ^ cs := by
  rw [Nat.div_lt_iff_lt_mul (Nat.pow_pos (by omega)), ← Nat.pow_add]
  have : cs + (256 - cs) = 256 := by omega
  rw [this]; exact hash_lt H hH x

/-- the integer `entropy ‖ checksum` of the BIP-39 definition: the entropy followed by the first
`len/4` bits of its hash. -/
def bip39Int (H : Bytes → Bytes) (ent : Bytes) : Nat :=
  Bytes.toNatBE ent * 2 ^ (ent.length / 4) + Bytes.toNatBE (H ent) / 2 ^ (256 - ent.length / 4)

def bip39WordCount (ent : Bytes) : Nat := (ent.length * 8 + ent.length / 4) / 11

/-- the `i`-th 11-bit group (most significant first) of `bip39Int` -/
def bip39Group (H : Bytes → Bytes) (ent : Bytes) (i : Nat) : Nat :=
  bip39Int H ent / 2 ^ (11 * (bip39WordCount ent - 1 - i)) % 2048

theorem bip39Group_lt (H : Bytes → Bytes) (ent : Bytes) (i : Nat) : bip39Group H ent i < 2048 :=
  Nat.mod_lt _ (by omega)

/-! `cs` checksum bits go with `4·cs` entropy bytes, `33·cs` bits in all and `3·cs` words; the
decoder recovers `cs` from the word count as `n·11/33`. -/

theorem bip39WordCount_of_length {ent : Bytes} {cs : Nat} (h : ent.length = 4 * cs) :
    bip39WordCount ent = 3 * cs := by
  unfold bip39WordCount; omega

theorem ckLen_of_count {n cs : Nat} (h : n = 3 * cs) : n * 11 / 33 = cs := by omega

/-- the encoder's bit string in normal form -/
theorem encBits_eq (H : Bytes → Bytes) (hH : ∀ x, (H x).length = 32) (ent : Bytes)
    (h1 : 1 ≤ ent.length) (h2 : ent.length / 4 ≤ 256) :
    bytesToBits ent ++ (toBinStr (Bytes.toNatBE (H ent)) 256).take (ent.length / 4)
      = bitsBE (ent.length * 8 + ent.length / 4) (bip39Int H ent) := by
  rw [bytesToBits_eq ent h1, hashBits_eq _ _ (hash_lt H hH ent) h2,
    bitsBE_append _ _ _ _ (hash_div_lt H hH ent _ h2)]
  have := toNatBE_lt ent
  rw [pow_256, Nat.mul_comm] at this
  rw [Nat.mod_eq_of_lt this]; rfl

theorem bip39Int_lt (H : Bytes → Bytes) (hH : ∀ x, (H x).length = 32) (ent : Bytes)
    (h2 : ent.length / 4 ≤ 256) : bip39Int H ent < 2 ^ (ent.length * 8 + ent.length / 4) := by
  unfold bip39Int
  have h1 := toNatBE_lt ent
  rw [pow_256, Nat.mul_comm] at h1
  rw [Nat.pow_add]
  exact mul_add_lt_mul h1 (hash_div_lt H hH ent _ h2)

theorem entLens_iff (n : Nat) :
    bip39EntLens.contains n = true ↔ ∃ cs, 4 ≤ cs ∧ cs ≤ 8 ∧ n = 4 * cs := by
  constructor
  · intro h
    have : n = 16 ∨ n = 20 ∨ n = 24 ∨ n = 28 ∨ n = 32 := by simpa [bip39EntLens] using h
    rcases this with rfl | rfl | rfl | rfl | rfl
    exacts [⟨4, by decide⟩, ⟨5, by decide⟩, ⟨6, by decide⟩, ⟨7, by decide⟩, ⟨8, by decide⟩]
  · rintro ⟨cs, h1, h2, rfl⟩
    have : cs = 4 ∨ cs = 5 ∨ cs = 6 ∨ cs = 7 ∨ cs = 8 := by omega
    rcases this with rfl | rfl | rfl | rfl | rfl <;> decide

theorem wordNums_iff (n : Nat) :
    bip39WordNums.contains n = true ↔ ∃ cs, 4 ≤ cs ∧ cs ≤ 8 ∧ n = 3 * cs := by
  constructor
  · intro h
    have : n = 12 ∨ n = 15 ∨ n = 18 ∨ n = 21 ∨ n = 24 := by simpa [bip39WordNums] using h
    rcases this with rfl | rfl | rfl | rfl | rfl
    exacts [⟨4, by decide⟩, ⟨5, by decide⟩, ⟨6, by decide⟩, ⟨7, by decide⟩, ⟨8, by decide⟩]
  · rintro ⟨cs, h1, h2, rfl⟩
    have : cs = 4 ∨ cs = 5 ∨ cs = 6 ∨ cs = 7 ∨ cs = 8 := by omega
    rcases this with rfl | rfl | rfl | rfl | rfl <;> decide

/-- `Bip39MnemonicEncoder.Encode` computes the BIP-39 definition: for an admissible entropy the
sentence is `wl[g 0], …, wl[g (n-1)]`, the 11-bit groups of `entropy ‖ checksum`. -/
theorem bip39Encode_eq (H : Bytes → Bytes) (hH : ∀ x, (H x).length = 32) (wl : List Nat)
    (hwl : 2048 ≤ wl.length) (ent : Bytes) (hlen : bip39EntLens.contains ent.length = true) :
    bip39Encode H wl ent
      = .ok ((List.range (bip39WordCount ent)).map fun i => wl.getD (bip39Group H ent i) 0) := by
  obtain ⟨cs, hc1, hc2, hl⟩ := (entLens_iff _).mp hlen
  have hbits : ent.length * 8 + ent.length / 4 = 33 * cs := by omega
  have hwc := bip39WordCount_of_length hl
  unfold bip39Encode
  simp only [hlen, Bool.not_true, Bool.false_eq_true, if_false]
  rw [encBits_eq H hH ent (by omega) (by omega), length_bitsBE]
  apply mapM_ok_of_forall
  intro i hi
  have hi' : i < 3 * cs := by rw [← hwc]; exact List.mem_range.mp hi
  have hv : ofBinStr (List.take 11 (List.drop (i * 11)
      (bitsBE (ent.length * 8 + ent.length / 4) (bip39Int H ent)))) = bip39Group H ent i := by
    rw [ofBinStr_drop_take _ _ _ (by rw [length_bitsBE, hbits]; omega), length_bitsBE,
      ofBinStr_bitsBE_of_lt (bip39Int_lt H hH ent (by omega))]
    unfold bip39Group
    rw [hwc, hbits]
    congr 3
    omega
  rw [hv]
  exact pyIdx_getD wl _ (by have := bip39Group_lt H ent i; omega)

theorem bip39Encode_error (H : Bytes → Bytes) (wl : List Nat) (ent : Bytes)
    (hlen : bip39EntLens.contains ent.length = false) : bip39Encode H wl ent = .error .value := by
  unfold bip39Encode
  simp only [hlen, Bool.not_false, if_true]
  rfl

theorem bip39WordCount_eq {ent : Bytes} (hlen : bip39EntLens.contains ent.length = true) :
    bip39WordCount ent = 3 * (ent.length / 4) := by
  obtain ⟨cs, -, -, hl⟩ := (entLens_iff _).mp hlen
  rw [bip39WordCount_of_length hl, hl, Nat.mul_div_cancel_left _ (by decide)]

theorem flatMap_toBinStr_eq (ds : List Nat) (h : ∀ d ∈ ds, d < 2048) :
    ds.flatMap (fun i => toBinStr i 11) = bitsBE (11 * ds.length) (ofDigitsBE 2048 ds) := by
  induction ds with
  | nil => rfl
  | cons d t ih =>
    have hd : d < 2 ^ 11 := h d (by simp)
    have ht : ∀ x ∈ t, x < 2048 := fun x hx => h x (by simp [hx])
    have hlt := ofDigitsBE_lt 2048 t ht
    rw [pow_2048] at hlt
    rw [List.flatMap_cons, ih ht, toBinStr_eq_bitsBE (by omega) hd, bitsBE_append _ _ _ _ hlt,
      Nat.mod_eq_of_lt hd, ofDigitsBE_cons, pow_2048, List.length_cons]
    congr 1
    omega

/-- the big integer of the 11-bit word indexes of a sentence -/
def bip39B (wl ws : List Nat) : Nat := ofDigitsBE 2048 (ws.map (wl.idxOf ·))

theorem idxOf_lt_2048 {wl : List Nat} (hwl : wl.length ≤ 2048) {ws : List Nat}
    (hall : ∀ w ∈ ws, w ∈ wl) : ∀ d ∈ ws.map (wl.idxOf ·), d < 2048 :=
  fun d hd => Nat.lt_of_lt_of_le (idxOf_lt_of_mem_map hall d hd) hwl

theorem bip39B_lt {wl : List Nat} (hwl : wl.length ≤ 2048) {ws : List Nat}
    (hall : ∀ w ∈ ws, w ∈ wl) : bip39B wl ws < 2 ^ (11 * ws.length) := by
  have := ofDigitsBE_lt 2048 _ (idxOf_lt_2048 hwl hall)
  rwa [pow_2048, List.length_map] at this

theorem bip39B_lt_of_count {wl : List Nat} (hwl : wl.length ≤ 2048) {ws : List Nat}
    (hall : ∀ w ∈ ws, w ∈ wl) {cs : Nat} (hn : ws.length = 3 * cs) :
    bip39B wl ws < 2 ^ (33 * cs) := by
  have := bip39B_lt hwl hall
  rwa [hn, ← Nat.mul_assoc] at this

theorem bip39B_lt_bytes {wl : List Nat} (hwl : wl.length ≤ 2048) {ws : List Nat}
    (hall : ∀ w ∈ ws, w ∈ wl) : bip39B wl ws < 256 ^ ((11 * ws.length + 7) / 8) := by
  rw [pow_256]
  exact Nat.lt_of_lt_of_le (bip39B_lt hwl hall) (Nat.pow_le_pow_right (by omega) (by omega))

/-- without its last `cs` bits a string of `33·cs` bits fits `4·cs` bytes -/
theorem div_lt_of_lt_33 {B cs : Nat} (hB : B < 2 ^ (33 * cs)) : B / 2 ^ cs < 256 ^ (cs * 4) := by
  rw [pow_256, Nat.div_lt_iff_lt_mul (Nat.pow_pos (by omega)), ← Nat.pow_add]
  have : 8 * (cs * 4) + cs = 33 * cs := by omega
  rwa [this]

/-- the number of bytes `DecodeWithChecksum` pads to -/
theorem pad8_div (m : Nat) : (if m % 8 = 0 then m else m + (8 - m % 8)) / 8 = (m + 7) / 8 := by
  split <;> omega

theorem bitsBE_inj {w a b : Nat} (ha : a < 2 ^ w) (hb : b < 2 ^ w) (h : bitsBE w a = bitsBE w b) :
    a = b := by
  have := congrArg ofBinStr h
  rwa [ofBinStr_bitsBE_of_lt ha, ofBinStr_bitsBE_of_lt hb] at this

/-- the part of `__DecodeAndVerifyBinaryStr` after the word lookup, on a bit string in normal form:
split off the last `cs` bits, rebuild the entropy bytes, compare the checksum bits. -/
theorem decodeTail_eq (H : Bytes → Bytes) (hH : ∀ x, (H x).length = 32) (cs B : Nat) (hcs : cs ≤ 256)
    (hB : B < 2 ^ (33 * cs)) :
    let bits := bitsBE (33 * cs) B
    let e := Bytes.ofNatBE (cs * 4) (B / 2 ^ cs)
    (toBytesBE (ofBinStr (dropLast bits cs)) (cs * 4) = .ok e)
    ∧ ((takeLast bits cs != (toBinStr (Bytes.toNatBE (H e)) 256).take cs) = true
        ↔ B % 2 ^ cs ≠ Bytes.toNatBE (H e) / 2 ^ (256 - cs)) := by
  intro bits e
  have hlen : bits.length = 33 * cs := length_bitsBE _ _
  have hval : ofBinStr bits = B := ofBinStr_bitsBE_of_lt hB
  constructor
  · rw [ofBinStr_dropLast _ _ (by omega), hval]
    exact toBytesBE_eq_ofNatBE (div_lt_of_lt_33 hB)
  · have h1 : takeLast bits cs = bitsBE cs (B % 2 ^ cs) := by
      apply eq_bitsBE
      · unfold takeLast; rw [List.length_drop]; omega
      · rw [ofBinStr_takeLast _ _ (by omega), hval]
    rw [h1, hashBits_eq _ _ (hash_lt H hH e) hcs, bne_iff_ne]
    constructor
    · intro h heq; exact h (by rw [heq])
    · intro h heq
      exact h (bitsBE_inj (Nat.mod_lt _ (Nat.pow_pos (by omega))) (hash_div_lt H hH e cs hcs) heq)

theorem bip39DecodeBits_count_error (H : Bytes → Bytes) (langs : List (List Nat))
    (lang : Option (List Nat)) (ws : List Nat) (h : bip39WordNums.contains ws.length = false) :
    bip39DecodeBits H langs lang ws = .error .value := by
  unfold bip39DecodeBits
  simp only [h, Bool.not_false, if_true]
  rfl

theorem bip39DecodeBits_word_error (H : Bytes → Bytes) (langs : List (List Nat)) (wl ws : List Nat)
    (h : ∃ w ∈ ws, w ∉ wl) : bip39DecodeBits H langs (some wl) ws = .error .value := by
  by_cases hcount : bip39WordNums.contains ws.length = true
  · unfold bip39DecodeBits
    simp only [hcount, Bool.not_true, Bool.false_eq_true, if_false, pure_bind, mapM_wordIdx_of_not_mem _ _ h]
    rfl
  · exact bip39DecodeBits_count_error H langs _ ws (Bool.eq_false_iff.mpr hcount)

/-- the arithmetic specification of `Bip39MnemonicDecoder.Decode` for an explicit language -/
def bip39DecodeSpec (H : Bytes → Bytes) (wl ws : List Nat) : R Bytes :=
  if bip39WordNums.contains ws.length = true ∧ ∀ w ∈ ws, w ∈ wl then
    let B := bip39B wl ws
    let cs := ws.length * 11 / 33
    let e := Bytes.ofNatBE (cs * 4) (B / 2 ^ cs)
    if B % 2 ^ cs = Bytes.toNatBE (H e) / 2 ^ (256 - cs) then .ok e else .error .checksum
  else .error .value

theorem bip39DecodeSpec_error_kind (H : Bytes → Bytes) (wl ws : List Nat) (e : Err)
    (h : bip39DecodeSpec H wl ws = .error e) : e = .value ∨ e = .checksum := by
  unfold bip39DecodeSpec at h
  split at h
  · simp only at h
    split at h
    · cases h
    · cases h; exact Or.inr rfl
  · cases h; exact Or.inl rfl

theorem bip39DecodeSpec_ok_iff (H : Bytes → Bytes) (wl : List Nat) (hwl : wl.length ≤ 2048)
    (ws : List Nat) (e : Bytes) :
    bip39DecodeSpec H wl ws = .ok e ↔
      bip39WordNums.contains ws.length = true ∧ (∀ w ∈ ws, w ∈ wl)
      ∧ e.length = ws.length * 11 / 33 * 4
      ∧ Bytes.toNatBE e = bip39B wl ws / 2 ^ (ws.length * 11 / 33)
      ∧ bip39B wl ws % 2 ^ (ws.length * 11 / 33)
          = Bytes.toNatBE (H e) / 2 ^ (256 - ws.length * 11 / 33) := by
  unfold bip39DecodeSpec
  by_cases hok : bip39WordNums.contains ws.length = true ∧ ∀ w ∈ ws, w ∈ wl
  · obtain ⟨hcount, hall⟩ := hok
    obtain ⟨cs, hc1, hc2, hn⟩ := (wordNums_iff _).mp hcount
    have hfit := div_lt_of_lt_33 (bip39B_lt_of_count hwl hall hn)
    simp only [if_pos (And.intro hcount hall), ckLen_of_count hn]
    constructor
    · intro h
      split at h
      · rename_i hc
        have he := (Except.ok.inj h).symm
        subst he
        exact ⟨hcount, hall, length_ofNatBE _ _, toNatBE_ofNatBE hfit, hc⟩
      · cases h
    · rintro ⟨-, -, h1, h2, h3⟩
      have he : Bytes.ofNatBE (cs * 4) (bip39B wl ws / 2 ^ cs) = e :=
        toNatBE_inj_of_length_eq (by rw [length_ofNatBE, h1]) (by rw [toNatBE_ofNatBE hfit, h2])
      rw [he, if_pos h3]
  · rw [if_neg hok]
    exact ⟨nofun, fun h => absurd ⟨h.1, h.2.1⟩ hok⟩

theorem bip39DecodeSpec_checksum (H : Bytes → Bytes) (wl ws : List Nat)
    (hcount : bip39WordNums.contains ws.length = true) (hall : ∀ w ∈ ws, w ∈ wl)
    (hck : bip39B wl ws % 2 ^ (ws.length * 11 / 33)
        ≠ Bytes.toNatBE (H (Bytes.ofNatBE (ws.length * 11 / 33 * 4)
            (bip39B wl ws / 2 ^ (ws.length * 11 / 33)))) / 2 ^ (256 - ws.length * 11 / 33)) :
    bip39DecodeSpec H wl ws = .error .checksum := by
  unfold bip39DecodeSpec
  simp only [if_pos (And.intro hcount hall), if_neg hck]

/-- `__DecodeAndVerifyBinaryStr` with an explicit language fails as the specification does and
otherwise returns the `11·n` bits of the sentence. -/
theorem bip39DecodeBits_some_spec (H : Bytes → Bytes) (hH : ∀ x, (H x).length = 32)
    (langs : List (List Nat)) (wl : List Nat) (hwl : wl.length ≤ 2048) (ws : List Nat) :
    bip39DecodeBits H langs (some wl) ws
      = match bip39DecodeSpec H wl ws with
        | .ok _ => .ok (bitsBE (11 * ws.length) (bip39B wl ws))
        | .error e => .error e := by
  unfold bip39DecodeSpec
  by_cases hok : bip39WordNums.contains ws.length = true ∧ ∀ w ∈ ws, w ∈ wl
  · rw [if_pos hok]
    obtain ⟨hcount, hall⟩ := hok
    obtain ⟨cs, hc1, hc2, hn⟩ := (wordNums_iff _).mp hcount
    have h11 : 11 * ws.length = 33 * cs := by rw [hn, ← Nat.mul_assoc]
    have hbits : (ws.map (wl.idxOf ·)).flatMap (fun i => toBinStr i 11)
        = bitsBE (33 * cs) (bip39B wl ws) := by
      rw [flatMap_toBinStr_eq _ (idxOf_lt_2048 hwl hall), List.length_map, h11]; rfl
    have hck : (33 * cs) / 33 = cs := Nat.mul_div_cancel_left _ (by decide)
    obtain ⟨ht1, ht2⟩ :=
      decodeTail_eq H hH cs (bip39B wl ws) (by omega) (bip39B_lt_of_count hwl hall hn)
    unfold bip39DecodeBits
    simp only [hcount, ckLen_of_count hn, h11, Bool.not_true,
      Bool.false_eq_true, if_false, pure_bind, mapM_wordIdx_of_mem hall]
    simp only [bind, Except.bind, hbits, length_bitsBE, hck, ht1, ht2, ne_eq, ite_not]
    split <;> rfl
  · rw [if_neg hok]
    by_cases hcount : bip39WordNums.contains ws.length = true
    · exact bip39DecodeBits_word_error H langs wl ws
        (by simpa using fun hall => hok ⟨hcount, hall⟩)
    · exact bip39DecodeBits_count_error H langs _ ws (Bool.eq_false_iff.mpr hcount)

theorem bip39Decode_some_eq (H : Bytes → Bytes) (hH : ∀ x, (H x).length = 32)
    (langs : List (List Nat)) (wl : List Nat) (hwl : wl.length ≤ 2048) (ws : List Nat) :
    bip39Decode H langs (some wl) ws = bip39DecodeSpec H wl ws := by
  unfold bip39Decode
  rw [bip39DecodeBits_some_spec H hH langs wl hwl ws]
  cases hs : bip39DecodeSpec H wl ws with
  | error e => rfl
  | ok e =>
    -- the entropy is cut out of the bit string again: the same bytes, by their length and value
    obtain ⟨hcount, hall, h1, h2, -⟩ := (bip39DecodeSpec_ok_iff H wl hwl ws e).mp hs
    obtain ⟨cs, -, -, hn⟩ := (wordNums_iff _).mp hcount
    simp only [bind, Except.bind, length_bitsBE]
    rw [ofBinStr_dropLast _ _ (by rw [length_bitsBE]; omega),
      ofBinStr_bitsBE_of_lt (bip39B_lt hwl hall), Nat.mul_comm 11, ← h2, ← h1]
    exact toBytesBE_of_toNatBE e

theorem bip39Encode_ok (H : Bytes → Bytes) (hH : ∀ x, (H x).length = 32) (wl : List Nat)
    (hwl : wl.length = 2048) (ent : Bytes) (hlen : bip39EntLens.contains ent.length = true) :
    ∃ ws, bip39Encode H wl ent = .ok ws
      ∧ ws.length = (ent.length * 8 + ent.length / 4) / 11 ∧ ∀ w ∈ ws, w ∈ wl := by
  refine ⟨_, bip39Encode_eq H hH wl (by omega) ent hlen, ?_, ?_⟩
  · simp [bip39WordCount]
  · intro w hw
    obtain ⟨i, -, rfl⟩ := List.mem_map.mp hw
    exact getD_mem (by have := bip39Group_lt H ent i; omega)

theorem bip39Encode_getElem? (H : Bytes → Bytes) (hH : ∀ x, (H x).length = 32) (wl : List Nat)
    (hwl : wl.length = 2048) (ent : Bytes) (ws : List Nat) (h : bip39Encode H wl ent = .ok ws) :
    ws.length = bip39WordCount ent
      ∧ ∀ i, i < ws.length → ws[i]? = wl[bip39Group H ent i]? := by
  by_cases hlen : bip39EntLens.contains ent.length = true
  · rw [bip39Encode_eq H hH wl (by omega) ent hlen] at h
    have hws := (Except.ok.inj h).symm
    subst hws
    refine ⟨by simp, ?_⟩
    intro i hi
    have hi' : i < bip39WordCount ent := by simpa using hi
    have hlt : bip39Group H ent i < wl.length := by have := bip39Group_lt H ent i; omega
    simp [hi', List.getD_eq_getElem?_getD, hlt]
  · rw [bip39Encode_error H wl ent (by simpa using hlen)] at h; cases h

theorem bip39Int_div_mod (H : Bytes → Bytes) (hH : ∀ x, (H x).length = 32) (ent : Bytes)
    (h2 : ent.length / 4 ≤ 256) :
    bip39Int H ent / 2 ^ (ent.length / 4) = Bytes.toNatBE ent
      ∧ bip39Int H ent % 2 ^ (ent.length / 4)
          = Bytes.toNatBE (H ent) / 2 ^ (256 - ent.length / 4) :=
  div_mod_of_eq rfl (hash_div_lt H hH ent _ h2)

theorem bip39B_encode (H : Bytes → Bytes) (hH : ∀ x, (H x).length = 32) (wl : List Nat)
    (hwl : wl.length = 2048) (hnd : wl.Nodup) (ent : Bytes)
    (hlen : bip39EntLens.contains ent.length = true) :
    bip39B wl ((List.range (bip39WordCount ent)).map fun i => wl.getD (bip39Group H ent i) 0)
      = bip39Int H ent := by
  obtain ⟨cs, hc1, hc2, hl⟩ := (entLens_iff _).mp hlen
  unfold bip39B
  rw [List.map_map]
  have hmap : (List.range (bip39WordCount ent)).map
        ((fun x => wl.idxOf x) ∘ fun i => wl.getD (bip39Group H ent i) 0)
      = (List.range (bip39WordCount ent)).map
          fun i => bip39Int H ent / 2048 ^ (bip39WordCount ent - 1 - i) % 2048 := by
    apply List.map_congr_left
    intro i _
    simp only [Function.comp]
    rw [idxOf_getD_of_nodup hnd (by have := bip39Group_lt H ent i; omega), pow_2048]
    rfl
  rw [hmap]
  apply ofDigitsBE_groups 2048
  have := bip39Int_lt H hH ent (by omega)
  rw [pow_2048]
  have h2 : 11 * bip39WordCount ent = ent.length * 8 + ent.length / 4 := by
    unfold bip39WordCount; omega
  rwa [h2]

theorem findLanguage_first (pre post : List (List Nat)) (L ws : List Nat)
    (hL : ∀ w ∈ ws, w ∈ L) (hpre : ∀ M ∈ pre, ∃ w ∈ ws, w ∉ M) :
    findLanguage (pre ++ L :: post) ws = .ok L := by
  unfold findLanguage
  have : (pre ++ L :: post).find? (fun wl => ws.all (fun w => wl.contains w)) = some L := by
    rw [List.find?_eq_some_iff_append]
    refine ⟨(all_contains_iff L ws).mpr hL, pre, post, rfl, ?_⟩
    intro M hM
    obtain ⟨w, hw, hn⟩ := hpre M hM
    have : ¬ ws.all (fun w => M.contains w) = true := by
      rw [all_contains_iff]; intro h; exact hn (h w hw)
    simpa using this
  rw [this]; rfl

theorem findLanguage_none (langs : List (List Nat)) (ws : List Nat)
    (h : ∀ M ∈ langs, ∃ w ∈ ws, w ∉ M) : findLanguage langs ws = .error .value := by
  unfold findLanguage
  have : langs.find? (fun wl => ws.all (fun w => wl.contains w)) = none := by
    rw [List.find?_eq_none]
    intro M hM
    obtain ⟨w, hw, hn⟩ := h M hM
    rw [all_contains_iff]; intro h; exact hn (h w hw)
  rw [this]; rfl

theorem findLanguage_split (pre post : List (List Nat)) (wl ws : List Nat)
    (hall : ∀ w ∈ ws, w ∈ wl) :
    findLanguage (pre ++ wl :: post) ws = .ok wl
      ∨ ∃ L ∈ pre, (∀ w ∈ ws, w ∈ L) ∧ findLanguage (pre ++ wl :: post) ws = .ok L := by
  unfold findLanguage
  rw [List.find?_append]
  cases hp : pre.find? (fun L => ws.all (fun w => L.contains w)) with
  | some L =>
    right
    refine ⟨L, List.mem_of_find?_eq_some hp, ?_, rfl⟩
    have := List.find?_some hp
    exact (all_contains_iff L ws).mp this
  | none =>
    left
    have : (wl :: post).find? (fun L => ws.all (fun w => L.contains w)) = some wl := by
      rw [List.find?_cons_of_pos]; exact (all_contains_iff wl ws).mpr hall
    simp only [Option.none_or, this]
    rfl

/-- Auto-detection is decoding with the language `_FindLanguageGeneric` returns. No hypothesis on
the word count is needed: a bad count is refused before the language is looked at, and
`findLanguage` fails with `ValueError` only. -/
theorem bip39DecodeBits_none (H : Bytes → Bytes) (langs : List (List Nat)) (ws : List Nat) :
    bip39DecodeBits H langs none ws
      = match findLanguage langs ws with
        | .ok wl => bip39DecodeBits H langs (some wl) ws
        | .error e => .error e := by
  unfold bip39DecodeBits findLanguage
  cases bip39WordNums.contains ws.length with
  | false => cases langs.find? (fun wl => ws.all (fun w => wl.contains w)) <;> rfl
  | true => cases langs.find? (fun wl => ws.all (fun w => wl.contains w)) <;> rfl

theorem bip39Decode_none_eq (H : Bytes → Bytes) (langs : List (List Nat)) (ws : List Nat) :
    bip39Decode H langs none ws
      = match findLanguage langs ws with
        | .ok wl => bip39Decode H langs (some wl) ws
        | .error e => .error e := by
  unfold bip39Decode
  rw [bip39DecodeBits_none]
  cases findLanguage langs ws <;> rfl

theorem bip39DecodeWithChecksum_none_eq (H : Bytes → Bytes) (langs : List (List Nat))
    (ws : List Nat) :
    bip39DecodeWithChecksum H langs none ws
      = match findLanguage langs ws with
        | .ok wl => bip39DecodeWithChecksum H langs (some wl) ws
        | .error e => .error e := by
  unfold bip39DecodeWithChecksum
  rw [bip39DecodeBits_none]
  cases findLanguage langs ws <;> rfl

/-- error kinds, any language argument: only `ValueError` and `MnemonicChecksumError`
(all word lists have at most 2048 entries). -/
theorem bip39Decode_error_kind (H : Bytes → Bytes) (hH : ∀ x, (H x).length = 32)
    (langs : List (List Nat)) (hlangs : ∀ L ∈ langs, L.length ≤ 2048) (lang : Option (List Nat))
    (hlang : ∀ L, lang = some L → L.length ≤ 2048) (ws : List Nat) (e : Err)
    (h : bip39Decode H langs lang ws = .error e) : e = .value ∨ e = .checksum := by
  cases lang with
  | some wl =>
    rw [bip39Decode_some_eq H hH langs wl (hlang wl rfl)] at h
    exact bip39DecodeSpec_error_kind H wl ws e h
  | none =>
    rw [bip39Decode_none_eq] at h
    cases hf : findLanguage langs ws with
    | ok wl =>
      rw [hf] at h
      simp only at h
      rw [bip39Decode_some_eq H hH langs wl (hlangs wl (findLanguage_mem langs ws wl hf))] at h
      exact bip39DecodeSpec_error_kind H wl ws e h
    | error e' =>
      rw [hf] at h
      cases h
      exact Or.inl (findLanguage_error langs ws _ hf)

/-- `DecodeWithChecksum` accepts exactly what `Decode` accepts and returns the whole bit string
`entropy ‖ checksum` as a big-endian integer on `⌈11·n / 8⌉` bytes. -/
theorem bip39DecodeWithChecksum_some_eq (H : Bytes → Bytes) (hH : ∀ x, (H x).length = 32)
    (langs : List (List Nat)) (wl : List Nat) (hwl : wl.length ≤ 2048) (ws : List Nat) :
    bip39DecodeWithChecksum H langs (some wl) ws
      = match bip39Decode H langs (some wl) ws with
        | .ok _ => .ok (Bytes.ofNatBE ((11 * ws.length + 7) / 8) (bip39B wl ws))
        | .error e => .error e := by
  unfold bip39DecodeWithChecksum
  rw [bip39DecodeBits_some_spec H hH langs wl hwl ws, bip39Decode_some_eq H hH langs wl hwl ws]
  cases hs : bip39DecodeSpec H wl ws with
  | error e => rfl
  | ok r =>
    obtain ⟨-, hall, -⟩ := (bip39DecodeSpec_ok_iff H wl hwl ws r).mp hs
    have hB := bip39B_lt hwl hall
    simp only [bind, Except.bind, length_bitsBE, ofBinStr_bitsBE_of_lt hB]
    rw [pad8_div]
    exact toBytesBE_eq_ofNatBE (bip39B_lt_bytes hwl hall)

theorem bip39DecodeWithChecksum_error_iff (H : Bytes → Bytes) (hH : ∀ x, (H x).length = 32)
    (langs : List (List Nat)) (hlangs : ∀ L ∈ langs, L.length ≤ 2048) (lang : Option (List Nat))
    (hlang : ∀ L, lang = some L → L.length ≤ 2048) (ws : List Nat) (e : Err) :
    bip39DecodeWithChecksum H langs lang ws = .error e ↔ bip39Decode H langs lang ws = .error e := by
  have hsome : ∀ wl, wl.length ≤ 2048 → (bip39DecodeWithChecksum H langs (some wl) ws = .error e
      ↔ bip39Decode H langs (some wl) ws = .error e) := by
    intro wl hwl
    rw [bip39DecodeWithChecksum_some_eq H hH langs wl hwl ws]
    cases bip39Decode H langs (some wl) ws with
    | ok r => exact ⟨nofun, nofun⟩
    | error e' => exact Iff.rfl
  cases lang with
  | some wl => exact hsome wl (hlang wl rfl)
  | none =>
    rw [bip39DecodeWithChecksum_none_eq, bip39Decode_none_eq]
    cases hf : findLanguage langs ws with
    | ok wl => exact hsome wl (hlangs wl (findLanguage_mem langs ws wl hf))
    | error e' => exact Iff.rfl

end BipVerif.Model
