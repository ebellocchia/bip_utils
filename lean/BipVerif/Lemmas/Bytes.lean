/- A list is its run of leading `x` (`leadingCount`, `takeWhile`) followed by the rest (`dropWhile`);
for `x = 0` the minimal encoder `natToBytesMin` returns exactly that rest of `b` from `toNatBE b`,
which is how Base58 keeps leading zero bytes apart from the number. -/
import BipVerif.Lemmas.Digits

namespace BipVerif.Model
open BipVerif

theorem toNatBE_eq (b : Bytes) : Bytes.toNatBE b = ofDigitsBE 256 (b.map UInt8.toNat) := by
  unfold Bytes.toNatBE ofDigitsBE
  rw [List.foldl_map]

theorem takeWhile_eq_replicate {α} [BEq α] [LawfulBEq α] (x : α) (l : List α) :
    l.takeWhile (· == x) = List.replicate (leadingCount x l) x := by
  unfold leadingCount
  induction l with
  | nil => simp
  | cons a t ih =>
    simp only [List.takeWhile_cons]
    by_cases h : a == x
    · simp only [h, if_true, List.length_cons, List.replicate_succ]
      rw [← ih]; simp [eq_of_beq h]
    · simp [h]

theorem split_leading {α} [BEq α] [LawfulBEq α] (x : α) (l : List α) :
    l = List.replicate (leadingCount x l) x ++ l.dropWhile (· == x) := by
  rw [← takeWhile_eq_replicate]; simp

theorem leadingCount_replicate_append {α} [BEq α] [LawfulBEq α] (x : α) (n : Nat) (l : List α)
    (h : l.head? ≠ some x) : leadingCount x (List.replicate n x ++ l) = n := by
  unfold leadingCount
  induction n with
  | zero =>
    cases l with
    | nil => simp
    | cons a t =>
      have : (a == x) = false := by
        apply Bool.eq_false_iff.mpr
        intro e; apply h; simp [eq_of_beq e]
      simp [this]
  | succ n ih =>
    rw [List.replicate_succ, List.cons_append, List.takeWhile_cons]
    simp only [beq_self_eq_true, if_true, List.length_cons, ih]

theorem dropWhile_head_ne {α} [BEq α] [LawfulBEq α] (x : α) (l : List α) :
    (l.dropWhile (· == x)).head? ≠ some x := by
  induction l with
  | nil => simp
  | cons a t ih =>
    simp only [List.dropWhile_cons]
    by_cases h : a == x
    · simp [h, ih]
    · simp only [h]; simp; intro e; exact h (by simp [e])

theorem uint8_ofNat_toNat_map (b : Bytes) : (b.map UInt8.toNat).map UInt8.ofNat = b := by
  induction b with
  | nil => rfl
  | cons a t ih => simp [List.map_cons] at ih ⊢; exact ih

theorem natToBytesMin_toNatBE (b : Bytes) :
    natToBytesMin (Bytes.toNatBE b) = b.dropWhile (· == 0) := by
  have hs := split_leading (0 : UInt8) b
  set r := b.dropWhile (· == (0 : UInt8)) with hr
  have hv : Bytes.toNatBE b = ofDigitsBE 256 (r.map UInt8.toNat) := by
    rw [toNatBE_eq]
    conv_lhs => rw [hs]
    rw [List.map_append, List.map_replicate]
    exact ofDigitsBE_zeros_append 256 _ _
  unfold natToBytesMin
  rw [hv, digitsBE_ofDigitsBE 256 (by omega)]
  · exact uint8_ofNat_toNat_map r
  · intro d hd
    simp only [List.mem_map] at hd
    obtain ⟨a, _, rfl⟩ := hd
    exact a.toNat_lt
  · have := dropWhile_head_ne (0 : UInt8) b
    rw [← hr] at this
    cases hrr : r with
    | nil => simp
    | cons a t =>
      rw [hrr] at this
      simp only [List.head?_cons, ne_eq, Option.some.injEq] at this
      simp only [List.map_cons, List.head?_cons, ne_eq, Option.some.injEq]
      intro h0
      apply this
      exact UInt8.toNat_inj.mp (by simpa using h0)

theorem replicate_natToBytesMin (b : Bytes) :
    List.replicate (leadingCount (0 : UInt8) b) 0 ++ natToBytesMin (Bytes.toNatBE b) = b := by
  rw [natToBytesMin_toNatBE]; exact (split_leading (0 : UInt8) b).symm

theorem zipWith_xor_cancel (a B : Bytes) (h : a.length ≤ B.length) :
    List.zipWith (· ^^^ ·) (List.zipWith (· ^^^ ·) a B) B = a := by
  induction a generalizing B with
  | nil => rfl
  | cons x t ih =>
    cases B with
    | nil => cases h
    | cons y s =>
      simp only [List.zipWith_cons_cons, List.cons.injEq]
      exact ⟨by rw [UInt8.xor_assoc, UInt8.xor_self, UInt8.xor_zero], ih s (Nat.le_of_succ_le_succ h)⟩

end BipVerif.Model
