/-
Substrate. `subParsePath` accepts exactly the printed forms of paths whose junctions have a non-empty,
slash-free text (`parse_ok_iff`); `subChainCode` is width selection, SCALE encoding, then pad or
hash (`subChainCode_eq`); soft derivation commutes with neutering under a hypothesis on the sr25519
oracle (`soft_comm`). The sr25519 operations are an oracle table; BLAKE2b is never unfolded.
-/
import BipVerif.Model.Substrate
import BipVerif.Lemmas.IntBytes
import BipVerif.Lemmas.Bech32
import BipVerif.Lemmas.Scale
import BipVerif.Lemmas.SS58
import BipVerif.Lemmas.Path
import BipVerif.Lemmas.Slip10

namespace BipVerif.Model.SubstrateLemmas
open BipVerif BipVerif.Prim BipVerif.Model

theorem takeWhile_append_stop {α} (p : α → Bool) (a b : List α) (ha : ∀ x ∈ a, p x = true)
    (hb : ∀ x, b.head? = some x → p x = false) : (a ++ b).takeWhile p = a := by
  rw [List.takeWhile_append_of_pos ha]
  cases b with
  | nil => simp
  | cons y t => simp [hb y rfl]

theorem dropWhile_append_stop {α} (p : α → Bool) (a b : List α) (ha : ∀ x ∈ a, p x = true)
    (hb : ∀ x, b.head? = some x → p x = false) : (a ++ b).dropWhile p = b := by
  rw [List.dropWhile_append_of_pos ha, dropWhile_of_head p b hb]

theorem ne_slash_of_not_mem {body : List Char} (hs : '/' ∉ body) :
    ∀ c ∈ body, decide (c ≠ '/') = true := by
  intro c hc
  rw [decide_eq_true_eq]
  exact fun h => hs (h ▸ hc)

theorem head_ne_slash {body : List Char} (hb : body ≠ []) (hs : '/' ∉ body) (rest : List Char) :
    ∀ x, (body ++ rest).head? = some x → (x == '/') = false := by
  intro x hx
  cases body with
  | nil => exact absurd rfl hb
  | cons c t =>
    cases hx
    exact beq_eq_false_iff_ne.mpr fun h => hs (h ▸ List.mem_cons_self)

/-- the slashes a junction is printed with -/
def slashes (hard : Bool) : List Char := if hard then ['/', '/'] else ['/']

theorem subPrintElem_eq (e : SubElem) : subPrintElem e = slashes e.hard ++ e.text := rfl

theorem subPrintPath_nil : subPrintPath [] = [] := rfl

theorem subPrintPath_cons (e : SubElem) (p : List SubElem) :
    subPrintPath (e :: p) = subPrintElem e ++ subPrintPath p := by
  unfold subPrintPath; simp

theorem slashes_all (h : Bool) : ∀ c ∈ slashes h, c = '/' := by
  cases h <;> simp [slashes]

theorem slashes_ne_nil (h : Bool) : slashes h ≠ [] := by cases h <;> simp [slashes]

theorem slashes_length (h : Bool) : (slashes h).length = if h then 2 else 1 := by cases h <;> rfl

theorem subPrintElem_head (e : SubElem) : (subPrintElem e).head? = some '/' := by
  rw [subPrintElem_eq]; cases e.hard <;> rfl

theorem subPrintPath_head (p : List SubElem) : ∀ x, (subPrintPath p).head? = some x → x = '/' := by
  intro x hx
  cases p with
  | nil => simp [subPrintPath_nil] at hx
  | cons e t =>
    rw [subPrintPath_cons, subPrintElem_eq, List.append_assoc] at hx
    cases hh : e.hard <;> simp [hh, slashes] at hx <;> exact hx.symm

/-- admissible junction: non-empty text without slashes -/
def GoodElem (e : SubElem) : Prop := e.text ≠ [] ∧ '/' ∉ e.text

theorem go_succ (fuel : Nat) (s : List Char) (acc : List (List Char)) :
    subTokens.go (fuel + 1) s acc =
      if (s.dropWhile (· ≠ '/')).isEmpty then acc.reverse
      else if (((s.dropWhile (· ≠ '/')).dropWhile (· == '/')).takeWhile (· ≠ '/')).isEmpty then acc.reverse
      else subTokens.go fuel (((s.dropWhile (· ≠ '/')).dropWhile (· == '/')).dropWhile (· ≠ '/'))
        (((s.dropWhile (· ≠ '/')).takeWhile (· == '/') ++
          ((s.dropWhile (· ≠ '/')).dropWhile (· == '/')).takeWhile (· ≠ '/')) :: acc) := by
  rw [subTokens.go]

theorem go_nil (fuel : Nat) (acc : List (List Char)) : subTokens.go fuel [] acc = acc.reverse := by
  cases fuel with
  | zero => rfl
  | succ n => rw [go_succ]; rfl

theorem go_print_step (fuel : Nat) (e : SubElem) (he : GoodElem e) (p : List SubElem)
    (acc : List (List Char)) :
    subTokens.go (fuel + 1) (subPrintElem e ++ subPrintPath p) acc =
      subTokens.go fuel (subPrintPath p) (subPrintElem e :: acc) := by
  obtain ⟨hne, hns⟩ := he
  have hsl : ∀ c ∈ slashes e.hard, (c == '/') = true := fun c hc => by simp [slashes_all _ c hc]
  have hth := head_ne_slash hne hns (subPrintPath p)
  have hta := ne_slash_of_not_mem hns
  have hR : ∀ x, (subPrintPath p).head? = some x → decide (x ≠ '/') = false :=
    fun x hx => by simp [subPrintPath_head p x hx]
  -- the printed junction starts with a slash: nothing is skipped in front of it
  have hs0 : (subPrintElem e ++ subPrintPath p).dropWhile (· ≠ '/') = subPrintElem e ++ subPrintPath p := by
    rw [subPrintElem_eq]; cases e.hard <;> simp [slashes]
  rw [go_succ, hs0, subPrintElem_eq, List.append_assoc,
    takeWhile_append_stop _ _ _ hsl hth, dropWhile_append_stop _ _ _ hsl hth,
    takeWhile_append_stop _ _ _ hta hR, dropWhile_append_stop _ _ _ hta hR]
  have n1 : (slashes e.hard ++ (e.text ++ subPrintPath p)).isEmpty = false := by
    cases e.hard <;> rfl
  have n2 : e.text.isEmpty = false := by
    cases ht : e.text with
    | nil => exact absurd ht hne
    | cons c t => rfl
  rw [n1, n2]
  rfl

theorem go_print (p : List SubElem) (hp : ∀ e ∈ p, GoodElem e) (fuel : Nat) (hf : p.length < fuel)
    (acc : List (List Char)) :
    subTokens.go fuel (subPrintPath p) acc = acc.reverse ++ p.map subPrintElem := by
  induction p generalizing fuel acc with
  | nil => rw [subPrintPath_nil, go_nil]; simp
  | cons e t ih =>
    cases fuel with
    | zero => simp at hf
    | succ n =>
      rw [subPrintPath_cons, go_print_step n e (hp e (by simp)) t acc,
        ih (fun x hx => hp x (by simp [hx])) n (by simpa using hf)]
      simp

theorem length_le_subPrintPath (p : List SubElem) : p.length ≤ (subPrintPath p).length := by
  induction p with
  | nil => simp
  | cons e t ih =>
    rw [subPrintPath_cons, List.length_append, subPrintElem_eq, List.length_append, slashes_length]
    simp only [List.length_cons]
    split <;> omega

theorem subTokens_print (p : List SubElem) (hp : ∀ e ∈ p, GoodElem e) :
    subTokens (subPrintPath p) = p.map subPrintElem := by
  unfold subTokens
  rw [go_print p hp _ (by have := length_le_subPrintPath p; omega)]
  rfl

theorem subElemOf_shape (n : Nat) (body : List Char) (hn : 1 ≤ n) (hb : body ≠ []) (hs : '/' ∉ body) :
    subElemOf (List.replicate n '/' ++ body) =
      if n ≤ 2 then .ok { text := body, hard := decide (n ≥ 2) } else .error .path := by
  have h1 : (List.replicate n '/' ++ body).takeWhile (· == '/') = List.replicate n '/' :=
    takeWhile_append_stop _ _ _ (by intro c hc; simp [(List.mem_replicate.mp hc).2])
      (fun x hx => head_ne_slash hb hs [] x (by rwa [List.append_nil]))
  have h2 : (List.replicate n '/' ++ body).filter (· ≠ '/') = body := by
    rw [List.filter_append, List.filter_eq_self.mpr (ne_slash_of_not_mem hs),
      List.filter_eq_nil_iff.mpr (by intro c hc; simp [(List.mem_replicate.mp hc).2]), List.nil_append]
  have h3 : rfind (List.replicate n '/' ++ body) '/' = some (n - 1) := by
    obtain ⟨m, rfl⟩ : ∃ m, n = m + 1 := ⟨n - 1, by omega⟩
    rw [List.replicate_succ', rfind_append '/' (List.replicate m '/') body hs]; simp
  have hbe : body.isEmpty = false := by
    cases body with
    | nil => exact absurd rfl hb
    | cons c t => rfl
  unfold subElemOf
  simp only [h1, h2, h3, List.length_replicate, Option.getD_some, hbe]
  by_cases h2' : n ≤ 2
  · have : n - 1 < 2 := by omega
    simp [hn, this, h2']
    rfl
  · have : ¬ n - 1 < 2 := by omega
    simp [this, h2']
    rfl

theorem slashes_eq_replicate (h : Bool) : slashes h = List.replicate (if h then 2 else 1) '/' := by
  cases h <;> rfl

theorem subElemOf_print (e : SubElem) (he : GoodElem e) : subElemOf (subPrintElem e) = .ok e := by
  rw [subPrintElem_eq, slashes_eq_replicate,
    subElemOf_shape _ _ (by split <;> omega) he.1 he.2]
  cases e with
  | mk text hard => cases hard <;> simp

theorem mapM_subElemOf_print (p : List SubElem) (hp : ∀ e ∈ p, GoodElem e) :
    (p.map subPrintElem).mapM subElemOf = .ok p := by
  induction p with
  | nil => rfl
  | cons e t ih =>
    rw [List.map_cons, List.mapM_cons, subElemOf_print e (hp e (by simp)),
      ih (fun x hx => hp x (by simp [hx]))]
    rfl

theorem parse_print (p : List SubElem) (hp : ∀ e ∈ p, GoodElem e) :
    subParsePath (subPrintPath p) = .ok p := by
  unfold subParsePath
  have hhead : ¬ ((!(subPrintPath p).isEmpty && decide ((subPrintPath p).head? ≠ some '/')) = true) := by
    cases p with
    | nil => simp [subPrintPath_nil]
    | cons e t =>
      rw [subPrintPath_cons]
      have := subPrintElem_head e
      cases hpe : subPrintElem e with
      | nil => rw [hpe] at this; simp at this
      | cons c r => rw [hpe] at this; simp at this; simp [this]
  have hflat : ¬ ((subTokens (subPrintPath p)).flatten ≠ subPrintPath p) := by
    rw [subTokens_print p hp]; simp [subPrintPath]
  simp only [hhead, hflat, if_false]
  rw [subTokens_print p hp]
  exact mapM_subElemOf_print p hp

/-- what `re.findall(r"\/+[^/]+")` returns: at least one slash, then a non-empty slash-free body -/
def TokShape (t : List Char) : Prop :=
  ∃ n body, 1 ≤ n ∧ body ≠ [] ∧ '/' ∉ body ∧ t = List.replicate n '/' ++ body

theorem mem_takeWhile_imp' {α} {p : α → Bool} {l : List α} {x : α} (h : x ∈ l.takeWhile p) : p x = true :=
  List.all_eq_true.mp List.all_takeWhile x h

theorem takeWhile_ne_nil_of_head {α} (p : α → Bool) (l : List α) (x : α) (h : l.head? = some x)
    (hp : p x = true) : l.takeWhile p ≠ [] := by
  cases l with
  | nil => simp at h
  | cons a t =>
    simp only [List.head?_cons, Option.some.injEq] at h; subst h
    rw [List.takeWhile_cons, hp]; simp

theorem tokShape_of_step (s : List Char)
    (h1 : (s.dropWhile (· ≠ '/')).isEmpty = false)
    (h2 : (((s.dropWhile (· ≠ '/')).dropWhile (· == '/')).takeWhile (· ≠ '/')).isEmpty = false) :
    TokShape ((s.dropWhile (· ≠ '/')).takeWhile (· == '/') ++
          ((s.dropWhile (· ≠ '/')).dropWhile (· == '/')).takeWhile (· ≠ '/')) := by
  refine ⟨((s.dropWhile (· ≠ '/')).takeWhile (· == '/')).length,
    ((s.dropWhile (· ≠ '/')).dropWhile (· == '/')).takeWhile (· ≠ '/'), ?_, ?_, ?_, ?_⟩
  · -- what is left after skipping non-slashes starts with a slash
    have hh := List.head?_dropWhile_not (· ≠ '/') s
    cases hs : s.dropWhile (· ≠ '/') with
    | nil => rw [hs] at h1; cases h1
    | cons c t =>
      rw [hs] at hh
      simp only [List.head?_cons, ne_eq, decide_not, Bool.not_eq_eq_eq_not, Bool.not_false,
        decide_eq_true_eq] at hh
      subst hh
      simp
  · intro h; rw [h] at h2; cases h2
  · intro h; simpa using mem_takeWhile_imp' h
  · congr 1
    exact List.eq_replicate_iff.mpr ⟨rfl, fun b hb => by simpa using mem_takeWhile_imp' hb⟩

theorem go_shape (fuel : Nat) (s : List Char) (acc : List (List Char)) (hacc : ∀ t ∈ acc, TokShape t) :
    ∀ t ∈ subTokens.go fuel s acc, TokShape t := by
  induction fuel generalizing s acc with
  | zero => intro t ht; exact hacc t (by simpa [subTokens.go] using ht)
  | succ n ih =>
    rw [go_succ]
    split
    · intro t ht; exact hacc t (by simpa using ht)
    · next h1 =>
      split
      · intro t ht; exact hacc t (by simpa using ht)
      · next h2 =>
        apply ih
        intro t ht
        rcases List.mem_cons.mp ht with rfl | h'
        · exact tokShape_of_step s (by simpa using h1) (by simpa using h2)
        · exact hacc t h'

theorem subTokens_shape (s : List Char) : ∀ t ∈ subTokens s, TokShape t :=
  go_shape _ s [] (by simp)

/-- on a token, `SubstratePathElem(tok)` succeeds only for one or two slashes, and then printing
the element gives the token back; the element's text is non-empty and slash-free -/
theorem subElemOf_ok_of_shape (t : List Char) (ht : TokShape t) (e : SubElem) (h : subElemOf t = .ok e) :
    subPrintElem e = t ∧ GoodElem e := by
  obtain ⟨n, body, hn, hb, hs, rfl⟩ := ht
  rw [subElemOf_shape n body hn hb hs] at h
  split at h
  · next h2 =>
    cases h
    refine ⟨?_, hb, hs⟩
    rw [subPrintElem_eq, slashes_eq_replicate]
    simp only
    congr 2
    by_cases h' : n ≥ 2
    · simp [h']; omega
    · simp [h']; omega
  · cases h

theorem subElemOf_error (t : List Char) (e : Err) (h : subElemOf t = .error e) : e = .path := by
  unfold subElemOf at h
  simp only at h
  split at h
  · cases h
  · cases h; rfl

theorem mapM_subElemOf_ok (toks : List (List Char)) (ht : ∀ t ∈ toks, TokShape t) (p : List SubElem)
    (h : toks.mapM subElemOf = .ok p) : p.map subPrintElem = toks ∧ ∀ e ∈ p, GoodElem e := by
  induction toks generalizing p with
  | nil => rw [List.mapM_nil] at h; cases h; simp
  | cons t ts ih =>
    rw [List.mapM_cons] at h
    obtain ⟨e, he, h⟩ := bind_ok_inv h
    obtain ⟨es, hes, h⟩ := bind_ok_inv h
    cases h
    obtain ⟨a, b⟩ := subElemOf_ok_of_shape t (ht t (by simp)) e he
    obtain ⟨c, d⟩ := ih (fun x hx => ht x (by simp [hx])) es hes
    refine ⟨by rw [List.map_cons, a, c], ?_⟩
    intro x hx
    rcases List.mem_cons.mp hx with rfl | hx'
    · exact b
    · exact d x hx'

theorem subParsePath_eq (s : List Char) :
    subParsePath s =
      if (!s.isEmpty && decide (s.head? ≠ some '/')) = true then .error .path
      else if (subTokens s).flatten ≠ s then .error .path
      else (subTokens s).mapM subElemOf := by
  unfold subParsePath
  by_cases h1 : (!s.isEmpty && decide (s.head? ≠ some '/')) = true
  · simp only [h1, if_true]; rfl
  · by_cases h2 : (subTokens s).flatten = s
    · simp only [h1, h2, ne_eq, not_true_eq_false, if_false]; rfl
    · simp only [h1, h2, ne_eq, not_false_eq_true, if_true]; rfl

theorem subParsePath_ok (s : List Char) (p : List SubElem) (h : subParsePath s = .ok p) :
    (subTokens s).flatten = s ∧ (subTokens s).mapM subElemOf = .ok p := by
  rw [subParsePath_eq] at h
  split at h
  · cases h
  · split at h
    · cases h
    · next hflat => exact ⟨by simpa using hflat, h⟩

theorem print_parse (s : List Char) (p : List SubElem) (h : subParsePath s = .ok p) :
    subPrintPath p = s ∧ ∀ e ∈ p, GoodElem e := by
  obtain ⟨hflat, hmap⟩ := subParsePath_ok s p h
  obtain ⟨a, b⟩ := mapM_subElemOf_ok _ (subTokens_shape s) p hmap
  refine ⟨?_, b⟩
  unfold subPrintPath; rw [a, hflat]

theorem parse_error_kind (s : List Char) (e : Err) (h : subParsePath s = .error e) : e = .path := by
  rw [subParsePath_eq] at h
  split at h
  · cases h; rfl
  · split at h
    · cases h; rfl
    · exact mapM_error_of (P := fun e => e = .path) subElemOf_error _ h

/-- accepted strings are exactly the printed forms of admissible paths -/
theorem parse_ok_iff (s : List Char) (p : List SubElem) :
    subParsePath s = .ok p ↔ subPrintPath p = s ∧ ∀ e ∈ p, GoodElem e := by
  constructor
  · exact print_parse s p
  · rintro ⟨rfl, hp⟩; exact parse_print p hp

/-- final step of `ChainCode()`: hash if longer than 32 bytes, else zero-pad to 32 -/
def ccPad (enc : Bytes) : Bytes :=
  if enc.length > 32 then blake2b256 enc else enc ++ List.replicate (32 - enc.length) 0

theorem ccPad_length (enc : Bytes) : (ccPad enc).length = 32 := by
  unfold ccPad
  split
  · exact blake2b256_length _
  · rw [List.length_append, List.length_replicate]; omega

/-- the integer width (`U8` … `U256`) picked for a numeric junction -/
def subWidth (v : Nat) : R Nat :=
  if bitLength v ≤ 8 then pure 1 else if bitLength v ≤ 16 then pure 2 else if bitLength v ≤ 32 then pure 4
  else if bitLength v ≤ 64 then pure 8 else if bitLength v ≤ 128 then pure 16 else if bitLength v ≤ 256 then pure 32
  else throw Err.path

theorem ccPad_pure (enc : Bytes) :
    (if enc.length > 32 then (pure (blake2b256 enc) : R Bytes)
      else pure (enc ++ List.replicate (32 - enc.length) 0)) = .ok (ccPad enc) :=
  (apply_ite Except.ok _ _ _).symm

/-- The `do` block of `subChainCode` is compiled with the continuation (SCALE-encode, then pad or
hash) copied into every branch of the width selection; pulling it out again gives the three
stages in sequence. -/
theorem subChainCode_eq (e : SubElem) :
    subChainCode e =
      (match parseDecimal e.text with
        | some v => subWidth v >>= fun w => scaleUint v w
        | none => scaleBytes (String.ofList e.text).toUTF8.toList) >>= fun enc => .ok (ccPad enc) := by
  unfold subChainCode subWidth
  simp only [ccPad_pure]
  cases parseDecimal e.text with
  | none => rfl
  | some v =>
    simp only [ite_bind, bind_assoc]
    rfl

/-- zero padding on the right does not change the little-endian value: the padded fixed-width
encoding is the 32-byte encoding -/
theorem pad_eq_ofNatLE (b : Bytes) (hb : b.length ≤ 32) :
    b ++ List.replicate (32 - b.length) 0 = Bytes.ofNatLE 32 (Bytes.toNatLE b) := by
  apply toNatLE_inj_of_length_eq
  · rw [List.length_append, List.length_replicate, length_ofNatLE]; omega
  · rw [toNatLE_append, toNatLE_replicate_zero, Nat.mul_zero, Nat.add_zero, toNatLE_ofNatLE]
    exact Nat.lt_of_lt_of_le (toNatLE_lt b) (Nat.pow_le_pow_right (by norm_num) hb)

theorem bitLength_le_bytes (v w : Nat) : bitLength v ≤ 8 * w ↔ v < 256 ^ w := by
  rw [bitLength_le_iff, pow_mul]; norm_num

theorem subWidth_ok (v : Nat) (h : v < 2 ^ 256) : ∃ w, subWidth v = .ok w ∧ v < 256 ^ w ∧ w ≤ 32 := by
  -- one rung of the ladder: width `w` if the value fits, else whatever the remaining rungs give
  have rung (w : Nat) (hw : w ≤ 32) (rest : R Nat)
      (hrest : ¬ bitLength v ≤ 8 * w → ∃ w, rest = .ok w ∧ v < 256 ^ w ∧ w ≤ 32) :
      ∃ w', (if bitLength v ≤ 8 * w then pure w else rest) = .ok w' ∧ v < 256 ^ w' ∧ w' ≤ 32 := by
    by_cases hc : bitLength v ≤ 8 * w
    · exact ⟨w, if_pos hc, (bitLength_le_bytes v w).mp hc, hw⟩
    · rw [if_neg hc]; exact hrest hc
  exact rung 1 (by norm_num) _ fun _ => rung 2 (by norm_num) _ fun _ => rung 4 (by norm_num) _ fun _ =>
    rung 8 (by norm_num) _ fun _ => rung 16 (by norm_num) _ fun _ => rung 32 le_rfl _ fun h6 =>
      absurd ((bitLength_le_iff v 256).mpr h) h6

theorem subWidth_error (v : Nat) (h : 2 ^ 256 ≤ v) : subWidth v = .error .path := by
  have big (k : Nat) (hk : k ≤ 256) : ¬ bitLength v ≤ k := fun hle =>
    absurd ((bitLength_le_iff v k).mp hle)
      (Nat.not_lt.mpr ((Nat.pow_le_pow_right Nat.two_pos hk).trans h))
  unfold subWidth
  rw [if_neg (big 8 (by norm_num)), if_neg (big 16 (by norm_num)), if_neg (big 32 (by norm_num)),
    if_neg (big 64 (by norm_num)), if_neg (big 128 (by norm_num)), if_neg (big 256 le_rfl)]
  rfl

theorem derive_append (o : Oracle) (nd : SubNode) (p q : List SubElem) :
    subDerivePath o nd (p ++ q) = subDerivePath o nd p >>= fun x => subDerivePath o x q := by
  unfold subDerivePath; rw [List.foldlM_append]

theorem derive_nil (o : Oracle) (nd : SubNode) : subDerivePath o nd [] = .ok nd := rfl

theorem derive_cons (o : Oracle) (nd : SubNode) (e : SubElem) (p : List SubElem) :
    subDerivePath o nd (e :: p) = subChildKey o nd e >>= fun x => subDerivePath o x p := by
  unfold subDerivePath; rw [List.foldlM_cons]

theorem hard_refused_on_public (o : Oracle) (nd : SubNode) (e : SubElem) (hp : nd.priv = none)
    (hh : e.hard = true) : subChildKey o nd e = .error .key := by
  unfold subChildKey; rw [hp]; simp only [hh, if_true]; rfl

theorem askOr_eq (o : Oracle) (fn : String) (inp : Bytes) :
    askOr o fn inp = match o.ask fn inp with | some b => .ok b | none => .error .oracleMiss := by
  unfold askOr; cases o.ask fn inp <;> rfl

/-- on a public-only node the soft junction only asks `sr_softpub`, with `cc ‖ pub` -/
theorem soft_public_uses_public_oracle (o : Oracle) (nd : SubNode) (e : SubElem) (hp : nd.priv = none)
    (hh : e.hard = false) :
    subChildKey o nd e =
      subChainCode e >>= fun cc => askOr o "sr_softpub" (cc ++ nd.pub) >>= fun r =>
        .ok { priv := none, pub := r, path := nd.path ++ [e] } := by
  unfold subChildKey; rw [hp]
  simp only [hh, Bool.false_eq_true, if_false, bind, Except.bind, pure, Except.pure]

/-- the private branch: `sr_hard` / `sr_soft` with `cc ‖ pub ‖ priv`, result `pub' ‖ priv'` -/
theorem childKey_private (o : Oracle) (nd : SubNode) (e : SubElem) (priv : Bytes) (hp : nd.priv = some priv) :
    subChildKey o nd e =
      subChainCode e >>= fun cc =>
        askOr o (if e.hard then "sr_hard" else "sr_soft") (cc ++ nd.pub ++ priv) >>= fun r =>
          .ok { priv := some (r.drop 32), pub := r.take 32, path := nd.path ++ [e] } := by
  unfold subChildKey; rw [hp]
  simp only [bind, Except.bind, pure, Except.pure]

/-- the oracle hypothesis: the public key of the privately soft-derived pair is what the public
soft derivation returns -/
def Sr25519SoftComm (o : Oracle) : Prop :=
  ∀ cc pub priv r, o.ask "sr_soft" (cc ++ pub ++ priv) = some r →
    o.ask "sr_softpub" (cc ++ pub) = some (r.take 32)

def SubNode.neuter (nd : SubNode) : SubNode := { nd with priv := none }

theorem soft_comm (o : Oracle) (ho : Sr25519SoftComm o) (nd c : SubNode) (e : SubElem) (priv : Bytes)
    (hp : nd.priv = some priv) (hh : e.hard = false) (h : subChildKey o nd e = .ok c) :
    subChildKey o (SubNode.neuter nd) e = .ok (SubNode.neuter c) := by
  rw [childKey_private o nd e priv hp] at h
  obtain ⟨cc, hcc, h⟩ := bind_ok_inv h
  obtain ⟨r, hr, h⟩ := bind_ok_inv h
  cases h
  rw [askOr_eq] at hr
  simp only [hh, Bool.false_eq_true, if_false] at hr
  cases hq : o.ask "sr_soft" (cc ++ nd.pub ++ priv) with
  | none => rw [hq] at hr; cases hr
  | some r' =>
    rw [hq] at hr; cases hr
    have := ho cc nd.pub priv r hq
    rw [soft_public_uses_public_oracle o (SubNode.neuter nd) e rfl hh, hcc]
    simp only [ok_bind, SubNode.neuter, askOr_eq, this]

theorem childKey_path (o : Oracle) (nd c : SubNode) (e : SubElem) (h : subChildKey o nd e = .ok c) :
    c.path = nd.path ++ [e] := by
  cases hp : nd.priv with
  | some priv =>
    rw [childKey_private o nd e priv hp] at h
    obtain ⟨cc, _, h⟩ := bind_ok_inv h
    obtain ⟨r, _, h⟩ := bind_ok_inv h
    cases h; rfl
  | none =>
    cases hh : e.hard
    · rw [soft_public_uses_public_oracle o nd e hp hh] at h
      obtain ⟨cc, _, h⟩ := bind_ok_inv h
      obtain ⟨r, _, h⟩ := bind_ok_inv h
      cases h; rfl
    · rw [hard_refused_on_public o nd e hp hh] at h; cases h

theorem address_is_ss58 (fmt : Nat) (nd : SubNode) : subAddress fmt nd = ss58Encode blake2b512 nd.pub fmt := rfl

end BipVerif.Model.SubstrateLemmas
