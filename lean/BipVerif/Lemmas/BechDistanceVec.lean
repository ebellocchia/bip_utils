/-
Error detection of the Bech32 / Bech32m / CashAddr checksums for two, three and four substituted
symbols, by a lane-parallel kernel evaluation.

  * `bech32_weight_two`  : 2 substitutions, data part ≤ 1023 symbols (the BCH code length; the
    bound is sharp, `x^1023 = 1`);
  * `bech32_weight_three`: 3 substitutions, data part ≤ 256 symbols;
  * `bech32_weight_four` : 4 substitutions, data part ≤ 89 symbols — with the others this is the
    BIP-173 guarantee "any error affecting at most 4 characters is detected" (a BIP-173 string has at
    most 88 data symbols), for substitutions in the data part;
  * `bch_weight_two`     : CashAddr, 2 substitutions, data part ≤ 1025 symbols (sharp);
  * `bch_weight_three`   : CashAddr, 3 substitutions, data part ≤ 113 symbols (the longest CashAddr
    payload, a 512-bit hash, has 112 data symbols).

Each says that no error vector of that weight and length has syndrome zero; `Props/C10Distance.lean`
feeds them to `bech32_detect` / `bch_detect`.

`BechDistance.lean` reduces "`w + 2` substitutions are detected" to `Far x w N 1`: facts of the form
`x^k1 (x^k2 (x^k3 1 ^^^ b) ^^^ c) ≥ 32` for all symbols `b, c ∈ [1,31]` and all distances with
`k1 + k2 + k3 ≤ N`.  For four errors in 89 symbols that is 31^2 · C(89,3) ≈ 10^8 register steps,
too many for a scalar kernel loop.  Three further reductions make it a short computation:

  * SIMD inside a bignum: many registers are packed as 30-bit lanes of ONE natural number; `&&&`,
    `^^^`, shifts and a multiplication by constants act on all lanes at once, and "every lane ≥ 32"
    is one addition and a mask.  An operation that acts on the lowest lane and, independently, on the
    rest (`Lane`; such operations compose) acts on every lane (`pack_lanewise`): `vLin_pack` /
    `vTest_spec` prove, for any number of lanes and any lane width, that these big-number operations
    are the lane-wise maps and the lane-wise test.
  * The position of the second error is a lane coordinate too (`loopG`): the vector grows by one
    block of lanes per round, so that the number of big-number operations is quadratic instead of
    cubic in the length.
  * The third error symbol is not enumerated either (`runW`, `phi_sound`): "no third symbol `c`
    makes `x^k1 (S ⊕ c)` a symbol" is the statement that a linear map, which the checker picks and
    tests on ten vectors, does not vanish on `x^k1 S`.

89 is as far as this method goes for four errors: the checker of `b4_chk` evaluated for 90 symbols
(`loopG … 87 88 …`) gives `false`.  256 is no such limit: the checker of `b3_chk` still gives `true`
for 1023 symbols (`loopG … 1021 0 …`); the guarantee above only needs 89.
-/
import BipVerif.Lemmas.BechDistance

namespace BipVerif.Model
open BipVerif

def pack (L : Nat) : List Nat → Nat
  | [] => 0
  | v :: t => v + 2 ^ L * pack L t

def rep (L n m : Nat) : Nat := pack L (List.replicate n m)

theorem rep_succ (L n m : Nat) : rep L (n + 1) m = m + 2 ^ L * rep L n m := rfl

theorem rep_mul (L c : Nat) : ∀ n, rep L n 1 * c = rep L n c
  | 0 => Nat.zero_mul c
  | n + 1 => by rw [rep_succ, rep_succ, ← rep_mul L c n]; ring

def Lane (L X x X' : Nat) : Prop := x < 2 ^ L ∧ X = x + 2 ^ L * X'

section Lane
variable {L X Y x y X' Y' : Nat}

theorem Lane.mk' (hx : x < 2 ^ L) (X' : Nat) : Lane L (x + 2 ^ L * X') x X' := ⟨hx, rfl⟩

theorem Lane.testBit (h : Lane L X x X') (j : Nat) :
    X.testBit j = if j < L then x.testBit j else X'.testBit (j - L) := by
  rw [h.2, Nat.add_comm, Nat.testBit_two_pow_mul_add X' h.1]

/-- a bitwise operation is lane-wise as soon as its lowest lane does not overflow. -/
theorem Lane.of_testBit (hx : x < 2 ^ L)
    (h : ∀ j, X.testBit j = if j < L then x.testBit j else X'.testBit (j - L)) : Lane L X x X' :=
  ⟨hx, Nat.eq_of_testBit_eq fun j => by rw [h, (Lane.mk' hx X').testBit]⟩

theorem Lane.and (hX : Lane L X x X') (hY : Lane L Y y Y') : Lane L (X &&& Y) (x &&& y) (X' &&& Y') :=
  Lane.of_testBit (Nat.lt_of_le_of_lt Nat.and_le_left hX.1) fun j => by
    rw [Nat.testBit_and, hX.testBit, hY.testBit]
    by_cases h : j < L <;> simp [h, Nat.testBit_and]

theorem Lane.xor (hX : Lane L X x X') (hY : Lane L Y y Y') : Lane L (X ^^^ Y) (x ^^^ y) (X' ^^^ Y') :=
  Lane.of_testBit (Nat.xor_lt_two_pow hX.1 hY.1) fun j => by
    rw [Nat.testBit_xor, hX.testBit, hY.testBit]
    by_cases h : j < L <;> simp [h, Nat.testBit_xor]

/-- shift right and mask: no bit of the next lane leaks in as long as the mask lane is short. -/
theorem Lane.shrAnd (hX : Lane L X x X') (hY : Lane L Y y Y') {s : Nat} (hs : s ≤ L)
    (hy : y < 2 ^ (L - s)) : Lane L ((X >>> s) &&& Y) ((x >>> s) &&& y) ((X' >>> s) &&& Y') :=
  Lane.of_testBit (Nat.lt_of_le_of_lt Nat.and_le_right hY.1) fun j => by
    rw [Nat.testBit_and, Nat.testBit_shiftRight, hX.testBit, hY.testBit]
    by_cases h : j < L
    · by_cases h2 : s + j < L
      · simp only [h2, ↓reduceIte, h, Nat.testBit_and, Nat.testBit_shiftRight]
      · have hyj : y.testBit j = false :=
          Nat.testBit_lt_two_pow (Nat.lt_of_lt_of_le hy (Nat.pow_le_pow_right (by omega) (by omega)))
        simp only [h2, ↓reduceIte, h, hyj, Bool.and_false, Nat.testBit_and, Nat.testBit_shiftRight]
    · have h2 : ¬ s + j < L := by omega
      have e : s + j - L = s + (j - L) := by omega
      simp only [h2, ↓reduceIte, e, h, Nat.testBit_and, Nat.testBit_shiftRight]

theorem Lane.shl (hX : Lane L X x X') (s : Nat) (h : x <<< s < 2 ^ L) :
    Lane L (X <<< s) (x <<< s) (X' <<< s) :=
  ⟨h, by rw [hX.2]; simp only [Nat.shiftLeft_eq]; ring⟩

theorem Lane.mul (hX : Lane L X x X') (g : Nat) (h : x * g < 2 ^ L) : Lane L (X * g) (x * g) (X' * g) :=
  ⟨h, by rw [hX.2]; ring⟩

theorem Lane.add (hX : Lane L X x X') (hY : Lane L Y y Y') (h : x + y < 2 ^ L) :
    Lane L (X + Y) (x + y) (X' + Y') :=
  ⟨h, by rw [hX.2, hY.2]; ring⟩

end Lane

theorem split_inj {L a c x y : Nat} (ha : a < 2 ^ L) (hc : c < 2 ^ L)
    (h : a + 2 ^ L * x = c + 2 ^ L * y) : a = c ∧ x = y := by
  have h1 : a = c := by
    have := congrArg (· % 2 ^ L) h
    simpa [Nat.add_mul_mod_self_left, Nat.mod_eq_of_lt ha, Nat.mod_eq_of_lt hc] using this
  subst h1
  exact ⟨rfl, Nat.eq_of_mul_eq_mul_left (Nat.two_pow_pos L) (Nat.add_left_cancel h)⟩

theorem pack_inj {L : Nat} : ∀ l₁ l₂ : List Nat, l₁.length = l₂.length → (∀ v ∈ l₁, v < 2 ^ L) →
    (∀ v ∈ l₂, v < 2 ^ L) → pack L l₁ = pack L l₂ → l₁ = l₂
  | [], [], _, _, _, _ => rfl
  | [], _ :: _, hn, _, _, _ => by simp at hn
  | _ :: _, [], hn, _, _, _ => by simp at hn
  | v :: l₁, u :: l₂, hn, h₁, h₂, h => by
    obtain ⟨e, h'⟩ := split_inj (h₁ v (by simp)) (h₂ u (by simp)) h
    rw [e, pack_inj l₁ l₂ (by simpa using hn) (fun w hw => h₁ w (by simp [hw]))
      (fun w hw => h₂ w (by simp [hw])) h']

theorem pack_xor_map {τ : Type} (L : Nat) (g h : τ → Nat) : ∀ T : List τ,
    (∀ t ∈ T, g t < 2 ^ L) → (∀ t ∈ T, h t < 2 ^ L) →
    pack L (T.map g) ^^^ pack L (T.map h) = pack L (T.map fun t => g t ^^^ h t) := by
  intro T
  induction T with
  | nil => intro _ _; simp [pack]
  | cons t T ih =>
    intro hg hh
    simp only [List.map_cons, pack]
    rw [((Lane.mk' (hg t (by simp)) _).xor (Lane.mk' (hh t (by simp)) _)).2,
      ih (fun u hu => hg u (by simp [hu])) (fun u hu => hh u (by simp [hu]))]

/-- a big-number operation `F` (with two mask arguments: `m` resp. `1` in every lane) that acts on
the lowest lane by `f` and on the remaining lanes by itself acts on every lane of a packed vector
by `f`. -/
theorem pack_lanewise {L m : Nat} {F : Nat → Nat → Nat → Nat} {f : Nat → Nat} (hm : m < 2 ^ L)
    (hL : 1 < 2 ^ L) (h0 : F 0 0 0 = 0)
    (hF : ∀ {M M' O O' V v V'}, Lane L M m M' → Lane L O 1 O' → Lane L V v V' →
      Lane L (F M O V) (f v) (F M' O' V')) :
    ∀ (n : Nat) (l : List Nat), l.length = n → (∀ v ∈ l, v < 2 ^ L) →
      F (rep L n m) (rep L n 1) (pack L l) = pack L (l.map f) := by
  intro n l hn
  subst hn
  induction l with
  | nil => intro _; exact h0
  | cons v t ih =>
    intro hl
    simp only [List.length_cons, rep_succ, pack, List.map_cons]
    rw [(hF (Lane.mk' hm _) (Lane.mk' hL _) (Lane.mk' (hl v (by simp)) _)).2,
      ih (fun u hu => hl u (by simp [hu]))]

theorem bit_mul_lt {L g : Nat} (x : Nat) (hg : g < 2 ^ L) : (x &&& 1) * g < 2 ^ L :=
  Nat.lt_of_le_of_lt (Nat.le_trans (Nat.mul_le_mul_right g Nat.and_le_right) (Nat.le_of_eq (Nat.one_mul g))) hg

theorem bit_mul_xor (x y g : Nat) :
    ((x &&& 1) ^^^ (y &&& 1)) * g = ((x &&& 1) * g) ^^^ ((y &&& 1) * g) := by
  rw [Nat.and_one_is_mod, Nat.and_one_is_mod]
  rcases Nat.mod_two_eq_zero_or_one x with hx | hx <;> rcases Nat.mod_two_eq_zero_or_one y with hy | hy <;>
    simp [hx, hy]

section Lin
variable (a s m : Nat) (g : Nat → Nat)

/-- one lane.  With `a = 5`, `s = W`, `m = 2^W - 1` and the generators `g 0, …, g 4` this is the
register step `c ↦ pmStep W G c 0` (`Gens.sLin_eq`); with `a = 0` it is a GF(2)-linear map of the five
bits from `s` on (`bPh`), and `sLin 0 0 0 g t` is the XOR of the `g i` selected by the bits of `t`. -/
def sLin (v : Nat) : Nat :=
  ((v &&& m) <<< a) ^^^
    ((((v >>> s) &&& 1) * g 0) ^^^ ((((v >>> (s + 1)) &&& 1) * g 1) ^^^
      ((((v >>> (s + 2)) &&& 1) * g 2) ^^^ ((((v >>> (s + 3)) &&& 1) * g 3) ^^^
        (((v >>> (s + 4)) &&& 1) * g 4)))))

/-- all lanes: `M` is `m` in every lane, `O` is `1` in every lane.  Written, like `vTest` and the
loops below, with the raw `Nat` primitives so that a round costs the kernel as little as possible;
`vLin_eq` states it in ordinary notation. -/
def vLin (M O V : Nat) : Nat :=
  Nat.xor (Nat.shiftLeft (Nat.land V M) a)
    (Nat.xor (Nat.mul (Nat.land (Nat.shiftRight V s) O) (g 0))
      (Nat.xor (Nat.mul (Nat.land (Nat.shiftRight V (Nat.add s 1)) O) (g 1))
        (Nat.xor (Nat.mul (Nat.land (Nat.shiftRight V (Nat.add s 2)) O) (g 2))
          (Nat.xor (Nat.mul (Nat.land (Nat.shiftRight V (Nat.add s 3)) O) (g 3))
            (Nat.mul (Nat.land (Nat.shiftRight V (Nat.add s 4)) O) (g 4))))))

theorem vLin_eq (M O V : Nat) : vLin a s g M O V =
    ((V &&& M) <<< a) ^^^
      ((((V >>> s) &&& O) * g 0) ^^^ ((((V >>> (s + 1)) &&& O) * g 1) ^^^
        ((((V >>> (s + 2)) &&& O) * g 2) ^^^ ((((V >>> (s + 3)) &&& O) * g 3) ^^^
          (((V >>> (s + 4)) &&& O) * g 4))))) := rfl

theorem sLin_xor (x y : Nat) : sLin a s m g (x ^^^ y) = sLin a s m g x ^^^ sLin a s m g y := by
  simp only [sLin, Nat.and_xor_distrib_right, Nat.shiftLeft_xor_distrib, Nat.shiftRight_xor_distrib,
    bit_mul_xor]
  ac_rfl

variable {L : Nat} (hm : m * 2 ^ a < 2 ^ L) (hs : s + 4 < L) (hg : ∀ i, i < 5 → g i < 2 ^ L)

include hm in
theorem shl_mask_lt (v : Nat) : (v &&& m) <<< a < 2 ^ L := by
  rw [Nat.shiftLeft_eq]
  exact Nat.lt_of_le_of_lt (Nat.mul_le_mul_right _ Nat.and_le_right) hm

include hm hg in
theorem sLin_lt (v : Nat) : sLin a s m g v < 2 ^ L :=
  Nat.xor_lt_two_pow (shl_mask_lt a m hm v) (Nat.xor_lt_two_pow (bit_mul_lt _ (hg 0 (by decide)))
    (Nat.xor_lt_two_pow (bit_mul_lt _ (hg 1 (by decide))) (Nat.xor_lt_two_pow
      (bit_mul_lt _ (hg 2 (by decide))) (Nat.xor_lt_two_pow (bit_mul_lt _ (hg 3 (by decide)))
        (bit_mul_lt _ (hg 4 (by decide)))))))

include hm hs hg in
theorem vLin_lane {M M' O O' V v V' : Nat} (hM : Lane L M m M') (hO : Lane L O 1 O')
    (hV : Lane L V v V') : Lane L (vLin a s g M O V) (sLin a s m g v) (vLin a s g M' O' V') := by
  have t : ∀ i, i ≤ 4 → Lane L (((V >>> (s + i)) &&& O) * g i)
      (((v >>> (s + i)) &&& 1) * g i) (((V' >>> (s + i)) &&& O') * g i) := fun i hi =>
    (hV.shrAnd hO (by omega) (Nat.one_lt_two_pow (by omega))).mul (g i)
      (bit_mul_lt _ (hg i (by omega)))
  rw [vLin_eq, vLin_eq, sLin]
  exact ((hV.and hM).shl a (shl_mask_lt a m hm v)).xor ((t 0 (by omega)).xor ((t 1 (by omega)).xor
    ((t 2 (by omega)).xor ((t 3 (by omega)).xor (t 4 (by omega))))))

include hm hs hg in
theorem vLin_pack (n : Nat) (l : List Nat) (hn : l.length = n) (hl : ∀ v ∈ l, v < 2 ^ L) :
    vLin a s g (rep L n m) (rep L n 1) (pack L l) = pack L (l.map (sLin a s m g)) :=
  pack_lanewise (Nat.lt_of_le_of_lt (Nat.le_mul_of_pos_right m (Nat.two_pow_pos a)) hm)
    (Nat.one_lt_two_pow (by omega)) (by simp [vLin_eq]) (vLin_lane a s m g hm hs hg) n l hn hl

end Lin

section Vec
variable (W : Nat)

/-- in every lane `((v >>> 5) &&& (2^W-1)) + (2^W-1)` reaches bit `W` iff `v ≥ 32`. -/
def vTest (M O V : Nat) : Bool :=
  Nat.beq (Nat.land (Nat.shiftRight (Nat.add (Nat.land (Nat.shiftRight V 5) M) M) W) O) O

def vTestVal (M O V : Nat) : Nat := ((((V >>> 5) &&& M) + M) >>> W) &&& O

theorem vTest_eq (M O V : Nat) : vTest W M O V = Nat.beq (vTestVal W M O V) O := rfl

theorem vTestVal_lane {M M' O O' V v V' : Nat} (hM : Lane (W + 5) M (2 ^ W - 1) M')
    (hO : Lane (W + 5) O 1 O') (hV : Lane (W + 5) V v V') :
    Lane (W + 5) (vTestVal W M O V) (vTestVal W (2 ^ W - 1) 1 v) (vTestVal W M' O' V') := by
  have hmW : 2 ^ W - 1 < 2 ^ W := Nat.sub_lt (Nat.two_pow_pos W) Nat.one_pos
  have h1 := hV.shrAnd hM (by omega : 5 ≤ W + 5) (by rwa [Nat.add_sub_cancel])
  -- the sum stays inside the lane, so that its bit `W` is the carry out of the low `W` bits
  have hsum : ((v >>> 5) &&& (2 ^ W - 1)) + (2 ^ W - 1) < 2 ^ (W + 5) := by
    have hh : (v >>> 5) &&& (2 ^ W - 1) ≤ 2 ^ W - 1 := Nat.and_le_right
    have : 2 ^ (W + 5) = 2 ^ W * 32 := by rw [pow_add]; norm_num
    omega
  exact (h1.add hM hsum).shrAnd hO (by omega : W ≤ W + 5)
    (by rw [Nat.add_sub_cancel_left]; norm_num)

theorem vTestVal_one (v : Nat) (h : vTestVal W (2 ^ W - 1) 1 v = 1) : 32 ≤ v := by
  by_contra hlt
  have h5 : v >>> 5 = 0 := by
    rw [Nat.shiftRight_eq_div_pow]; exact Nat.div_eq_of_lt (by omega)
  unfold vTestVal at h
  rw [h5, Nat.zero_and, Nat.zero_add, Nat.shiftRight_eq_div_pow,
    Nat.div_eq_of_lt (Nat.sub_lt (Nat.two_pow_pos W) (by omega)), Nat.zero_and] at h
  omega

theorem vTest_spec (n : Nat) (l : List Nat) (hn : l.length = n) (hl : ∀ v ∈ l, v < 2 ^ (W + 5))
    (h : vTest W (rep (W + 5) n (2 ^ W - 1)) (rep (W + 5) n 1) (pack (W + 5) l) = true) :
    ∀ v ∈ l, 32 ≤ v := by
  have hone : (1 : Nat) < 2 ^ (W + 5) := Nat.one_lt_two_pow (by omega)
  have hmW : 2 ^ W - 1 < 2 ^ (W + 5) :=
    Nat.lt_of_le_of_lt (Nat.sub_le _ _) (Nat.pow_lt_pow_right (by omega) (by omega))
  have h' := Nat.eq_of_beq_eq_true ((vTest_eq W _ _ _).symm.trans h)
  rw [pack_lanewise (F := vTestVal W) hmW hone (Nat.and_zero _) (vTestVal_lane W) n l hn hl] at h'
  have := pack_inj _ _ (by simp [hn])
    (List.forall_mem_map.2 fun v _ => Nat.lt_of_le_of_lt Nat.and_le_right hone)
    (fun v hv => (List.eq_of_mem_replicate hv).symm ▸ hone) h'
  intro v hv
  exact vTestVal_one W v ((List.eq_replicate_iff.1 this).2 _ (List.mem_map_of_mem hv))

end Vec

theorem pack_push (L : Nat) (l₁ l₂ : List Nat) :
    pack L l₁ + pack L l₂ <<< (L * l₁.length) = pack L (l₁ ++ l₂) := by
  induction l₁ with
  | nil => simp [pack]
  | cons v t ih =>
    simp only [List.cons_append, pack, ← ih, List.length_cons, Nat.shiftLeft_eq, Nat.mul_add, pow_add]
    ring

theorem rep_add (L n₁ n₂ v : Nat) : rep L n₁ v + rep L n₂ v <<< (L * n₁) = rep L (n₁ + n₂) v := by
  have := pack_push L (List.replicate n₁ v) (List.replicate n₂ v)
  rwa [List.length_replicate, List.replicate_append_replicate] at this

/-! The loops the kernel evaluates over a packed vector: `stp M O` is the vector step and `tst M O`
the vector test for the lane masks `M`, `O`.  They are written with `Nat.rec` / `Bool.rec` for the
same reason as `vLin`; the `_succ` lemmas state the unfolding in ordinary notation. -/

noncomputable def runV (stp : Nat → Nat) (tst : Nat → Bool) (n : Nat) : Nat → Bool :=
  Nat.rec (motive := fun _ => Nat → Bool) (fun _ => true)
    (fun _ ih V => Bool.rec false (ih (stp V)) (tst (stp V))) n

theorem runV_succ (stp : Nat → Nat) (tst : Nat → Bool) (n V : Nat) :
    runV stp tst (n + 1) V = Bool.rec false (runV stp tst n (stp V)) (tst (stp V)) := rfl

theorem boolrec_true {p q : Bool} (h : (Bool.rec false q p : Bool) = true) : p = true ∧ q = true := by
  cases p
  · exact absurd h (by simp)
  · exact ⟨rfl, h⟩

/-- All positions `k` of the second error are handled in ONE growing vector: after `q` rounds it
holds, for every `k ≤ q` and every lane `t` of the base pattern, the state `x^(q+1-k) (x^k A t ⊕ B t)`.
A round steps the first-error states `A`, pushes the block `A ⊕ B` (second error here) in below the
older blocks, steps everything and hands the result, with the matching masks, to `chk`.  `n` counts
down the distance that is left. -/
noncomputable def loopG (stp : Nat → Nat → Nat → Nat) (chk : Nat → Nat → Nat → Nat → Bool)
    (M₁ O₁ B sh : Nat) (cnt : Nat) : Nat → Nat → Nat → Nat → Nat → Bool :=
  Nat.rec (motive := fun _ => Nat → Nat → Nat → Nat → Nat → Bool)
    (fun _ _ _ _ _ => true)
    (fun _ ih n A V M O =>
      Bool.rec false
        (ih (Nat.pred n) (stp M₁ O₁ A)
          (stp (Nat.add M₁ (Nat.shiftLeft M sh)) (Nat.add O₁ (Nat.shiftLeft O sh))
            (Nat.add (Nat.xor (stp M₁ O₁ A) B) (Nat.shiftLeft V sh)))
          (Nat.add M₁ (Nat.shiftLeft M sh)) (Nat.add O₁ (Nat.shiftLeft O sh)))
        (chk (Nat.pred n) (Nat.add M₁ (Nat.shiftLeft M sh)) (Nat.add O₁ (Nat.shiftLeft O sh))
          (stp (Nat.add M₁ (Nat.shiftLeft M sh)) (Nat.add O₁ (Nat.shiftLeft O sh))
            (Nat.add (Nat.xor (stp M₁ O₁ A) B) (Nat.shiftLeft V sh))))) cnt

theorem loopG_succ (stp : Nat → Nat → Nat → Nat) (chk : Nat → Nat → Nat → Nat → Bool)
    (M₁ O₁ B sh cnt n A V M O : Nat) :
    loopG stp chk M₁ O₁ B sh (cnt + 1) n A V M O
      = Bool.rec false
          (loopG stp chk M₁ O₁ B sh cnt (n - 1) (stp M₁ O₁ A)
            (stp (M₁ + M <<< sh) (O₁ + O <<< sh) ((stp M₁ O₁ A ^^^ B) + V <<< sh))
            (M₁ + M <<< sh) (O₁ + O <<< sh))
          (chk (n - 1) (M₁ + M <<< sh) (O₁ + O <<< sh)
            (stp (M₁ + M <<< sh) (O₁ + O <<< sh) ((stp M₁ O₁ A ^^^ B) + V <<< sh))) := rfl

/-- `k = 1 … n` after a third error, which is not enumerated: `U` runs the states `x^k·2^i` of its
five bits alongside, `phi U'` is a linear map chosen from them, and a step checks that it vanishes
on the symbols, vanishes on `x^k`·symbols, and is `≥ 32` in every lane — so no lane can be brought
below 32 by a symbol added `k` steps earlier (`phi_sound`). -/
noncomputable def runW (stp : Nat → Nat → Nat → Nat) (phi : Nat → Nat → Nat → Nat)
    (tst : Nat → Nat → Nat → Bool) (M₅ O₅ U₀ M O : Nat) (n : Nat) : Nat → Nat → Bool :=
  Nat.rec (motive := fun _ => Nat → Nat → Bool) (fun _ _ => true)
    (fun _ ih U V =>
      Bool.rec false
        (Bool.rec false
          (Bool.rec false (ih (stp M₅ O₅ U) (stp M O V))
            (tst M O (phi (stp M₅ O₅ U) O (stp M O V))))
          (Nat.beq (phi (stp M₅ O₅ U) O₅ (stp M₅ O₅ U)) 0))
        (Nat.beq (phi (stp M₅ O₅ U) O₅ U₀) 0)) n

theorem runW_succ (stp : Nat → Nat → Nat → Nat) (phi : Nat → Nat → Nat → Nat)
    (tst : Nat → Nat → Nat → Bool) (M₅ O₅ U₀ M O n U V : Nat) :
    runW stp phi tst M₅ O₅ U₀ M O (n + 1) U V
      = Bool.rec false
          (Bool.rec false
            (Bool.rec false (runW stp phi tst M₅ O₅ U₀ M O n (stp M₅ O₅ U) (stp M O V))
              (tst M O (phi (stp M₅ O₅ U) O (stp M O V))))
            (Nat.beq (phi (stp M₅ O₅ U) O₅ (stp M₅ O₅ U)) 0))
          (Nat.beq (phi (stp M₅ O₅ U) O₅ U₀) 0) := rfl

section LoopSpec
variable {τ : Type} {L m : Nat} {f : Nat → Nat} {stp : Nat → Nat → Nat → Nat}
  {tst : Nat → Nat → Nat → Bool}
variable (hf : ∀ v, f v < 2 ^ L)
variable (hstp : ∀ (n : Nat) (l : List Nat), l.length = n → (∀ v ∈ l, v < 2 ^ L) →
  stp (rep L n m) (rep L n 1) (pack L l) = pack L (l.map f))
variable (htst : ∀ (n : Nat) (l : List Nat), l.length = n → (∀ v ∈ l, v < 2 ^ L) →
  tst (rep L n m) (rep L n 1) (pack L l) = true →
    ∀ v ∈ l, 32 ≤ v)

include hf hstp htst in
theorem runV_spec (N : Nat) : ∀ (n : Nat) (l : List Nat), l.length = N → (∀ v ∈ l, v < 2 ^ L) →
    runV (stp (rep L N m) (rep L N 1)) (tst (rep L N m) (rep L N 1)) n (pack L l) = true →
    ∀ k, 1 ≤ k → k ≤ n → ∀ v ∈ l, 32 ≤ iter f k v := by
  intro n
  induction n with
  | zero => intro l _ _ _ k h1 h2; omega
  | succ n ih =>
    intro l hN hl h k h1 h2 v hv
    rw [runV_succ, hstp N l hN hl] at h
    obtain ⟨h3, h4⟩ := boolrec_true h
    have hN' : (l.map f).length = N := by rw [List.length_map, hN]
    have hl' : ∀ v ∈ l.map f, v < 2 ^ L := List.forall_mem_map.2 fun u _ => hf u
    match k, h1 with
    | 1, _ => exact htst N _ hN' hl' h3 _ (List.mem_map_of_mem hv)
    | i + 2, _ => exact ih _ hN' hl' h4 (i + 1) (by omega) (by omega) _ (List.mem_map_of_mem hv)

/-- the vector of `loopG` after `q` rounds: for every `k ≤ q`, newest first, the block of lanes
`x^(q+1-k) (x^k A t ⊕ B t)`, `t ∈ T` (first error `A t`, second error `B t` at distance `k`).  The
recursion is one round of the loop. -/
def vecAt (f : Nat → Nat) (T : List τ) (A B : τ → Nat) : Nat → List Nat
  | 0 => []
  | q + 1 => ((T.map fun t => iter f (q + 1) (A t) ^^^ B t) ++ vecAt f T A B q).map f

theorem mem_vecAt {T : List τ} {A B : τ → Nat} {t : τ} (ht : t ∈ T) (k : Nat) : ∀ r,
    iter f (r + 1) (iter f (k + 1) (A t) ^^^ B t) ∈ vecAt f T A B (k + 1 + r)
  | 0 => List.mem_map_of_mem (f := f) (List.mem_append_left _ (List.mem_map_of_mem ht))
  | r + 1 => by
    rw [iter_succ']
    exact List.mem_map_of_mem (List.mem_append_right _ (mem_vecAt ht k r))

include hf in
theorem vecAt_lt (T : List τ) (A B : τ → Nat) : ∀ q, ∀ v ∈ vecAt f T A B q, v < 2 ^ L := by
  intro q
  cases q with
  | zero => intro v hv; simp [vecAt] at hv
  | succ q => exact List.forall_mem_map.2 fun u _ => hf u

variable (T : List τ) (A B : τ → Nat)
variable (hA : ∀ t ∈ T, A t < 2 ^ L) (hB : ∀ t ∈ T, B t < 2 ^ L)

include hf hstp hA hB in
/-- what `loopG` hands to `chk` in round `j` (rounds counted from 0, `q` rounds done before). -/
theorem loopG_spec (chk : Nat → Nat → Nat → Nat → Bool) : ∀ cnt q n,
    loopG stp chk (rep L T.length m) (rep L T.length 1) (pack L (T.map B)) (L * T.length) cnt n
      (pack L (T.map fun t => iter f q (A t))) (pack L (vecAt f T A B q))
      (rep L (vecAt f T A B q).length m) (rep L (vecAt f T A B q).length 1) = true →
    ∀ j, j < cnt →
      chk (n - (j + 1)) (rep L (vecAt f T A B (q + j + 1)).length m)
        (rep L (vecAt f T A B (q + j + 1)).length 1) (pack L (vecAt f T A B (q + j + 1))) = true := by
  intro cnt
  induction cnt with
  | zero => intro q n _ j hj; omega
  | succ cnt ih =>
    intro q n h j hj
    have hAq : ∀ q, ∀ t ∈ T, iter f q (A t) < 2 ^ L :=
      fun q t ht => iter_lt (fun c _ => hf c) q _ (hA t ht)
    have hlen : (vecAt f T A B (q + 1)).length = T.length + (vecAt f T A B q).length := by
      simp [vecAt]
    -- the new block `x^(q+1) A ⊕ B` is pushed in below the older ones
    have hV : (pack L (T.map fun t => iter f (q + 1) (A t)) ^^^ pack L (T.map B))
        + pack L (vecAt f T A B q) <<< (L * T.length)
        = pack L ((T.map fun t => iter f (q + 1) (A t) ^^^ B t) ++ vecAt f T A B q) := by
      rw [pack_xor_map L _ B T (hAq (q + 1)) hB, ← pack_push, List.length_map]
    -- one step of everything is the next vector
    have hstep := hstp (vecAt f T A B (q + 1)).length
      ((T.map fun t => iter f (q + 1) (A t) ^^^ B t) ++ vecAt f T A B q) (by simp [vecAt])
      (List.forall_mem_append.2 ⟨List.forall_mem_map.2 fun t ht =>
        Nat.xor_lt_two_pow (hAq (q + 1) t ht) (hB t ht), vecAt_lt hf T A B q⟩)
    rw [loopG_succ, hstp T.length _ (List.length_map _) (List.forall_mem_map.2 (hAq q)),
      List.map_map, show (f ∘ fun t => iter f q (A t)) = fun t => iter f (q + 1) (A t) from
        funext fun t => (iter_succ' f q (A t)).symm, rep_add, rep_add, ← hlen, hV, hstep] at h
    obtain ⟨hchk, hrest⟩ := boolrec_true h
    cases j with
    | zero => exact hchk
    | succ j =>
      have := ih (q + 1) (n - 1) hrest j (by omega)
      rwa [Nat.add_right_comm q 1 j, Nat.sub_sub, Nat.add_comm 1] at this

include hf hstp htst hA hB in
/-- every round tests the whole vector, i.e. every distance `k2` of the second error together with
the distance `k1` that brings it to the present time. -/
theorem loopG_three (cnt : Nat)
    (h : loopG stp (fun _ M O U => tst M O U) (rep L T.length m) (rep L T.length 1)
      (pack L (T.map B)) (L * T.length) cnt 0 (pack L (T.map A)) 0 0 0 = true) :
    ∀ k2 k1, 1 ≤ k2 → 1 ≤ k1 → k1 + k2 ≤ cnt + 1 → ∀ t ∈ T,
      32 ≤ iter f k1 (iter f k2 (A t) ^^^ B t) := by
  intro k2 k1 h2 h1 hk t ht
  obtain ⟨s, rfl⟩ := Nat.exists_eq_add_of_le' h2
  obtain ⟨r, rfl⟩ := Nat.exists_eq_add_of_le' h1
  have hj := loopG_spec hf hstp T A B hA hB _ cnt 0 0 h (s + r) (by omega)
  rw [show 0 + (s + r) + 1 = s + 1 + r by omega] at hj
  exact htst _ _ rfl (vecAt_lt hf T A B _) hj _ (mem_vecAt ht s r)

/-- if the linear map `φ` vanishes on the symbols and on `f^k`·symbols but not on `f^k S`, then no
symbol added to `S` can make `f^k S` a symbol. -/
theorem phi_sound {f φ : Nat → Nat} (hf : ∀ x y, f (x ^^^ y) = f x ^^^ f y)
    (hφ : ∀ x y, φ (x ^^^ y) = φ x ^^^ φ y) (k : Nat) (h0 : ∀ i, i < 5 → φ (2 ^ i) = 0)
    (hk : ∀ i, i < 5 → φ (iter f k (2 ^ i)) = 0) (S : Nat) (hS : φ (iter f k S) ≠ 0)
    (c : Nat) (hc : c < 32) : 32 ≤ iter f k (S ^^^ c) := by
  have hit : ∀ k x y, iter f k (x ^^^ y) = iter f k x ^^^ iter f k y := by
    intro k
    induction k with
    | zero => intro x y; rfl
    | succ k ih => intro x y; show iter f k (f (x ^^^ y)) = _; rw [hf, ih]; rfl
  have hz : ∀ x y : Nat, (0 : Nat) = 0 ^^^ 0 := fun _ _ => rfl
  have z1 : ∀ d, d < 2 ^ 5 → φ d = 0 := lin_ext φ (fun _ => 0) hφ hz 5 h0
  have z2 : ∀ c, c < 2 ^ 5 → φ (iter f k c) = 0 :=
    lin_ext (fun c => φ (iter f k c)) (fun _ => 0) (fun x y => by simp only [hit, hφ]) hz 5 hk
  by_contra hlt
  have hd := z1 _ (Nat.lt_of_not_le hlt)
  rw [hit, hφ, z2 c hc, Nat.xor_zero] at hd
  exact hS hd

theorem pack_eq_zero (L : Nat) : ∀ l : List Nat, pack L l = 0 → ∀ v ∈ l, v = 0 := by
  intro l
  induction l with
  | nil => intro _ v hv; simp at hv
  | cons u l ih =>
    intro h v hv
    simp only [pack, Nat.add_eq_zero_iff, Nat.mul_eq_zero] at h
    rcases List.mem_cons.1 hv with rfl | hv
    · exact h.1
    · exact ih (h.2.resolve_left (Nat.two_pow_pos L).ne') v hv

section Third
variable {phi : Nat → Nat → Nat → Nat} {ph : Nat → Nat → Nat}
variable (hflin : ∀ x y, f (x ^^^ y) = f x ^^^ f y)
variable (hph : ∀ (U n : Nat) (l : List Nat), l.length = n → (∀ v ∈ l, v < 2 ^ L) →
  phi U (rep L n 1) (pack L l) = pack L (l.map (ph U)))
variable (hphlin : ∀ U x y, ph U (x ^^^ y) = ph U x ^^^ ph U y) (hphlt : ∀ U v, ph U v < 2 ^ L)
variable (h5 : 5 ≤ L)

include hf hstp htst hflin hph hphlin hphlt h5 in
theorem runW_spec (N : Nat) : ∀ (n j : Nat) (l : List Nat), l.length = N → (∀ v ∈ l, v < 2 ^ L) →
    runW stp phi tst (rep L 5 m) (rep L 5 1) (pack L ((List.range 5).map fun i => 2 ^ i))
      (rep L N m) (rep L N 1) n (pack L ((List.range 5).map fun i => iter f j (2 ^ i)))
      (pack L (l.map (iter f j))) = true →
    ∀ k, 1 ≤ k → k ≤ n → ∀ v ∈ l, ∀ c, c < 32 → 32 ≤ iter f (j + k) (v ^^^ c) := by
  intro n
  induction n with
  | zero => intro j l _ _ _ k h1 h2; omega
  | succ n ih =>
    intro j l hN hl h k h1 h2 v hv c hc
    have hpow : ∀ u ∈ (List.range 5).map fun i => 2 ^ i, u < 2 ^ L :=
      List.forall_mem_map.2 fun i hi =>
        Nat.pow_lt_pow_right (by decide) (Nat.lt_of_lt_of_le (List.mem_range.1 hi) h5)
    have hU : ∀ j, ∀ u ∈ (List.range 5).map fun i => iter f j (2 ^ i), u < 2 ^ L := fun j =>
      List.forall_mem_map.2 fun i hi =>
        iter_lt (fun c _ => hf c) j _ (hpow _ (List.mem_map_of_mem hi))
    have hV : ∀ j, ∀ u ∈ l.map (iter f j), u < 2 ^ L := fun j =>
      List.forall_mem_map.2 fun u hu => iter_lt (fun c _ => hf c) j _ (hl u hu)
    have hN' : ∀ j, (l.map (iter f j)).length = N := fun j => by rw [List.length_map, hN]
    rw [runW_succ, hstp 5 _ rfl (hU j), hstp N _ (hN' j) (hV j)] at h
    simp only [List.map_map, Function.comp_def, ← iter_succ'] at h
    obtain ⟨h0, h'⟩ := boolrec_true h
    obtain ⟨hk, h''⟩ := boolrec_true h'
    obtain ⟨hS, hrest⟩ := boolrec_true h''
    match k, h1 with
    | 1, _ =>
      -- `φ` vanishes on the symbols and on `x^(j+1)`·symbols, and not on the lane
      rw [hph _ 5 _ rfl hpow] at h0
      rw [hph _ 5 _ rfl (hU (j + 1))] at hk
      rw [hph _ N _ (hN' (j + 1)) (hV (j + 1))] at hS
      have hS' := htst N _ (by rw [List.length_map, hN' (j + 1)])
        (List.forall_mem_map.2 fun _ _ => hphlt _ _) hS _
        (List.mem_map_of_mem (List.mem_map_of_mem hv))
      exact phi_sound hflin (hphlin _) (j + 1)
        (fun i hi => pack_eq_zero L _ (Nat.eq_of_beq_eq_true h0) _
          (List.mem_map_of_mem (List.mem_map_of_mem (List.mem_range.2 hi))))
        (fun i hi => pack_eq_zero L _ (Nat.eq_of_beq_eq_true hk) _
          (List.mem_map_of_mem (List.mem_map_of_mem (List.mem_range.2 hi))))
        v (by omega) c hc
    | i + 2, _ =>
      have := ih (j + 1) l hN hl hrest (i + 1) (by omega) (by omega) v hv c hc
      rwa [show j + 1 + (i + 1) = j + (i + 2) by omega] at this

include hf hstp htst hA hB hflin hph hphlin hphlt h5 in
/-- round `k3 + k2` runs the `k1` that are left for every third symbol at once. -/
theorem loopG_four (cnt n : Nat)
    (h : loopG stp (fun n M O U => runW stp phi tst (rep L 5 m) (rep L 5 1)
        (pack L ((List.range 5).map fun i => 2 ^ i)) M O n
        (pack L ((List.range 5).map fun i => 2 ^ i)) U)
      (rep L T.length m) (rep L T.length 1) (pack L (T.map B)) (L * T.length) cnt n
      (pack L (T.map A)) 0 0 0 = true) :
    ∀ k3 k2 k1, 1 ≤ k3 → 1 ≤ k2 → 1 ≤ k1 → k3 + k2 ≤ cnt + 1 → k1 + k2 + k3 ≤ n + 1 →
      ∀ t ∈ T, ∀ c, c < 32 → 32 ≤ iter f k1 (iter f k2 (iter f k3 (A t) ^^^ B t) ^^^ c) := by
  intro k3 k2 k1 h3 h2 h1 hk hn t ht c hc
  obtain ⟨s, rfl⟩ := Nat.exists_eq_add_of_le' h3
  obtain ⟨r, rfl⟩ := Nat.exists_eq_add_of_le' h2
  have hj := loopG_spec hf hstp T A B hA hB _ cnt 0 n h (s + r) (by omega)
  rw [show 0 + (s + r) + 1 = s + 1 + r by omega] at hj
  have e : ∀ l : List Nat, l.map (iter f 0) = l := fun l => List.map_id' l
  have := runW_spec hf hstp htst hflin hph hphlin hphlt h5 _ _ 0 (vecAt f T A B (s + 1 + r)) rfl
    (vecAt_lt hf T A B _) (by rw [e]; exact hj) k1 h1 (by omega) _ (mem_vecAt ht s r) c hc
  rwa [Nat.zero_add] at this

end Third

end LoopSpec

def sLanes : List Nat := List.range' 1 31

theorem mem_sLanes {a : Nat} : a ∈ sLanes ↔ 1 ≤ a ∧ a < 32 := by
  simp only [sLanes, List.mem_range'_1]

/-- the feedback of `G` is the XOR of the generators `g 0, …, g 4` selected by the bits of the top
symbol, and multiplication by `α` commutes with the step (the two facts `far_of_alpha` asks for). -/
structure Gens (W : Nat) (G g : Nat → Nat) : Prop extends LinReg W G where
  glt : ∀ i, i < 5 → g i < 2 ^ (W + 5)
  eq : ∀ t, t < 32 → G t = ((t &&& 1) * g 0) ^^^ ((((t >>> 1) &&& 1) * g 1) ^^^
    ((((t >>> 2) &&& 1) * g 2) ^^^ ((((t >>> 3) &&& 1) * g 3) ^^^ (((t >>> 4) &&& 1) * g 4))))
  low : ∀ i, i < W → alphaCol i < 2 ^ W
  top : ∀ i, W ≤ i → i < W + 5 →
    smulAlpha (W + 5) (mulX W G (2 ^ i)) = mulX W G (smulAlpha (W + 5) (2 ^ i))

theorem mask_shl_lt (W : Nat) : (2 ^ W - 1) * 2 ^ 5 < 2 ^ (W + 5) := by
  rw [pow_add]
  exact Nat.mul_lt_mul_of_pos_right (Nat.sub_lt (Nat.two_pow_pos W) Nat.one_pos) (Nat.two_pow_pos 5)

section Reg
variable {W : Nat} {G g : Nat → Nat} (hg : Gens W G g)
include hg

theorem Gens.sLin_eq (v : Nat) (hv : v < 2 ^ (W + 5)) : sLin 5 W (2 ^ W - 1) g v = mulX W G v := by
  rw [mulX, pmStep, Nat.xor_zero, hg.eq _ (shr_lt32 hv), sLin]
  simp only [Nat.shiftRight_add]

theorem Gens.stp_spec (n : Nat) (l : List Nat) (hn : l.length = n) (hl : ∀ v ∈ l, v < 2 ^ (W + 5)) :
    vLin 5 W g (rep (W + 5) n (2 ^ W - 1)) (rep (W + 5) n 1) (pack (W + 5) l)
      = pack (W + 5) (l.map (mulX W G)) := by
  rw [vLin_pack 5 W (2 ^ W - 1) g (mask_shl_lt W) (by omega) hg.glt n l hn hl]
  exact congrArg _ (List.map_congr_left fun v hv => hg.sLin_eq v (hl v hv))

theorem Gens.far (w N : Nat) (H : Far (mulX W G) w N 1) : ∀ a, 1 ≤ a → a < 32 → Far (mulX W G) w N a :=
  hg.toLinReg.far_of_alpha hg.low hg.top w N H

/-- two errors within `n + 1` symbols: one lane, first symbol `1`. -/
theorem Gens.weight_two (n : Nat)
    (chk : runV (vLin 5 W g (rep (W + 5) 1 (2 ^ W - 1)) (rep (W + 5) 1 1))
      (vTest W (rep (W + 5) 1 (2 ^ W - 1)) (rep (W + 5) 1 1)) n (pack (W + 5) [1]) = true) :
    ∀ e : List Nat, (∀ x ∈ e, x < 32) → weight e = 2 → e.length ≤ n + 1 → pmRun W G 0 e ≠ 0 :=
  hg.toLinReg.weight_add_two 0 n <| hg.far 0 n <| Far.zero fun k h1 h2 =>
    runV_spec hg.mulX_lt hg.stp_spec (vTest_spec W) 1 n [1] rfl
      (fun _ hv => List.eq_of_mem_singleton hv ▸ Nat.one_lt_two_pow (by omega)) chk k h1 h2 1
      (List.mem_singleton_self 1)

/-- three errors within `cnt + 2` symbols: lanes `b`, first symbol `1`.  `sLanes.map fun b => b` is
`sLanes`, kept in the shape `T.map B` in which `loopG_three` / `loopG_four` take the second symbols. -/
theorem Gens.weight_three (cnt : Nat)
    (chk : loopG (vLin 5 W g) (fun _ M O U => vTest W M O U)
      (rep (W + 5) sLanes.length (2 ^ W - 1)) (rep (W + 5) sLanes.length 1)
      (pack (W + 5) (sLanes.map fun b => b))
      ((W + 5) * sLanes.length) cnt 0 (pack (W + 5) (sLanes.map fun _ => 1)) 0 0 0 = true) :
    ∀ e : List Nat, (∀ x ∈ e, x < 32) → weight e = 3 → e.length ≤ cnt + 2 → pmRun W G 0 e ≠ 0 :=
  hg.toLinReg.weight_add_two 1 (cnt + 1) <| hg.far 1 (cnt + 1) <|
    Far.succ fun k2 b h2 hb1 hb2 => Far.zero fun k1 h1 hk =>
      loopG_three hg.mulX_lt hg.stp_spec (vTest_spec W) sLanes (fun _ => 1) (fun b => b)
        (fun _ _ => Nat.one_lt_two_pow (by omega))
        (fun b hb => lt_pow_of_lt32 (mem_sLanes.1 hb).2) cnt chk k2 k1 h2 h1 (by omega) b
        (mem_sLanes.2 ⟨hb1, hb2⟩)

end Reg

def bGen (i : Nat) : Nat := bech32Generator.getD i 0

def bStp (M O V : Nat) : Nat := vLin 5 25 bGen M O V

theorem bech32_gens : Gens 25 bech32G bGen :=
  { bech32_linReg with
    glt := by decide, eq := by decide +kernel, low := by decide +kernel, top := by decide +kernel }

/-- two errors: `x^k ≥ 32` for `1 ≤ k ≤ 1022` (and `x^1023 = 1`: the bound is sharp). -/
theorem b2_chk : runV (bStp (rep 30 1 (2 ^ 25 - 1)) (rep 30 1 1))
    (vTest 25 (rep 30 1 (2 ^ 25 - 1)) (rep 30 1 1)) 1022 (pack 30 [1]) = true := by decide +kernel

/-- three errors: lanes `b`, distances `k1 + k2 ≤ 255`. -/
theorem b3_chk : loopG bStp (fun _ M O U => vTest 25 M O U) (rep 30 31 (2 ^ 25 - 1))
    (rep 30 31 1) (pack 30 (sLanes.map fun b => b)) (30 * 31) 254 0
    (pack 30 (sLanes.map fun _ => 1)) 0 0 0 = true := by decide +kernel

/-! Four errors: the third symbol is not enumerated.  For the lanes `(k3, b)` at the position of
the third error, `x^k1 (S ⊕ c) ≥ 32` for every symbol `c` says that `x^k1 S` is not in
`(symbols) ⊕ x^k1·(symbols)`.  `x^k1·(symbols)` is the GF(32)-line through `r = x^k1·1`; fixing a
non-zero symbol of `r` as pivot gives a linear map `bPhi` that vanishes on that sum.  How the pivot
and the constants are picked needs no proof: the checker evaluates `bPhi` on the five basis symbols
and on their images (`phi_sound`). -/

/-- lane `i` of the five-lane vector `U` (`1073741823 = 2^30 - 1`). -/
def lane5 (U i : Nat) : Nat := (U >>> (30 * i)) &&& 1073741823

/-- bit position of the first non-zero symbol above the lowest of `x^k1·1` (lane 0 of `U`); the
outer `min … 25` only makes `pickS U ≤ 25` immediate. -/
def pickS (U : Nat) : Nat :=
  min (if (lane5 U 0 >>> 5) &&& 31 ≠ 0 then 5 else if (lane5 U 0 >>> 10) &&& 31 ≠ 0 then 10
    else if (lane5 U 0 >>> 15) &&& 31 ≠ 0 then 15 else if (lane5 U 0 >>> 20) &&& 31 ≠ 0 then 20
    else 25) 25

def gf32InvTab (a : Nat) : Nat :=
  [0, 1, 20, 24, 10, 8, 12, 29, 5, 11, 4, 9, 6, 28, 26, 31, 22, 18, 17, 23, 2, 25, 16, 19, 3, 21,
    14, 30, 13, 7, 27, 15].getD a 0

/-- the upper symbols of `x^k1 · (α^i / ρ)`, `ρ` the pivot symbol of `x^k1·1`: lane `j` of `U` is
`x^k1 · 2^j`, and `sLin 0 0 0 (lane5 U) t` is the XOR of the lanes selected by the bits of `t`. -/
def pickK (i U : Nat) : Nat :=
  sLin 0 0 0 (lane5 U) (iter gf32xt i (gf32InvTab ((lane5 U 0 >>> pickS U) &&& 31)))
    &&& 1073741792

/-- the linear map picked from `U`, on one lane; `1073741792 = 2^30 - 32` keeps the five upper
symbols. -/
def bPh (U v : Nat) : Nat :=
  sLin 0 (pickS U) 1073741792 (fun i => pickK i U) v

def bPhi (U O V : Nat) : Nat :=
  vLin 0 (pickS U) (fun i => pickK i U) (Nat.mul O 1073741792) O V

theorem pickK_lt (i U : Nat) : pickK i U < 2 ^ 30 :=
  Nat.lt_of_le_of_lt Nat.and_le_right (by decide)

theorem bPhi_spec (U n : Nat) (l : List Nat) (hn : l.length = n) (hl : ∀ v ∈ l, v < 2 ^ 30) :
    bPhi U (rep 30 n 1) (pack 30 l) = pack 30 (l.map (bPh U)) := by
  have hs : pickS U + 4 < 30 := by
    have : pickS U ≤ 25 := Nat.min_le_right _ _
    omega
  have := vLin_pack 0 (pickS U) 1073741792 (fun i => pickK i U) (L := 30) (by decide) hs
    (fun i _ => pickK_lt i U) n l hn hl
  rwa [← rep_mul] at this

/-- four errors: lanes `b`, all third symbols, distances `k1 + k2 + k3 ≤ 88`. -/
theorem b4_chk : loopG bStp (fun n M O U => runW bStp bPhi (vTest 25)
      (rep 30 5 (2 ^ 25 - 1)) (rep 30 5 1)
      (pack 30 ((List.range 5).map fun i => 2 ^ i)) M O n
      (pack 30 ((List.range 5).map fun i => 2 ^ i)) U)
    (rep 30 31 (2 ^ 25 - 1)) (rep 30 31 1)
    (pack 30 (sLanes.map fun b => b)) (30 * 31) 86 87 (pack 30 (sLanes.map fun _ => 1)) 0 0 0
    = true := by decide +kernel

theorem bech32_far2 : Far (mulX 25 bech32G) 2 88 1 :=
  Far.succ fun k3 b h3 hb1 hb2 => Far.succ fun k2 c h2 _ hc2 => Far.zero fun k1 h1 hk =>
    loopG_four bech32_linReg.mulX_lt bech32_gens.stp_spec (vTest_spec 25) sLanes (fun _ => 1)
      (fun b => b) (fun _ _ => by norm_num) (fun b hb => by have := mem_sLanes.1 hb; omega)
      bech32_linReg.mulX_linear bPhi_spec
      (fun U => sLin_xor _ _ _ _)
      (fun U => sLin_lt 0 _ 1073741792 _ (L := 30) (by decide) (fun i _ => pickK_lt i U))
      (by decide) 86 87 b4_chk k3 k2 k1 h3 h2 h1 (by omega) (by omega) b
      (mem_sLanes.2 ⟨hb1, hb2⟩) c hc2

theorem bech32_weight_two : ∀ e : List Nat, (∀ x ∈ e, x < 32) → weight e = 2 → e.length ≤ 1023 →
    pmRun 25 bech32G 0 e ≠ 0 :=
  bech32_gens.weight_two 1022 b2_chk

theorem bech32_weight_three : ∀ e : List Nat, (∀ x ∈ e, x < 32) → weight e = 3 → e.length ≤ 256 →
    pmRun 25 bech32G 0 e ≠ 0 :=
  bech32_gens.weight_three 254 b3_chk

theorem bech32_weight_four : ∀ e : List Nat, (∀ x ∈ e, x < 32) → weight e = 4 → e.length ≤ 89 →
    pmRun 25 bech32G 0 e ≠ 0 :=
  bech32_linReg.weight_add_two 2 88 (bech32_gens.far 2 88 bech32_far2)

def cGen (i : Nat) : Nat := (bchGenerator.getD i (0, 0)).2

def cStp (M O V : Nat) : Nat := vLin 5 35 cGen M O V

theorem bch_gens : Gens 35 bchG cGen :=
  { bch_linReg with
    glt := by decide, eq := by decide +kernel, low := by decide +kernel, top := by decide +kernel }

/-- two errors: `x^k ≥ 32` for `1 ≤ k ≤ 1024` (and `x^1025 = 1`: the bound is sharp). -/
theorem c2_chk : runV (cStp (rep 40 1 (2 ^ 35 - 1)) (rep 40 1 1))
    (vTest 35 (rep 40 1 (2 ^ 35 - 1)) (rep 40 1 1)) 1024 (pack 40 [1]) = true := by decide +kernel

/-- three errors: lanes `b`, distances `k1 + k2 ≤ 112`. -/
theorem c3_chk : loopG cStp (fun _ M O U => vTest 35 M O U) (rep 40 31 (2 ^ 35 - 1))
    (rep 40 31 1) (pack 40 (sLanes.map fun b => b)) (40 * 31) 111 0
    (pack 40 (sLanes.map fun _ => 1)) 0 0 0 = true := by decide +kernel

theorem bch_weight_two : ∀ e : List Nat, (∀ x ∈ e, x < 32) → weight e = 2 → e.length ≤ 1025 →
    pmRun 35 bchG 0 e ≠ 0 :=
  bch_gens.weight_two 1024 c2_chk

theorem bch_weight_three : ∀ e : List Nat, (∀ x ∈ e, x < 32) → weight e = 3 → e.length ≤ 113 →
    pmRun 35 bchG 0 e ≠ 0 :=
  bch_gens.weight_three 111 c3_chk

end BipVerif.Model
