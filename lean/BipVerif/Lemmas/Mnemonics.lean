/-
The word-triple codec shared by Monero and Electrum v1 (`MnemonicUtils.BytesChunkToWords` /
`WordsToBytesChunk`).  `chunkToIdx` and `packIdx` (the value `idxToChunk` range-checks) are inverse
to each other between chunk values below `2^32` and index triples below `n`, given `2^32 ≤ n^3`.
The decoder goes by triples of words (`chunksDecode_cons3`, `triples_induction`) and ignores the
trailing `len % 3` words, so decoding the encoded words gives the bytes back and an accepted
phrase is, up to those trailing words, the encoding of its decoding.  Then Monero: the checksum
word (`moneroCk`), and `moneroEncode` / `moneroDecode` written as word-count check, language
selection (`moneroLang`) and `moneroBody`.
-/
import Mathlib.Tactic.Ring
import BipVerif.Lemmas.IntBytes
import BipVerif.Lemmas.Chunks
import BipVerif.Lemmas.WordList
import BipVerif.Model.Mnemonics

namespace BipVerif.Model
open BipVerif

theorem sub_mod_add_mod {n a b : Nat} (ha : a < n) (hb : b < n) :
    ((b + n - a) % n + a) % n = b := by
  rw [Nat.mod_add_mod, Nat.sub_add_cancel (by omega), Nat.add_mod_right, Nat.mod_eq_of_lt hb]

theorem add_mod_sub_mod {n w : Nat} (y : Nat) (hw : w < n) :
    ((y + w) % n + n - w) % n = y % n := by
  rw [Nat.add_sub_assoc (Nat.le_of_lt hw), Nat.mod_add_mod, Nat.add_assoc,
    Nat.add_sub_cancel' (Nat.le_of_lt hw), Nat.add_mod_right]

/-- the packed value of an index triple (before the range check) -/
def packIdx (n a b c : Nat) : Nat :=
  a + n * ((b % n + n - a % n) % n) + n * n * ((c % n + n - b % n) % n)

theorem idxToChunk_eq (n a b c : Nat) :
    idxToChunk n a b c = if 2 ^ 32 ≤ packIdx n a b c then .error .value else .ok (packIdx n a b c) := by
  unfold idxToChunk packIdx
  simp only []
  by_cases h : a + n * ((b % n + n - a % n) % n) + n * n * ((c % n + n - b % n) % n) > 0xFFFFFFFF
  · rw [if_pos h, if_pos (by omega)]; rfl
  · rw [if_neg h, if_neg (by omega)]; rfl

theorem idxToChunk_ok_iff (n a b c x : Nat) :
    idxToChunk n a b c = .ok x ↔ x = packIdx n a b c ∧ x < 2 ^ 32 := by
  rw [idxToChunk_eq]
  split
  · exact ⟨nofun, fun ⟨hx, hlt⟩ => by omega⟩
  · exact ⟨fun h => by cases h; exact ⟨rfl, by omega⟩, fun ⟨hx, _⟩ => by rw [hx]⟩

theorem idxToChunk_error_iff (n a b c : Nat) (e : Err) :
    idxToChunk n a b c = .error e ↔ e = .value ∧ 2 ^ 32 ≤ packIdx n a b c := by
  rw [idxToChunk_eq]
  split
  · exact ⟨fun h => by cases h; exact ⟨rfl, ‹_›⟩, fun ⟨he, _⟩ => by rw [he]⟩
  · exact ⟨nofun, fun ⟨_, h⟩ => absurd h ‹_›⟩

theorem chunkToIdx_eq (n x : Nat) :
    chunkToIdx n x = [x % n, (x / n + x % n) % n, (x / n / n + (x / n + x % n) % n) % n] := rfl

theorem chunkToIdx_lt {n : Nat} (hn : 0 < n) (x : Nat) : ∀ i ∈ chunkToIdx n x, i < n := by
  intro i hi
  rw [chunkToIdx_eq] at hi
  simp only [List.mem_cons, List.not_mem_nil, or_false] at hi
  rcases hi with rfl | rfl | rfl <;> exact Nat.mod_lt _ hn

theorem chunkToIdx_length (n x : Nat) : (chunkToIdx n x).length = 3 := rfl

theorem div_div_lt_of_cube {n x : Nat} (hn : 0 < n) (hcube : 2 ^ 32 ≤ n ^ 3) (hx : x < 2 ^ 32) :
    x / n / n < n := by
  rw [Nat.div_div_eq_div_mul, Nat.div_lt_iff_lt_mul (Nat.mul_pos hn hn)]
  have : n ^ 3 = n * (n * n) := by ring
  omega

theorem packIdx_chunkToIdx {n x : Nat} (hn : 0 < n) (hcube : 2 ^ 32 ≤ n ^ 3) (hx : x < 2 ^ 32) :
    packIdx n (x % n) ((x / n + x % n) % n) ((x / n / n + (x / n + x % n) % n) % n) = x := by
  have h1 : x % n < n := Nat.mod_lt _ hn
  have h2 : (x / n + x % n) % n < n := Nat.mod_lt _ hn
  have h3 : x / n / n < n := div_div_lt_of_cube hn hcube hx
  unfold packIdx
  rw [Nat.mod_mod, Nat.mod_mod, Nat.mod_mod, add_mod_sub_mod (x / n) h1, add_mod_sub_mod (x / n / n) h2,
    Nat.mod_eq_of_lt h3]
  have e1 := Nat.div_add_mod x n
  have e2 := Nat.div_add_mod (x / n) n
  calc x % n + n * (x / n % n) + n * n * (x / n / n)
      = x % n + n * (n * (x / n / n) + x / n % n) := by ring
    _ = x := by rw [e2]; omega

theorem chunkToIdx_packIdx {n a b c : Nat} (ha : a < n) (hb : b < n) (hc : c < n) :
    chunkToIdx n (packIdx n a b c) = [a, b, c] := by
  have hn : 0 < n := by omega
  have hd1 : (b + n - a) % n < n := Nat.mod_lt _ hn
  have hd2 : (c + n - b) % n < n := Nat.mod_lt _ hn
  have hp : packIdx n a b c = a + n * ((b + n - a) % n + n * ((c + n - b) % n)) := by
    unfold packIdx
    rw [Nat.mod_eq_of_lt ha, Nat.mod_eq_of_lt hb, Nat.mod_eq_of_lt hc]; ring
  have hm : packIdx n a b c % n = a := by
    rw [hp, Nat.add_mul_mod_self_left, Nat.mod_eq_of_lt ha]
  have hq : packIdx n a b c / n = (b + n - a) % n + n * ((c + n - b) % n) := by
    rw [hp, Nat.add_mul_div_left _ _ hn, Nat.div_eq_of_lt ha, Nat.zero_add]
  have hq2 : packIdx n a b c / n / n = (c + n - b) % n := by
    rw [hq, Nat.add_mul_div_left _ _ hn, Nat.div_eq_of_lt hd1, Nat.zero_add]
  have hw2 : (packIdx n a b c / n + a) % n = b := by
    rw [hq]
    have : (b + n - a) % n + n * ((c + n - b) % n) + a
        = ((b + n - a) % n + a) + n * ((c + n - b) % n) := by ring
    rw [this, Nat.add_mul_mod_self_left, sub_mod_add_mod ha hb]
  rw [chunkToIdx_eq, hm, hw2, hq2, sub_mod_add_mod hb hc]

theorem wordIdx_of_not_mem_mn {wl : List Nat} {w : Nat} (h : w ∉ wl) : wordIdx wl w = .error .value :=
  wordIdx_of_not_mem h

theorem wordIdx_of_mem_mn {wl : List Nat} {w : Nat} (h : w ∈ wl) : ∃ i, wordIdx wl w = .ok i :=
  ⟨_, wordIdx_of_mem h⟩

theorem chunkBytes_length (little : Bool) (x : Nat) : (chunkBytes little x).length = 4 := by
  unfold chunkBytes; cases little <;> simp

theorem chunkValue_chunkBytes (little : Bool) {x : Nat} (hx : x < 2 ^ 32) :
    chunkValue little (chunkBytes little x) = x := by
  have hx' : x < 256 ^ 4 := by omega
  unfold chunkValue chunkBytes
  cases little
  · simp only [Bool.false_eq_true, if_false]; exact toNatBE_ofNatBE hx'
  · simp only [if_true]; exact toNatLE_ofNatLE hx'

theorem chunkBytes_chunkValue (little : Bool) (c : Bytes) (hc : c.length = 4) :
    chunkBytes little (chunkValue little c) = c := by
  unfold chunkValue chunkBytes
  cases little
  · simp only [Bool.false_eq_true, if_false]; rw [← hc]; exact ofNatBE_toNatBE c
  · simp only [if_true]; rw [← hc]; exact ofNatLE_toNatLE c

theorem chunkValue_lt (little : Bool) (c : Bytes) (hc : c.length = 4) :
    chunkValue little c < 2 ^ 32 := by
  unfold chunkValue
  cases little
  · simp only [Bool.false_eq_true, if_false]; have := toNatBE_lt c; rw [hc] at this; omega
  · simp only [if_true]; have := toNatLE_lt c; rw [hc] at this; omega

/-- the index list produced by `chunksEncode` before the word look-up -/
def encIdx (n : Nat) (little : Bool) (ent : Bytes) : List Nat :=
  (chunksOf 4 ent).flatMap fun c => chunkToIdx n (chunkValue little c)

theorem chunksEncode_eq (wl : List Nat) (little : Bool) (ent : Bytes) :
    chunksEncode wl little ent = (encIdx wl.length little ent).mapM (pyIdx wl) := rfl

theorem encIdx_nil (n : Nat) (little : Bool) : encIdx n little [] = [] := by
  unfold encIdx; simp

theorem encIdx_append (n : Nat) (little : Bool) (c rest : Bytes) (hc : c.length = 4) :
    encIdx n little (c ++ rest) = chunkToIdx n (chunkValue little c) ++ encIdx n little rest := by
  unfold encIdx
  rw [chunksOf_append_of_length 4 (by omega) c rest hc, List.flatMap_cons]

theorem encIdx_lt {n : Nat} (hn : 0 < n) (little : Bool) (ent : Bytes) :
    ∀ i ∈ encIdx n little ent, i < n := by
  intro i hi
  unfold encIdx at hi
  rw [List.mem_flatMap] at hi
  obtain ⟨c, _, hi⟩ := hi
  exact chunkToIdx_lt hn _ i hi

theorem encIdx_length (n : Nat) (little : Bool) (ent : Bytes) (h : ent.length % 4 = 0) :
    (encIdx n little ent).length = ent.length / 4 * 3 := by
  revert h
  refine chunks_induction_of_mod 4 (by omega)
    (fun ent => (encIdx n little ent).length = ent.length / 4 * 3) (by rw [encIdx_nil]; rfl) ?_ ent
  intro c rest hc _ ih
  rw [encIdx_append n little c rest hc, List.length_append, chunkToIdx_length, ih,
    List.length_append, hc]
  omega

/-- `chunksEncode` never fails on a non-empty word list; its only possible error is the
(unreachable) `IndexError` of an empty list. -/
theorem chunksEncode_ok (wl : List Nat) (hwl : 0 < wl.length) (little : Bool) (ent : Bytes) :
    chunksEncode wl little ent = .ok ((encIdx wl.length little ent).map (fun i => wl.getD i 0)) := by
  rw [chunksEncode_eq]; exact mapM_pyIdx wl _ (encIdx_lt hwl little ent)

/-- the body of `chunksDecode` on one word triple -/
def decTriple (wl : List Nat) (little : Bool) (a b c : Nat) : R Bytes := do
  let i ← wordIdx wl a
  let j ← wordIdx wl b
  let k ← wordIdx wl c
  let x ← idxToChunk wl.length i j k
  pure (chunkBytes little x)

theorem take_cons3 (a b c : Nat) (rest : List Nat) :
    (a :: b :: c :: rest).take ((a :: b :: c :: rest).length / 3 * 3)
      = a :: b :: c :: rest.take (rest.length / 3 * 3) := by
  have : (a :: b :: c :: rest).length / 3 * 3 = rest.length / 3 * 3 + 3 := by
    simp only [List.length_cons]; omega
  rw [this]; rfl

theorem chunksDecode_short (wl : List Nat) (little : Bool) (ws : List Nat) (h : ws.length < 3) :
    chunksDecode wl little ws = .ok [] := by
  unfold chunksDecode
  have : ws.length / 3 * 3 = 0 := by omega
  rw [this, List.take_zero, chunksOf_nil]; rfl

theorem chunksDecode_nil (wl : List Nat) (little : Bool) : chunksDecode wl little [] = .ok [] :=
  chunksDecode_short wl little [] (by decide)

theorem chunksDecode_cons3 (wl : List Nat) (little : Bool) (a b c : Nat) (rest : List Nat) :
    chunksDecode wl little (a :: b :: c :: rest)
      = (decTriple wl little a b c >>= fun p => chunksDecode wl little rest >>= fun r =>
          pure (p ++ r)) := by
  unfold chunksDecode
  rw [take_cons3]
  have e : a :: b :: c :: rest.take (rest.length / 3 * 3)
      = [a, b, c] ++ rest.take (rest.length / 3 * 3) := rfl
  rw [e, chunksOf_append_of_length 3 (by omega) _ _ rfl, List.mapM_cons]
  simp only [decTriple, bind_assoc, pure_bind, List.flatten_cons]

/-- the decoder goes by triples of words: fewer than three decode to nothing -/
theorem triples_induction {P : List Nat → Prop} (short : ∀ ws, ws.length < 3 → P ws)
    (step : ∀ a b c rest, P rest → P (a :: b :: c :: rest)) : ∀ ws, P ws
  | [] => short _ (by simp)
  | [_] => short _ (by simp)
  | [_, _] => short _ (by simp)
  | a :: b :: c :: rest => step a b c rest (triples_induction short step rest)

/-- the trailing `len % 3` words (the Monero checksum word) are ignored -/
theorem chunksDecode_take (wl : List Nat) (little : Bool) (ws : List Nat) :
    chunksDecode wl little ws = chunksDecode wl little (ws.take (ws.length / 3 * 3)) := by
  induction ws using triples_induction with
  | short ws h =>
    rw [chunksDecode_short _ _ _ h, chunksDecode_short _ _ _ (by rw [List.length_take]; omega)]
  | step a b c rest ih => rw [take_cons3, chunksDecode_cons3, chunksDecode_cons3, ← ih]

theorem chunksDecode_append_short (wl : List Nat) (little : Bool) (ws t : List Nat)
    (h : ws.length % 3 = 0) (ht : t.length < 3) :
    chunksDecode wl little (ws ++ t) = chunksDecode wl little ws := by
  rw [chunksDecode_take wl little (ws ++ t)]
  have : (ws ++ t).length / 3 * 3 = ws.length := by rw [List.length_append]; omega
  rw [this, List.take_left' rfl]

theorem decTriple_getD (wl : List Nat) (hn : wl.Nodup) (little : Bool) {i j k : Nat}
    (hi : i < wl.length) (hj : j < wl.length) (hk : k < wl.length) :
    decTriple wl little (wl.getD i 0) (wl.getD j 0) (wl.getD k 0)
      = (idxToChunk wl.length i j k >>= fun x => pure (chunkBytes little x)) := by
  unfold decTriple
  rw [wordIdx_getD wl hn i hi, wordIdx_getD wl hn j hj, wordIdx_getD wl hn k hk]
  rfl

theorem decTriple_ok {wl : List Nat} {little : Bool} {a b c : Nat} {p : Bytes}
    (h : decTriple wl little a b c = .ok p) :
    ∃ i j k x, i < wl.length ∧ j < wl.length ∧ k < wl.length ∧ wl.getD i 0 = a ∧ wl.getD j 0 = b
      ∧ wl.getD k 0 = c ∧ x = packIdx wl.length i j k ∧ x < 2 ^ 32 ∧ p = chunkBytes little x := by
  unfold decTriple at h
  rw [bind_eq_ok_iff] at h; obtain ⟨i, hi, h⟩ := h
  rw [bind_eq_ok_iff] at h; obtain ⟨j, hj, h⟩ := h
  rw [bind_eq_ok_iff] at h; obtain ⟨k, hk, h⟩ := h
  rw [bind_eq_ok_iff] at h; obtain ⟨x, hx, h⟩ := h
  cases h
  obtain ⟨hx1, hx2⟩ := (idxToChunk_ok_iff _ _ _ _ _).mp hx
  exact ⟨i, j, k, x, (wordIdx_ok hi).1, (wordIdx_ok hj).1, (wordIdx_ok hk).1, (wordIdx_ok hi).2,
    (wordIdx_ok hj).2, (wordIdx_ok hk).2, hx1, hx2, rfl⟩

theorem decTriple_onlyValue (wl : List Nat) (little : Bool) (a b c : Nat) :
    OnlyValue (decTriple wl little a b c) := by
  unfold decTriple
  simp only [ov, wordIdx_eq, idxToChunk_eq]

theorem decTriple_error {wl : List Nat} {little : Bool} {a b c : Nat} {e : Err}
    (h : decTriple wl little a b c = .error e) : e = .value :=
  (decTriple_onlyValue wl little a b c).h e h

theorem decTriple_of_not_mem {wl : List Nat} {little : Bool} {a b c : Nat}
    (h : a ∉ wl ∨ b ∉ wl ∨ c ∉ wl) : decTriple wl little a b c = .error .value := by
  cases hr : decTriple wl little a b c with
  | error e => rw [decTriple_error hr]
  | ok p =>
    obtain ⟨i, j, k, x, hi, hj, hk, ha, hb, hc, _⟩ := decTriple_ok hr
    rcases h with h | h | h
    · exact absurd (ha ▸ getD_mem hi) h
    · exact absurd (hb ▸ getD_mem hj) h
    · exact absurd (hc ▸ getD_mem hk) h

/-- `chunksDecode` can only fail with `ValueError` (the `.fuel` branch is dead) -/
theorem chunksDecode_onlyValue (wl : List Nat) (little : Bool) (ws : List Nat) :
    OnlyValue (chunksDecode wl little ws) := by
  induction ws using triples_induction with
  | short ws hs => rw [chunksDecode_short _ _ _ hs]; exact .ok _
  | step a b c rest ih =>
    rw [chunksDecode_cons3]
    simp only [ov, ih, decTriple_onlyValue]

theorem chunksDecode_error (wl : List Nat) (little : Bool) (ws : List Nat) (e : Err)
    (h : chunksDecode wl little ws = .error e) : e = .value :=
  (chunksDecode_onlyValue wl little ws).h e h

theorem chunksDecode_of_not_mem (wl : List Nat) (little : Bool) (ws : List Nat)
    (h : ∃ w ∈ ws.take (ws.length / 3 * 3), w ∉ wl) : chunksDecode wl little ws = .error .value := by
  induction ws using triples_induction with
  | short ws hs =>
    obtain ⟨w, hw, -⟩ := h
    rw [show ws.length / 3 * 3 = 0 by omega, List.take_zero] at hw
    cases hw
  | step a b c rest ih =>
    rw [take_cons3] at h
    obtain ⟨w, hw, hnot⟩ := h
    rw [chunksDecode_cons3]
    by_cases habc : a ∉ wl ∨ b ∉ wl ∨ c ∉ wl
    · rw [decTriple_of_not_mem habc]; rfl
    · have hrest : w ∈ rest.take (rest.length / 3 * 3) := by
        simp only [List.mem_cons] at hw
        rcases hw with rfl | rfl | rfl | hw
        · exact absurd (Or.inl hnot) habc
        · exact absurd (Or.inr (Or.inl hnot)) habc
        · exact absurd (Or.inr (Or.inr hnot)) habc
        · exact hw
      cases hp : decTriple wl little a b c with
      | error e => rw [decTriple_error hp]; rfl
      | ok p => rw [ih ⟨w, hrest, hnot⟩]; rfl

theorem chunksDecode_encIdx (wl : List Nat) (hn : wl.Nodup) (hpos : 0 < wl.length)
    (hcube : 2 ^ 32 ≤ wl.length ^ 3) (little : Bool) (ent : Bytes) (h : ent.length % 4 = 0) :
    chunksDecode wl little ((encIdx wl.length little ent).map (fun i => wl.getD i 0)) = .ok ent := by
  revert h
  refine chunks_induction_of_mod 4 (by omega) (fun ent =>
    chunksDecode wl little ((encIdx wl.length little ent).map fun i => wl.getD i 0) = .ok ent)
    ?_ ?_ ent
  · rw [encIdx_nil]; exact chunksDecode_nil wl little
  · intro c rest hc _ ih
    have hx := chunkValue_lt little c hc
    rw [encIdx_append _ _ _ _ hc, chunkToIdx_eq, List.map_append]
    simp only [List.map_cons, List.map_nil, List.cons_append, List.nil_append]
    rw [chunksDecode_cons3, decTriple_getD wl hn little (Nat.mod_lt _ hpos) (Nat.mod_lt _ hpos)
      (Nat.mod_lt _ hpos), (idxToChunk_ok_iff _ _ _ _ _).mpr
        ⟨(packIdx_chunkToIdx hpos hcube hx).symm, hx⟩, ih]
    simp only [ok_bind, pure_eq_ok, chunkBytes_chunkValue little _ hc]

theorem chunksDecode_canonical (wl : List Nat) (little : Bool) (ws : List Nat) (e : Bytes)
    (h : chunksDecode wl little ws = .ok e) :
    e.length = ws.length / 3 * 4 ∧
      (encIdx wl.length little e).map (fun i => wl.getD i 0) = ws.take (ws.length / 3 * 3) := by
  induction ws using triples_induction generalizing e with
  | short ws hs =>
    rw [chunksDecode_short _ _ _ hs] at h
    cases h
    rw [show ws.length / 3 = 0 by omega, encIdx_nil]
    exact ⟨rfl, rfl⟩
  | step a b c rest ih =>
    rw [chunksDecode_cons3, bind_eq_ok_iff] at h
    obtain ⟨p, hp, h⟩ := h
    rw [bind_eq_ok_iff] at h
    obtain ⟨r, hr, h⟩ := h
    cases h
    obtain ⟨i, j, k, x, hi, hj, hk, ha, hb, hc, hx1, hx2, rfl⟩ := decTriple_ok hp
    obtain ⟨ih1, ih2⟩ := ih r hr
    have hlen := chunkBytes_length little x
    refine ⟨?_, ?_⟩
    · rw [List.length_append, hlen, ih1]; simp only [List.length_cons]; omega
    · rw [take_cons3, encIdx_append _ _ _ _ hlen, chunkValue_chunkBytes little hx2, hx1,
        chunkToIdx_packIdx hi hj hk, List.map_append, ih2, ← ha, ← hb, ← hc]
      rfl

/-! For a phrase of whole triples (`3 ∣ length`, every legal phrase without its checksum word) nothing
is ignored. -/

theorem chunksDecode_canonical_triples (wl : List Nat) (little : Bool) {ws : List Nat} {e : Bytes}
    (h3 : ws.length % 3 = 0) (h : chunksDecode wl little ws = .ok e) :
    3 * e.length = 4 * ws.length ∧ (encIdx wl.length little e).map (fun i => wl.getD i 0) = ws := by
  obtain ⟨h1, h2⟩ := chunksDecode_canonical wl little ws e h
  rw [List.take_of_length_le (by omega)] at h2
  exact ⟨by omega, h2⟩

theorem chunksDecode_of_not_mem_triples (wl : List Nat) (little : Bool) {ws : List Nat}
    (h3 : ws.length % 3 = 0) (h : ∃ w ∈ ws, w ∉ wl) : chunksDecode wl little ws = .error .value := by
  apply chunksDecode_of_not_mem
  rwa [List.take_of_length_le (by omega)]

/-! ### Monero: checksum word, structure of encoder and decoder -/

/-- the checksum word of a non-empty phrase: the word at position `crc(prefixes) mod len` -/
def moneroCk (crc : Bytes → Nat) (k : Nat) (ws : List Nat) : Nat :=
  ws.getD (crc (ws.flatMap (wordPrefixBytes k)) % ws.length) 0

theorem moneroChecksumWord_eq (crc : Bytes → Nat) (k : Nat) (ws : List Nat) (h : ws ≠ []) :
    moneroChecksumWord crc k ws = .ok (moneroCk crc k ws) := by
  unfold moneroChecksumWord
  have he : ws.isEmpty = false := by simpa using h
  simp only [he, Bool.false_eq_true, if_false]
  exact pyIdx_getD ws _ (Nat.mod_lt _ (List.length_pos_iff.mpr h))

theorem moneroChecksumWord_nil (crc : Bytes → Nat) (k : Nat) :
    moneroChecksumWord crc k [] = .error .assert := rfl

theorem moneroCk_mem (crc : Bytes → Nat) (k : Nat) {ws : List Nat} (h : ws ≠ []) :
    moneroCk crc k ws ∈ ws :=
  getD_mem (Nat.mod_lt _ (List.length_pos_iff.mpr h))

theorem moneroEncode_eq (crc : Bytes → Nat) (wl : List Nat) (k : Nat) (ck : Bool) (ent : Bytes) :
    moneroEncode crc wl k ck ent
      = if ent.length = 16 ∨ ent.length = 32 then
          chunksEncode wl true ent >>= fun ws =>
            if ck then (moneroChecksumWord crc k ws >>= fun c => pure (ws ++ [c])) else pure ws
        else .error .value := by
  unfold moneroEncode
  by_cases h : ent.length = 16 ∨ ent.length = 32
  · have : (!(decide (ent.length = 16) || decide (ent.length = 32))) = false := by
      rcases h with h | h <;> simp [h]
    simp only [this, Bool.false_eq_true, if_false, if_pos h]
  · have : (!(decide (ent.length = 16) || decide (ent.length = 32))) = true := by
      simp only [not_or] at h; simp [h.1, h.2]
    simp only [this, if_true, if_neg h]
    rfl

theorem moneroEncode_ok (crc : Bytes → Nat) (wl : List Nat) (hpos : 0 < wl.length) (k : Nat)
    (ck : Bool) (ent : Bytes) (h : ent.length = 16 ∨ ent.length = 32) :
    let ws := (encIdx wl.length true ent).map (fun i => wl.getD i 0)
    ws.length = ent.length / 4 * 3 ∧ (ws.length = 12 ∨ ws.length = 24) ∧
      moneroEncode crc wl k ck ent = .ok (if ck then ws ++ [moneroCk crc k ws] else ws) := by
  intro ws
  have h4 : ent.length % 4 = 0 := by rcases h with h | h <;> rw [h]
  have hl : ws.length = ent.length / 4 * 3 := by rw [List.length_map, encIdx_length _ _ ent h4]
  have hw : ws.length = 12 ∨ ws.length = 24 := by
    rw [hl]; exact h.imp (fun h => by rw [h]) (fun h => by rw [h])
  refine ⟨hl, hw, ?_⟩
  rw [moneroEncode_eq, if_pos h, chunksEncode_ok wl hpos true ent, ok_bind]
  cases ck
  · rfl
  · have hne : ws ≠ [] := by intro e; rw [e] at hw; simp at hw
    rw [if_pos rfl, moneroChecksumWord_eq crc k ws hne, if_pos rfl]; rfl

/-- language selection of `moneroDecode` -/
def moneroLang (langs : List (List Nat × Nat)) (lang : Option (List Nat × Nat)) (ws : List Nat) :
    R (List Nat × Nat) :=
  match lang with
  | some l => pure l
  | none => match langs.find? (fun l => ws.all (fun w => l.1.contains w)) with
    | some l => pure l
    | none => throw .value

/-- `moneroDecode` after the word-count check and the language selection -/
def moneroBody (crc : Bytes → Nat) (wl : List Nat) (k : Nat) (ws : List Nat) : R Bytes :=
  if ws.length = 13 ∨ ws.length = 25 then
    moneroChecksumWord crc k (dropLast ws 1) >>= fun ck =>
      if ws.getLast? ≠ some ck then .error .checksum else chunksDecode wl true ws
  else chunksDecode wl true ws

theorem moneroInner_eq (crc : Bytes → Nat) (wl : List Nat) (k : Nat) (ws : List Nat) :
    (if (decide (ws.length = 13) || decide (ws.length = 25)) = true then do
        let ck ← moneroChecksumWord crc k (dropLast ws 1)
        if ws.getLast? ≠ some ck then do
            throw Err.checksum
            chunksDecode wl true ws
          else chunksDecode wl true ws
      else chunksDecode wl true ws) = moneroBody crc wl k ws := by
  unfold moneroBody
  by_cases hc : ws.length = 13 ∨ ws.length = 25
  · have : (decide (ws.length = 13) || decide (ws.length = 25)) = true := by
      rcases hc with hc | hc <;> simp [hc]
    simp only [this, if_true, if_pos hc]
    rfl
  · have : (decide (ws.length = 13) || decide (ws.length = 25)) = false := by
      simp only [not_or] at hc; simp [hc.1, hc.2]
    simp only [this, Bool.false_eq_true, if_false, if_neg hc]

theorem moneroDecode_eq (crc : Bytes → Nat) (langs : List (List Nat × Nat))
    (lang : Option (List Nat × Nat)) (ws : List Nat) :
    moneroDecode crc langs lang ws
      = if ws.length = 12 ∨ ws.length = 13 ∨ ws.length = 24 ∨ ws.length = 25 then
          moneroLang langs lang ws >>= fun l => moneroBody crc l.1 l.2 ws
        else .error .value := by
  unfold moneroDecode
  by_cases h : ws.length = 12 ∨ ws.length = 13 ∨ ws.length = 24 ∨ ws.length = 25
  · have : (!([12, 13, 24, 25].contains ws.length)) = false := by
      rcases h with h | h | h | h <;> simp [h]
    simp only [this, Bool.false_eq_true, if_false, if_pos h]
    unfold moneroLang
    cases lang with
    | some l => simp only [pure_bind]; exact moneroInner_eq crc l.1 l.2 ws
    | none =>
      simp only []
      cases hf : langs.find? (fun l => ws.all (fun w => l.1.contains w)) with
      | some l => simp only [pure_bind]; exact moneroInner_eq crc l.1 l.2 ws
      | none => rfl
  · have : (!([12, 13, 24, 25].contains ws.length)) = true := by
      simp only [not_or] at h; simp [h.1, h.2.1, h.2.2.1, h.2.2.2]
    simp only [this, if_true, if_neg h]
    rfl

theorem moneroLang_some (langs : List (List Nat × Nat)) (l : List Nat × Nat) (ws : List Nat) :
    moneroLang langs (some l) ws = .ok l := rfl

theorem moneroLang_error {langs : List (List Nat × Nat)} {lang : Option (List Nat × Nat)}
    {ws : List Nat} {e : Err} (h : moneroLang langs lang ws = .error e) : e = .value := by
  unfold moneroLang at h
  cases lang with
  | some l => cases h
  | none =>
    simp only at h
    cases hf : langs.find? (fun l => ws.all (fun w => l.1.contains w)) with
    | some l => rw [hf] at h; cases h
    | none => rw [hf] at h; cases h; rfl

theorem moneroBody_plain (crc : Bytes → Nat) (wl : List Nat) (k : Nat) {ws : List Nat}
    (h : ws.length = 12 ∨ ws.length = 24) : moneroBody crc wl k ws = chunksDecode wl true ws := by
  unfold moneroBody; rw [if_neg (by omega)]

theorem moneroBody_concat (crc : Bytes → Nat) (wl : List Nat) (k : Nat) {ws : List Nat} (c : Nat)
    (h : ws.length = 12 ∨ ws.length = 24) :
    moneroBody crc wl k (ws ++ [c])
      = if c = moneroCk crc k ws then chunksDecode wl true ws else .error .checksum := by
  have hne : ws ≠ [] := by intro e; rw [e] at h; simp at h
  unfold moneroBody
  rw [if_pos (by rw [List.length_append, List.length_singleton]; omega),
    dropLast_append_of_length ws [c] 1 rfl, moneroChecksumWord_eq crc k ws hne, ok_bind,
    List.getLast?_concat, chunksDecode_append_short wl true ws [c] (by omega) (by simp)]
  by_cases hc : c = moneroCk crc k ws
  · rw [if_pos hc, if_neg (by rw [hc]; exact fun h => h rfl)]
  · rw [if_neg hc, if_pos (by simpa using hc)]

theorem exists_concat_of_length {ws : List Nat} (h : ws.length = 13 ∨ ws.length = 25) :
    ∃ ws0 c, ws = ws0 ++ [c] ∧ (ws0.length = 12 ∨ ws0.length = 24) := by
  rcases List.eq_nil_or_concat ws with rfl | ⟨ws0, c, rfl⟩
  · simp at h
  · exact ⟨ws0, c, List.concat_eq_append, by simpa using h⟩

/-- 12 or 24 words carry 16 or 32 bytes -/
theorem monero_entropy_length {n m : Nat} (h : 3 * n = 4 * m) (hm : m = 12 ∨ m = 24) :
    n = 16 ∨ n = 32 :=
  hm.imp (by omega) (by omega)

theorem moneroDecode_plain (crc : Bytes → Nat) (langs : List (List Nat × Nat)) (wl : List Nat)
    (k : Nat) {ws : List Nat} (h : ws.length = 12 ∨ ws.length = 24) :
    moneroDecode crc langs (some (wl, k)) ws = chunksDecode wl true ws := by
  rw [moneroDecode_eq, if_pos (by omega), moneroLang_some, ok_bind, moneroBody_plain crc wl k h]

theorem moneroDecode_concat (crc : Bytes → Nat) (langs : List (List Nat × Nat)) (wl : List Nat)
    (k : Nat) {ws : List Nat} (c : Nat) (h : ws.length = 12 ∨ ws.length = 24) :
    moneroDecode crc langs (some (wl, k)) (ws ++ [c])
      = if c = moneroCk crc k ws then chunksDecode wl true ws else .error .checksum := by
  rw [moneroDecode_eq, if_pos (by rw [List.length_append, List.length_singleton]; omega),
    moneroLang_some, ok_bind, moneroBody_concat crc wl k c h]

theorem moneroBody_error {crc : Bytes → Nat} {wl : List Nat} {k : Nat} {ws : List Nat} {e : Err}
    (hlen : ws.length = 12 ∨ ws.length = 13 ∨ ws.length = 24 ∨ ws.length = 25)
    (h : moneroBody crc wl k ws = .error e) : e = .value ∨ e = .checksum := by
  by_cases hc : ws.length = 13 ∨ ws.length = 25
  · obtain ⟨ws0, c, rfl, h0⟩ := exists_concat_of_length hc
    rw [moneroBody_concat crc wl k c h0] at h
    split at h
    · exact Or.inl (chunksDecode_error wl true ws0 e h)
    · cases h; exact Or.inr rfl
  · rw [moneroBody_plain crc wl k (by omega)] at h
    exact Or.inl (chunksDecode_error wl true ws e h)

end BipVerif.Model
