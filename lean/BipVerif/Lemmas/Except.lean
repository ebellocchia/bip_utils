/-
Reasoning about the model's result type `R = Except Err`, shared by all lemma files:
* `>>=`, `pure`, `throw` on the two constructors, inversion of `>>=` on success and on failure,
  the `do`-block guard `if c then throw e`, `pyIdx` and `mapM`;
* the calculus of error kinds.  `Only P r` says that every error `r` can return satisfies `P`;
  `OnlyValue r` is the case "only `ValueError`" in which the address layer states its clauses.
  Both are compositional along `>>=`, `if`, `<$>`, `mapM`, `foldlM`, and for `>>=` and `if` the
  rule is an equivalence, which is what lets the simp set `ov` walk a `do` block.
  `Only` is declared in namespace `C14MoreLemmas`: that is its name throughout the development.
  `OnlyValue` is a structure of its own, not an abbreviation of `Only (· = .value)`, because the
  address layer states its lemmas and its `@[ov]` leaves with it; `onlyValue_iff` converts.
-/
import BipVerif.Model.Basic
import BipVerif.Lemmas.ErrAttr

namespace BipVerif.Model
open BipVerif

-- these close the residual `∀ a, x = .ok a → True` goals that the `iff` rules below leave
attribute [ov] implies_true false_implies and_self and_true true_and forall_const Prod.forall

theorem ok_bind {α β} (a : α) (f : α → R β) : ((Except.ok a : R α) >>= f) = f a := rfl
theorem error_bind {α β} (e : Err) (f : α → R β) : ((Except.error e : R α) >>= f) = .error e := rfl
theorem pure_eq_ok {α} (a : α) : (pure a : R α) = .ok a := rfl
theorem throw_eq_error {α} (e : Err) : (throw e : R α) = .error e := rfl
theorem throw_bind {α β} (e : Err) (f : α → R β) : ((throw e : R α) >>= f) = .error e := rfl

theorem pyIdx_eq_ok {α} {l : List α} {i : Nat} {x : α} (h : l[i]? = some x) : pyIdx l i = .ok x := by
  unfold pyIdx; rw [h]; rfl

theorem pyIdx_of_lt {α} (l : List α) (i : Nat) (h : i < l.length) : pyIdx l i = .ok l[i] :=
  pyIdx_eq_ok (List.getElem?_eq_getElem h)

theorem pyIdx_ok {α} {l : List α} {i : Nat} {x : α} (h : pyIdx l i = .ok x) : l[i]? = some x := by
  unfold pyIdx at h
  cases hx : l[i]? with
  | none => rw [hx] at h; cases h
  | some y => rw [hx] at h; cases Except.ok.inj h; rfl

theorem pyIdx_zero_ok_inv {α} {l : List α} {a : α} (h : pyIdx l 0 = .ok a) : ∃ t, l = a :: t := by
  cases l with
  | nil => cases h
  | cons x t => exact ⟨t, by cases h; rfl⟩

universe u
variable {α β : Type u}

theorem bind_ok_eq {x : R α} {f : α → R β} {a : α} (h : x = .ok a) : (x >>= f) = f a := by
  rw [h]; rfl

theorem bind_error_eq {α β} {x : R α} {f : α → R β} {e : Err} (h : x = .error e) :
    (x >>= f) = .error e := by
  rw [h]; rfl

theorem bind_eq_ok_iff {x : R α} {f : α → R β} {b : β} :
    (x >>= f) = .ok b ↔ ∃ a, x = .ok a ∧ f a = .ok b := by
  cases x with
  | error e => exact ⟨fun h => (nomatch h), fun ⟨_, h, _⟩ => nomatch h⟩
  | ok a => exact ⟨fun h => ⟨a, rfl, h⟩, fun ⟨_, h, h'⟩ => Except.ok.inj h ▸ h'⟩

theorem bind_eq_error_iff {x : R α} {f : α → R β} {e : Err} :
    (x >>= f) = .error e ↔ x = .error e ∨ ∃ a, x = .ok a ∧ f a = .error e := by
  cases x with
  | error e' =>
    rw [error_bind]
    exact ⟨fun h => .inl (by cases h; rfl), fun h => h.elim (fun h => by cases h; rfl) fun ⟨_, h, _⟩ => nomatch h⟩
  | ok a => exact ⟨fun h => .inr ⟨a, rfl, h⟩, fun h => h.elim (nomatch ·) fun ⟨_, h, h'⟩ => Except.ok.inj h ▸ h'⟩

theorem bind_eq_error_iff_left {x : R α} {f : α → R β} {e : Err} (hf : ∀ a, f a ≠ .error e) :
    (x >>= f) = .error e ↔ x = .error e := by
  rw [bind_eq_error_iff]
  exact ⟨fun h => h.elim id fun ⟨a, _, h⟩ => absurd h (hf a), .inl⟩

theorem bind_ok_inv {x : R α} {f : α → R β} {b : β} (h : (x >>= f) = .ok b) :
    ∃ a, x = .ok a ∧ f a = .ok b := bind_eq_ok_iff.mp h

theorem bind_error_inv {x : R α} {f : α → R β} {e : Err} (h : (x >>= f) = .error e) :
    x = .error e ∨ ∃ a, x = .ok a ∧ f a = .error e := bind_eq_error_iff.mp h

theorem ite_bind {c : Prop} [Decidable c] (x y : R α) (f : α → R β) :
    (if c then x else y) >>= f = if c then x >>= f else y >>= f :=
  apply_ite (· >>= f) c x y

/-- `if c then throw e >>= f else body` is what `if c then throw e` in front of `body` elaborates to
in a `do` block (`f`, the rest of the block, is dead). -/
theorem guard_ok_inv {c : Prop} [Decidable c] {e : Err} {f : α → R β} {body : R β} {b : β}
    (h : (if c then ((throw e : R α) >>= f) else body) = .ok b) : ¬ c ∧ body = .ok b := by
  by_cases hc : c
  · rw [if_pos hc, throw_bind] at h; cases h
  · rw [if_neg hc] at h; exact ⟨hc, h⟩

theorem guard_ne_ok_inv {γ} [DecidableEq γ] {x y : γ} {e : Err} {f : α → R β} {body : R β}
    {b : β} (h : (if x ≠ y then ((throw e : R α) >>= f) else body) = .ok b) :
    x = y ∧ body = .ok b :=
  (guard_ok_inv h).imp_left Decidable.of_not_not

theorem guard_bne_ok_inv {γ} [BEq γ] [LawfulBEq γ] {x y : γ} {e : Err} {f : α → R β} {body : R β} {b : β}
    (h : (if (x != y) = true then ((throw e : R α) >>= f) else body) = .ok b) :
    x = y ∧ body = .ok b :=
  (guard_ok_inv h).imp_left fun hc => by simpa using hc

theorem guard_error_inv {c : Prop} [Decidable c] {e e' : Err} {f : α → R β} {body : R β}
    (h : (if c then ((throw e : R α) >>= f) else body) = .error e') :
    (c ∧ e' = e) ∨ (¬ c ∧ body = .error e') := by
  by_cases hc : c
  · rw [if_pos hc, throw_bind] at h; exact Or.inl ⟨hc, (Except.error.inj h).symm⟩
  · rw [if_neg hc] at h; exact Or.inr ⟨hc, h⟩

theorem guard_neg {c : Prop} [Decidable c] {e : Err} {f : α → R β} {body : R β} (hc : ¬ c) :
    (if c then ((throw e : R α) >>= f) else body) = body := if_neg hc

theorem guard_pos {c : Prop} [Decidable c] {e : Err} {f : α → R β} {body : R β} (hc : c) :
    (if c then ((throw e : R α) >>= f) else body) = .error e := by
  rw [if_pos hc, throw_bind]

theorem ite_error_eq_ok (c : Prop) [Decidable c] (e : Err) (x : R α) (v : α) :
    (if c then .error e else x) = .ok v ↔ ¬ c ∧ x = .ok v := by
  by_cases hc : c <;> simp [hc]

theorem ite_else_error_eq_ok (c : Prop) [Decidable c] (x : R α) (e : Err) (v : α) :
    (if c then x else .error e) = .ok v ↔ c ∧ x = .ok v := by
  by_cases hc : c
  · rw [if_pos hc]; exact (and_iff_right hc).symm
  · rw [if_neg hc]; exact ⟨nofun, fun h => absurd h.1 hc⟩

theorem guard_not (b : Bool) (e : Err) (f : α → R β) (body : R β) :
    (if (!b) = true then ((throw e : R α) >>= f) else body) = if b = true then body else .error e := by
  cases b <;> rfl

/-- after a `throw` nothing runs: the continuation's side goals are vacuous -/
@[ov] theorem throw_eq_ok (e : Err) (a : α) : ((throw e : R α) = .ok a) = False := eq_false nofun

theorem pure_ok_inv {a b : α} (h : (pure a : R α) = .ok b) : a = b := by cases h; rfl

theorem bind_pure_eq_ok_iff {x : R α} {g : α → β} {b : β} :
    (x >>= fun a => pure (g a)) = .ok b ↔ ∃ a, x = .ok a ∧ b = g a := by
  rw [bind_eq_ok_iff]
  exact exists_congr fun a => and_congr_right fun _ =>
    ⟨fun h => (Except.ok.inj h).symm, fun h => h ▸ rfl⟩

theorem bind_pure_ok_inv {x : R α} {g : α → β} {b : β}
    (h : (x >>= fun a => pure (g a)) = .ok b) : ∃ a, x = .ok a ∧ b = g a :=
  bind_pure_eq_ok_iff.mp h

namespace C14MoreLemmas

structure Only {α} (P : Err → Prop) (r : R α) : Prop where
  h : ∀ e, r = .error e → P e

namespace Only
variable {P Q : Err → Prop}

theorem intro {r : R α} (h : ∀ e, r = .error e → P e) : Only P r := ⟨h⟩

theorem ok (a : α) : Only P (Except.ok a : R α) := ⟨fun _ h => by cases h⟩
theorem pure (a : α) : Only P (Pure.pure a : R α) := ok a
theorem error {e : Err} (h : P e) : Only P (Except.error e : R α) := ⟨fun _ h' => by cases h'; exact h⟩
theorem throw {e : Err} (h : P e) : Only P (MonadExcept.throw e : R α) := error h

@[ov] theorem ok_iff (a : α) : Only P (Except.ok a : R α) ↔ True := iff_true_intro (ok a)
@[ov] theorem pure_iff (a : α) : Only P (Pure.pure a : R α) ↔ True := iff_true_intro (ok a)
@[ov] theorem error_iff {e : Err} : Only P (Except.error e : R α) ↔ P e := ⟨fun h => h.h e rfl, error⟩
@[ov] theorem throw_iff {e : Err} : Only P (MonadExcept.throw e : R α) ↔ P e := error_iff

@[ov] theorem bind_iff {x : R α} {f : α → R β} :
    Only P (x >>= f) ↔ Only P x ∧ ∀ a, x = .ok a → Only P (f a) := by
  cases x with
  | error e => exact ⟨fun h => ⟨error (h.h e rfl), fun _ h' => nomatch h'⟩, fun h => error (h.1.h e rfl)⟩
  | ok a => exact ⟨fun h => ⟨ok a, fun _ h' => by cases h'; exact h⟩, fun h => h.2 a rfl⟩

theorem bind {x : R α} {f : α → R β} (hx : Only P x) (hf : ∀ a, x = .ok a → Only P (f a)) :
    Only P (x >>= f) := bind_iff.mpr ⟨hx, hf⟩

@[ov] theorem ite_iff {c : Prop} [Decidable c] {a b : R α} :
    Only P (if c then a else b) ↔ (c → Only P a) ∧ (¬ c → Only P b) := by
  by_cases h : c <;> simp [h]

theorem ite {c : Prop} [Decidable c] {a b : R α} (ha : c → Only P a) (hb : ¬ c → Only P b) :
    Only P (if c then a else b) := ite_iff.mpr ⟨ha, hb⟩

theorem guard {c : Prop} [Decidable c] {e : Err} {f : α → R β} {body : R β} (he : P e) (hb : Only P body) :
    Only P (if c then ((MonadExcept.throw e : R α) >>= f) else body) :=
  ite (fun _ => error he) fun _ => hb

@[ov] theorem map_iff {x : R α} (f : α → β) : Only P (f <$> x) ↔ Only P x := by
  cases x with
  | error e => exact ⟨fun h => error (h.h e rfl), fun h => error (h.h e rfl)⟩
  | ok a => exact ⟨fun _ => ok a, fun _ => ok (f a)⟩

theorem map {x : R α} (f : α → β) (hx : Only P x) : Only P (f <$> x) := (map_iff f).mpr hx

theorem mono {r : R α} (h : Only P r) (hpq : ∀ e, P e → Q e) : Only Q r :=
  ⟨fun e he => hpq e (h.h e he)⟩

theorem of_eq {k : Err} {r : R α} (h : ∀ e, r = .error e → e = k) (hk : P k) : Only P r :=
  ⟨fun e he => h e he ▸ hk⟩

theorem of_or {k₁ k₂ : Err} {r : R α} (h : ∀ e, r = .error e → e = k₁ ∨ e = k₂) (h₁ : P k₁) (h₂ : P k₂) :
    Only P r :=
  ⟨fun e he => (h e he).elim (· ▸ h₁) (· ▸ h₂)⟩

theorem mapM {α β : Type} {f : α → R β} (hf : ∀ a, Only P (f a)) : ∀ l : List α, Only P (l.mapM f)
  | [] => ok _
  | a :: l => by
    rw [List.mapM_cons]
    exact bind (hf a) fun _ _ => bind (mapM hf l) fun _ _ => pure _

theorem foldlM {α β : Type} {f : β → α → R β} (hf : ∀ b a, Only P (f b a)) :
    ∀ (l : List α) (b : β), Only P (l.foldlM f b)
  | [], b => ok b
  | a :: l, b => by
    rw [List.foldlM_cons]
    exact bind (hf b a) fun b' _ => foldlM hf l b'

end Only
end C14MoreLemmas

open C14MoreLemmas (Only)

structure OnlyValue {α} (r : R α) : Prop where
  h : ∀ e, r = .error e → e = .value

theorem onlyValue_iff {r : R α} : OnlyValue r ↔ Only (· = .value) r := ⟨fun h => ⟨h.h⟩, fun h => ⟨h.h⟩⟩

namespace C14MoreLemmas.Only
variable {P : Err → Prop}

theorem to_ov {r : R α} (h : Only (· = .value) r) : OnlyValue r := onlyValue_iff.mpr h

/-- a `ValueError`-only computation inside a larger family of error kinds (as a simp lemma: tried on
the leaves of a `do` block that have no `Only` lemma, with `OnlyValue r` left to the same simp set) -/
@[ov low] theorem of_ov {r : R α} (h : OnlyValue r) (hv : P .value) : Only P r :=
  ⟨fun e he => by rw [h.h e he]; exact hv⟩

end C14MoreLemmas.Only

namespace OnlyValue

theorem ok (a : α) : OnlyValue (Except.ok a : R α) := (Only.ok a).to_ov
theorem pure (a : α) : OnlyValue (Pure.pure a : R α) := ok a
theorem error : OnlyValue (Except.error .value : R α) := ⟨fun _ h => by cases h; rfl⟩
theorem throw : OnlyValue (MonadExcept.throw Err.value : R α) := error

@[ov] theorem ok_iff (a : α) : OnlyValue (Except.ok a : R α) ↔ True := iff_true_intro (ok a)
@[ov] theorem pure_iff (a : α) : OnlyValue (Pure.pure a : R α) ↔ True := iff_true_intro (ok a)
@[ov] theorem error_iff {e : Err} : OnlyValue (Except.error e : R α) ↔ e = .value := by
  rw [onlyValue_iff, Only.error_iff]
@[ov] theorem throw_iff {e : Err} : OnlyValue (MonadExcept.throw e : R α) ↔ e = .value := error_iff

@[ov] theorem bind_iff {x : R α} {f : α → R β} :
    OnlyValue (x >>= f) ↔ OnlyValue x ∧ ∀ a, x = .ok a → OnlyValue (f a) := by
  simp only [onlyValue_iff, Only.bind_iff]

theorem bind {x : R α} {f : α → R β} (hx : OnlyValue x) (hf : ∀ a, x = .ok a → OnlyValue (f a)) :
    OnlyValue (x >>= f) := bind_iff.mpr ⟨hx, hf⟩

@[ov] theorem ite_iff {c : Prop} [Decidable c] {a b : R α} :
    OnlyValue (if c then a else b) ↔ (c → OnlyValue a) ∧ (¬ c → OnlyValue b) := by
  simp only [onlyValue_iff, Only.ite_iff]

theorem ite {c : Prop} [Decidable c] {a b : R α} (ha : c → OnlyValue a) (hb : ¬ c → OnlyValue b) :
    OnlyValue (if c then a else b) := ite_iff.mpr ⟨ha, hb⟩

@[ov] theorem map_iff {x : R α} (f : α → β) : OnlyValue (f <$> x) ↔ OnlyValue x := by
  simp only [onlyValue_iff, Only.map_iff]

theorem map {x : R α} (f : α → β) (hx : OnlyValue x) : OnlyValue (f <$> x) := (map_iff f).mpr hx

theorem mapM {α β : Type} {f : α → R β} (hf : ∀ a, OnlyValue (f a)) (l : List α) :
    OnlyValue (l.mapM f) := (Only.mapM (fun a => onlyValue_iff.mp (hf a)) l).to_ov

theorem foldlM {α β : Type} {f : β → α → R β} (hf : ∀ b a, OnlyValue (f b a)) (l : List α) (b : β) :
    OnlyValue (l.foldlM f b) := (Only.foldlM (fun b a => onlyValue_iff.mp (hf b a)) l b).to_ov

end OnlyValue

theorem mapM_cons_ok {α β} {f : α → R β} {a : α} {l : List α} {r : List β}
    (h : (a :: l).mapM f = .ok r) : ∃ b bs, f a = .ok b ∧ l.mapM f = .ok bs ∧ r = b :: bs := by
  rw [List.mapM_cons] at h
  cases hf : f a with
  | error e => rw [hf] at h; cases h
  | ok b =>
    cases hl : l.mapM f with
    | error e => rw [hf, hl] at h; cases h
    | ok bs =>
      rw [hf, hl] at h
      exact ⟨b, bs, rfl, rfl, by cases h; rfl⟩

theorem mapM_error_of {α β : Type} {f : α → R β} {P : Err → Prop} (hf : ∀ a e, f a = .error e → P e)
    (l : List α) {e : Err} (h : l.mapM f = .error e) : P e :=
  (Only.mapM (fun a => ⟨hf a⟩) l).h e h

theorem mapM_ok_iff {α β} (f : α → R β) (l : List α) :
    (∃ r, l.mapM f = .ok r) ↔ ∀ a ∈ l, ∃ b, f a = .ok b := by
  induction l with
  | nil => simp [pure, Except.pure]
  | cons a t ih =>
    rw [List.mapM_cons, List.forall_mem_cons, ← ih]
    cases hfa : f a with
    | error e => simp [bind, Except.bind]
    | ok b =>
      cases ht : t.mapM f with
      | error e => simp [bind, Except.bind]
      | ok bs => simp [bind, Except.bind, pure, Except.pure]

theorem mapM_ok_of_forall {α β} (f : α → R β) (g : α → β) (l : List α)
    (h : ∀ a ∈ l, f a = .ok (g a)) : l.mapM f = .ok (l.map g) := by
  induction l with
  | nil => rfl
  | cons a t ih =>
    have ha := h a (by simp)
    have ht := ih (fun x hx => h x (by simp [hx]))
    simp only [List.map_cons, List.mapM_cons, ha, ht]
    rfl

theorem mapM_ite {α β} (p : α → Prop) [DecidablePred p] (g : α → β) (e : Err) (f : α → R β)
    (hf : ∀ a, f a = if p a then .ok (g a) else .error e) (l : List α) :
    l.mapM f = if ∀ a ∈ l, p a then .ok (l.map g) else .error e := by
  induction l with
  | nil => rw [if_pos (fun _ h => nomatch h)]; rfl
  | cons a t ih =>
    rw [List.mapM_cons, hf a, ih]
    by_cases ha : p a
    · by_cases ht : ∀ x ∈ t, p x
      · rw [if_pos ha, if_pos ht, if_pos (List.forall_mem_cons.mpr ⟨ha, ht⟩)]; rfl
      · rw [if_pos ha, if_neg ht, if_neg (fun h => ht (List.forall_mem_cons.mp h).2)]; rfl
    · rw [if_neg ha, if_neg (fun h => ha (List.forall_mem_cons.mp h).1)]; rfl

theorem foldlM_error_split {α β : Type} (f : β → α → R β) (l : List α) (b : β) (e : Err)
    (h : l.foldlM f b = .error e) :
    ∃ pre a post r, l = pre ++ a :: post ∧ pre.foldlM f b = .ok r ∧ f r a = .error e := by
  induction l generalizing b with
  | nil => cases h
  | cons a l ih =>
    rw [List.foldlM_cons] at h
    rcases bind_error_inv h with h1 | ⟨b1, h1, h2⟩
    · exact ⟨[], a, l, b, rfl, rfl, h1⟩
    · obtain ⟨pre, a', post, r, hl, hr, he⟩ := ih b1 h2
      refine ⟨a :: pre, a', post, r, by rw [hl]; rfl, ?_, he⟩
      rw [List.foldlM_cons, h1]; exact hr

end BipVerif.Model
