/-
Ethereum-style addresses: the EIP-55 checksum casing (`ethChecksumEncode`) on lower-case hex text
is idempotent, is undone by lower-casing and is invisible to the hex parser.  From this: Ethereum,
Tron, and the Bech32-wrapped Ethereum addresses (Injective / OKEx / Harmony One).
Of keccak-256 only the output length is used.
-/
import BipVerif.Lemmas.Addr
import BipVerif.Lemmas.AddrBase58
import BipVerif.Lemmas.AddrBech32

namespace BipVerif.Model
open BipVerif BipVerif.Prim

def lowerHexChars : List Char :=
  ['0', '1', '2', '3', '4', '5', '6', '7', '8', '9', 'a', 'b', 'c', 'd', 'e', 'f']

theorem hexDigit_mem : ∀ n < 16, Bytes.hexDigit n ∈ lowerHexChars := by decide +kernel

theorem hexOfBytes_lowerHex (b : Bytes) : ∀ c ∈ hexOfBytes b, c ∈ lowerHexChars := by
  intro c hc
  rw [hexOfBytes_eq, List.mem_flatMap] at hc
  obtain ⟨x, _, hx⟩ := hc
  simp only [List.mem_cons, List.not_mem_nil, or_false] at hx
  rcases hx with rfl | rfl
  · exact hexDigit_mem _ (by have := x.toNat_lt; omega)
  · exact hexDigit_mem _ (by omega)

/-- the per-character action of the EIP-55 casing, given the hex digest -/
def ethCaseChar (digest : List Char) (p : Char × Nat) : Char :=
  match Bytes.hexVal (digest.getD p.2 '0') with
  | some v => if v ≥ 8 then ethChecksumEncode.asciiUpper p.1 else (asciiCase.lower p.1).headD p.1
  | none => p.1

def ethDigest (addr : List Char) : List Char :=
  hexOfBytes (keccak256 (String.ofList (addr.flatMap asciiCase.lower)).toUTF8.toList)

theorem ethChecksumEncode_eq (addr : List Char) :
    ethChecksumEncode addr = addr.zipIdx.map (ethCaseChar (ethDigest addr)) := by
  unfold ethChecksumEncode
  apply List.map_congr_left
  rintro ⟨c, i⟩ _
  simp only [ethCaseChar, ethDigest]
  generalize Bytes.hexVal _ = o
  cases o <;> rfl

theorem ethChecksumEncode_length (addr : List Char) :
    (ethChecksumEncode addr).length = addr.length := by
  rw [ethChecksumEncode_eq]; simp

theorem ethCaseChar_cases (D : List Char) (c : Char) (i : Nat) :
    ethCaseChar D (c, i) = ethChecksumEncode.asciiUpper c ∨
      ethCaseChar D (c, i) = (asciiCase.lower c).headD c ∨ ethCaseChar D (c, i) = c := by
  unfold ethCaseChar
  simp only
  split
  · split
    · exact Or.inl rfl
    · exact Or.inr (Or.inl rfl)
  · exact Or.inr (Or.inr rfl)

theorem lowerHex_facts : ∀ c ∈ lowerHexChars,
    asciiCase.lower c = [c] ∧
    asciiCase.lower (ethChecksumEncode.asciiUpper c) = [c] ∧
    Bytes.hexVal (ethChecksumEncode.asciiUpper c) = Bytes.hexVal c ∧
    ethChecksumEncode.asciiUpper (ethChecksumEncode.asciiUpper c) = ethChecksumEncode.asciiUpper c ∧
    (asciiCase.lower (ethChecksumEncode.asciiUpper c)).headD (ethChecksumEncode.asciiUpper c) = c := by
  decide +kernel

theorem lower_ethCaseChar (D : List Char) (c : Char) (hc : c ∈ lowerHexChars) (i : Nat) :
    asciiCase.lower (ethCaseChar D (c, i)) = [c] := by
  obtain ⟨h1, h2, _⟩ := lowerHex_facts c hc
  rcases ethCaseChar_cases D c i with h | h | h <;> rw [h]
  · exact h2
  · rw [h1]; exact h1
  · exact h1

theorem hexVal_ethCaseChar (D : List Char) (c : Char) (hc : c ∈ lowerHexChars) (i : Nat) :
    Bytes.hexVal (ethCaseChar D (c, i)) = Bytes.hexVal c := by
  obtain ⟨h1, _, h3, _⟩ := lowerHex_facts c hc
  rcases ethCaseChar_cases D c i with h | h | h <;> rw [h]
  · exact h3
  · rw [h1]; rfl

theorem ethCaseChar_idem (D : List Char) (c : Char) (hc : c ∈ lowerHexChars) (i : Nat) :
    ethCaseChar D (ethCaseChar D (c, i), i) = ethCaseChar D (c, i) := by
  obtain ⟨h1, _, _, h4, h5⟩ := lowerHex_facts c hc
  unfold ethCaseChar
  simp only
  cases Bytes.hexVal (D.getD i '0') with
  | none => rfl
  | some v =>
    simp only
    by_cases hv : v ≥ 8
    · simp only [hv, if_true]; exact h4
    · simp only [hv, if_false, h1, List.headD_cons]

-- The list-level lemmas go by induction over `zipIdx`, with its offset `n` general.

theorem flatMap_lower_ethCase (D : List Char) (l : List Char) (hl : ∀ c ∈ l, c ∈ lowerHexChars)
    (n : Nat) : ((l.zipIdx n).map (ethCaseChar D)).flatMap asciiCase.lower = l := by
  induction l generalizing n with
  | nil => rfl
  | cons c t ih =>
    rw [List.zipIdx_cons, List.map_cons, List.flatMap_cons,
      lower_ethCaseChar D c (hl c (by simp)) n, ih (fun x hx => hl x (by simp [hx]))]
    rfl

theorem ethCase_idem_list (D : List Char) (l : List Char) (hl : ∀ c ∈ l, c ∈ lowerHexChars)
    (n : Nat) : ((((l.zipIdx n).map (ethCaseChar D)).zipIdx n).map (ethCaseChar D))
      = (l.zipIdx n).map (ethCaseChar D) := by
  induction l generalizing n with
  | nil => rfl
  | cons c t ih =>
    rw [List.zipIdx_cons, List.map_cons, List.zipIdx_cons, List.map_cons,
      ethCaseChar_idem D c (hl c (by simp)) n, ih (fun x hx => hl x (by simp [hx]))]

theorem ofHexChars_congr : ∀ (l l' : List Char),
    List.Forall₂ (fun x y => Bytes.hexVal x = Bytes.hexVal y) l l' →
    Bytes.ofHexChars l = Bytes.ofHexChars l'
  | [], _, h => by cases h; rfl
  | [_], _, h => by
    cases h with
    | cons _ ht => cases ht; rfl
  | x :: y :: rest, _, h => by
    cases h with
    | cons hx ht =>
      cases ht with
      | cons hy hr =>
        unfold Bytes.ofHexChars
        rw [hx, hy, ofHexChars_congr rest _ hr]

theorem forall₂_ethCase (D : List Char) (l : List Char) (hl : ∀ c ∈ l, c ∈ lowerHexChars) (n : Nat) :
    List.Forall₂ (fun x y => Bytes.hexVal x = Bytes.hexVal y)
      ((l.zipIdx n).map (ethCaseChar D)) l := by
  induction l generalizing n with
  | nil => exact .nil
  | cons c t ih =>
    rw [List.zipIdx_cons, List.map_cons]
    exact .cons (hexVal_ethCaseChar D c (hl c (by simp)) n) (ih (fun x hx => hl x (by simp [hx])) _)

theorem flatMap_lower_lowerHex (l : List Char) (hl : ∀ c ∈ l, c ∈ lowerHexChars) :
    l.flatMap asciiCase.lower = l := by
  induction l with
  | nil => rfl
  | cons c t ih =>
    rw [List.flatMap_cons, (lowerHex_facts c (hl c (by simp))).1, ih (fun x hx => hl x (by simp [hx]))]
    rfl

theorem lower_ethChecksumEncode (a : List Char) (ha : ∀ c ∈ a, c ∈ lowerHexChars) :
    (ethChecksumEncode a).flatMap asciiCase.lower = a := by
  rw [ethChecksumEncode_eq]; exact flatMap_lower_ethCase _ a ha 0

/-- EIP-55 casing is idempotent on lower-case hex text: the digest is taken of the lower-cased
text, which casing does not change. -/
theorem ethChecksumEncode_idem (a : List Char) (ha : ∀ c ∈ a, c ∈ lowerHexChars) :
    ethChecksumEncode (ethChecksumEncode a) = ethChecksumEncode a := by
  have hd : ethDigest (ethChecksumEncode a) = ethDigest a := by
    unfold ethDigest; rw [lower_ethChecksumEncode a ha, flatMap_lower_lowerHex a ha]
  rw [ethChecksumEncode_eq (ethChecksumEncode a), hd, ethChecksumEncode_eq a]
  exact ethCase_idem_list _ a ha 0

theorem bytesOfHex_ethChecksumEncode (a : List Char) (ha : ∀ c ∈ a, c ∈ lowerHexChars) :
    bytesOfHex (ethChecksumEncode a) = bytesOfHex a := by
  unfold bytesOfHex
  rw [ethChecksumEncode_eq, ofHexChars_congr _ _ (forall₂_ethCase _ a ha 0)]

/-- the 20 address bytes of an uncompressed key -/
def ethAddrBytes (u : Bytes) : Bytes := (keccak256 (u.drop 1)).drop 12

theorem ethAddrBytes_length (u : Bytes) : (ethAddrBytes u).length = 20 := by
  unfold ethAddrBytes; rw [List.length_drop, keccak256_length]

theorem ethRaw_ok_inv {k : Bytes} {a : List Char} (h : ethRaw k = .ok a) :
    ∃ u, uncompressedOf .secp256k1 k = .ok u ∧ a = hexOfBytes (ethAddrBytes u) := by
  unfold ethRaw at h
  obtain ⟨u, hu, h⟩ := bind_ok_inv h
  refine ⟨u, hu, ?_⟩
  rw [← pure_ok_inv h]
  exact hexOfBytes_drop _ 12

@[ov] theorem ethRaw_ov (k : Bytes) : OnlyValue (ethRaw k) := by unfold ethRaw; simp only [ov]

theorem bytesOfHex_checksummed (b : Bytes) :
    bytesOfHex (ethChecksumEncode (hexOfBytes b)) = .ok b := by
  rw [bytesOfHex_ethChecksumEncode _ (hexOfBytes_lowerHex b), bytesOfHex_hexOfBytes]

theorem ethDecode_canon (pfx : List Char) (skipChk : Bool) (b : Bytes) (hb : b.length = 20) :
    ethDecode pfx skipChk
      (pfx ++ (if skipChk then hexOfBytes b else ethChecksumEncode (hexOfBytes b))) = .ok b := by
  unfold ethDecode
  rw [removePrefix_append]
  simp only [bind, Except.bind]
  cases skipChk with
  | true =>
    simp only [if_true]
    rw [validateLength_ok _ _ (by rw [hexOfBytes_length, hb])]
    simp only [Bool.not_true, Bool.false_and, Bool.false_eq_true, if_false]
    exact bytesOfHex_hexOfBytes b
  | false =>
    simp only [Bool.false_eq_true, if_false]
    rw [validateLength_ok _ _ (by rw [ethChecksumEncode_length, hexOfBytes_length, hb])]
    simp only [ethChecksumEncode_idem _ (hexOfBytes_lowerHex b), ne_eq, not_true_eq_false,
      decide_false, Bool.and_false, Bool.false_eq_true, if_false]
    exact bytesOfHex_checksummed b

theorem eth_decode_encode (pfx : List Char) (skipChk : Bool) (pub : Bytes) (addr : List Char)
    (h : ethEncode pfx skipChk pub = .ok addr) :
    ∃ k u, addrKey .secp256k1 pub = .ok k ∧ uncompressedOf .secp256k1 k = .ok u ∧
      ethDecode pfx skipChk addr = .ok (ethAddrBytes u) := by
  unfold ethEncode at h
  obtain ⟨k, hk, h⟩ := bind_ok_inv h
  obtain ⟨a, ha, h⟩ := bind_ok_inv h
  obtain ⟨u, hu, ha⟩ := ethRaw_ok_inv ha
  -- rewritten, not substituted: `subst` first normalises `hexOfBytes (ethAddrBytes u)`, unfolding the hex printer
  rw [ha] at h
  refine ⟨k, u, hk, hu, ?_⟩
  rw [← pure_ok_inv h]
  exact ethDecode_canon pfx skipChk _ (ethAddrBytes_length u)

@[ov] theorem ethEncode_ov (pfx : List Char) (skipChk : Bool) (pub : Bytes) :
    OnlyValue (ethEncode pfx skipChk pub) := by
  unfold ethEncode; simp only [ov]
@[ov] theorem ethDecode_ov (pfx : List Char) (skipChk : Bool) (addr : List Char) :
    OnlyValue (ethDecode pfx skipChk addr) := by
  unfold ethDecode; simp only [ov]

/-- the Tron decoder is the P2PKH decoder followed by a (redundant) length check of the hex text -/
theorem trxDecode_eq (pfx : Bytes) (addr : List Char) :
    trxDecode pfx addr = (do
      let a ← p2pkhDecode pfx btcAlphabet addr
      validateLength (hexOfBytes a) 40
      pure a) := by
  unfold trxDecode p2pkhDecode; simp only [bind_assoc]

theorem trxDecode_canon (pfx b : Bytes) (hb : b.length = 20) :
    trxDecode pfx (b58CheckEncode sha256d btcAlphabet (pfx ++ b)) = .ok b := by
  rw [trxDecode_eq, p2pkhDecode_canon pfx _ btcAlphabet_nodup btcAlphabet_length b hb, ok_bind,
    validateLength_ok _ _ (by rw [hexOfBytes_length, hb])]
  rfl

theorem trx_decode_encode (pfx pub : Bytes) (addr : List Char) (h : trxEncode pfx pub = .ok addr) :
    ∃ k u, addrKey .secp256k1 pub = .ok k ∧ uncompressedOf .secp256k1 k = .ok u ∧
      trxDecode pfx addr = .ok (ethAddrBytes u) := by
  unfold trxEncode at h
  obtain ⟨k, hk, h⟩ := bind_ok_inv h
  obtain ⟨a, ha, h⟩ := bind_ok_inv h
  obtain ⟨u, hu, ha⟩ := ethRaw_ok_inv ha
  rw [ha] at h
  obtain ⟨b, hb, h⟩ := bind_ok_inv h
  rw [bytesOfHex_checksummed] at hb
  obtain rfl := Except.ok.inj hb
  refine ⟨k, u, hk, hu, ?_⟩
  rw [← pure_ok_inv h]
  exact trxDecode_canon pfx _ (ethAddrBytes_length u)

@[ov] theorem trxEncode_ov (pfx pub : Bytes) : OnlyValue (trxEncode pfx pub) := by
  unfold trxEncode; simp only [ov]
@[ov] theorem trxDecode_ov (pfx : Bytes) (addr : List Char) : OnlyValue (trxDecode pfx addr) := by
  unfold trxDecode; simp only [ov]

theorem ethBech32Encode_ok_inv {hrp : List Char} {pub : Bytes} {addr : List Char}
    (h : ethBech32Encode hrp pub = .ok addr) :
    ∃ k u, addrKey .secp256k1 pub = .ok k ∧ uncompressedOf .secp256k1 k = .ok u ∧
      bech32Encode hrp (ethAddrBytes u) = .ok addr := by
  unfold ethBech32Encode at h
  obtain ⟨k, hk, h⟩ := bind_ok_inv h
  obtain ⟨a, ha, h⟩ := bind_ok_inv h
  obtain ⟨u, hu, ha⟩ := ethRaw_ok_inv ha
  rw [ha] at h
  obtain ⟨b, hb, h⟩ := bind_ok_inv h
  rw [bytesOfHex_checksummed] at hb
  obtain rfl := Except.ok.inj hb
  exact ⟨k, u, hk, hu, h⟩

/-- The OKEx Chain / Harmony One decoder. -/
theorem ethBech32_decode_encode (hrp : List Char) (hv : ValidHrp hrp) (pub : Bytes)
    (addr : List Char) (h : ethBech32Encode hrp pub = .ok addr) :
    ∃ k u, addrKey .secp256k1 pub = .ok k ∧ uncompressedOf .secp256k1 k = .ok u ∧
      ethBech32Decode hrp addr = .ok (ethAddrBytes u) := by
  obtain ⟨k, u, hk, hu, he⟩ := ethBech32Encode_ok_inv h
  refine ⟨k, u, hk, hu, ?_⟩
  have hl := ethAddrBytes_length u
  unfold ethBech32Decode
  rw [bech32Decode_of_encode hrp hv _ (ne_nil_of_length_pos hl (by omega)) he, ckToValue_ok]
  simp only [bind, Except.bind]
  rw [validateLength_ok _ _ (by rw [hexOfBytes_length, hl])]
  rfl

/-- The Injective decoder (the Cosmos decoder under another name). -/
theorem inj_decode_encode (hrp : List Char) (hv : ValidHrp hrp) (pub : Bytes)
    (addr : List Char) (h : ethBech32Encode hrp pub = .ok addr) :
    ∃ k u, addrKey .secp256k1 pub = .ok k ∧ uncompressedOf .secp256k1 k = .ok u ∧
      injDecode hrp addr = .ok (ethAddrBytes u) := by
  obtain ⟨k, u, hk, hu, he⟩ := ethBech32Encode_ok_inv h
  exact ⟨k, u, hk, hu, atomDecode_of_encode hrp hv _ (ethAddrBytes_length u) he⟩

@[ov] theorem ethBech32Encode_ov (hrp : List Char) (pub : Bytes) : OnlyValue (ethBech32Encode hrp pub) := by
  unfold ethBech32Encode; simp only [ov]

end BipVerif.Model
