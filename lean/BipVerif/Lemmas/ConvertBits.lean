/-
`convertBits` (Bech32 `ConvertBits`) is bit regrouping: the input symbols are written as one flat
most-significant-bit-first bit string which is cut into `toBits`-sized groups.
Consequences: 8 -> 5 (padded) always succeeds, and 5 -> 8 (unpadded) undoes it.
-/
import Mathlib.Tactic.Ring
import BipVerif.Lemmas.Bytes
import BipVerif.Model.Bech32

namespace BipVerif.Model
open BipVerif

/-- the `w` low bits of `n`, most significant first. -/
def bitsBE : Nat → Nat → List Bool
  | 0, _ => []
  | w+1, n => bitsBE w (n / 2) ++ [n % 2 == 1]

/-- value of a most-significant-first bit string. -/
def ofBitsBE (bs : List Bool) : Nat := bs.foldl (fun a b => 2 * a + b.toNat) 0

@[simp] theorem length_bitsBE (w n : Nat) : (bitsBE w n).length = w := by
  induction w generalizing n with
  | zero => rfl
  | succ w ih => simp [bitsBE, ih]

@[simp] theorem ofBitsBE_nil : ofBitsBE [] = 0 := rfl

theorem ofBitsBE_concat (l : List Bool) (b : Bool) :
    ofBitsBE (l ++ [b]) = 2 * ofBitsBE l + b.toNat := by
  simp only [ofBitsBE, List.foldl_append, List.foldl_cons, List.foldl_nil]

theorem ofBitsBE_append (a b : List Bool) :
    ofBitsBE (a ++ b) = ofBitsBE a * 2 ^ b.length + ofBitsBE b := by
  induction b using List.reverseRecOn with
  | nil => simp
  | append_singleton b x ih =>
    rw [← List.append_assoc, ofBitsBE_concat, ofBitsBE_concat, ih, List.length_append,
      List.length_singleton, pow_succ]
    ring

theorem ofBitsBE_singleton (b : Bool) : ofBitsBE [b] = b.toNat := by
  simp [ofBitsBE]

theorem ofBitsBE_lt (l : List Bool) : ofBitsBE l < 2 ^ l.length := by
  induction l using List.reverseRecOn with
  | nil => exact Nat.one_pos
  | append_singleton l b ih =>
    rw [ofBitsBE_concat, List.length_append, List.length_singleton, pow_succ]
    have := Bool.toNat_lt b
    omega

theorem toNat_mod_two_beq (n : Nat) : (n % 2 == 1).toNat = n % 2 := by
  rcases Nat.mod_two_eq_zero_or_one n with h | h <;> rw [h] <;> rfl

theorem ofBitsBE_bitsBE (w n : Nat) : ofBitsBE (bitsBE w n) = n % 2 ^ w := by
  induction w generalizing n with
  | zero => rw [pow_zero, Nat.mod_one]; rfl
  | succ w ih =>
    rw [bitsBE, ofBitsBE_concat, ih, toNat_mod_two_beq, pow_succ', Nat.mod_mul, Nat.add_comm]

theorem bitsBE_ofBitsBE (l : List Bool) : bitsBE l.length (ofBitsBE l) = l := by
  induction l using List.reverseRecOn with
  | nil => rfl
  | append_singleton l b ih =>
    have h1 : (2 * ofBitsBE l + b.toNat) / 2 = ofBitsBE l := by
      rw [Nat.mul_add_div Nat.two_pos, Nat.div_eq_of_lt (Bool.toNat_lt b), Nat.add_zero]
    have h2 : ((2 * ofBitsBE l + b.toNat) % 2 == 1) = b := by
      rw [Nat.mul_add_mod]; cases b <;> rfl
    rw [ofBitsBE_concat, List.length_append, List.length_singleton, bitsBE, h1, h2, ih]

theorem ofBitsBE_replicate_false (n : Nat) : ofBitsBE (List.replicate n false) = 0 := by
  induction n with
  | zero => rfl
  | succ n ih => rw [List.replicate_succ', ofBitsBE_concat, ih]; rfl

theorem ofBitsBE_eq_zero_iff (l : List Bool) : ofBitsBE l = 0 ↔ ∀ b ∈ l, b = false := by
  induction l using List.reverseRecOn with
  | nil => simp
  | append_singleton l b ih =>
    rw [ofBitsBE_concat, Nat.add_eq_zero_iff, Nat.mul_eq_zero, Bool.toNat_eq_zero,
      or_iff_right (by decide), ih, List.forall_mem_append, List.forall_mem_singleton]

/-- the complete `t`-sized groups of `l` (group `j` is `l[j*t .. (j+1)*t)`). -/
def fullChunks {α} (t : Nat) (l : List α) : List (List α) :=
  (List.range (l.length / t)).map fun j => (l.drop (j * t)).take t

/-- what is left after removing the complete `t`-sized groups. -/
def chunkRem {α} (t : Nat) (l : List α) : List α := l.drop (l.length / t * t)

theorem fullChunks_of_lt {α} (t : Nat) (l : List α) (h : l.length < t) : fullChunks t l = [] := by
  simp [fullChunks, Nat.div_eq_of_lt h]

theorem chunkRem_of_lt {α} (t : Nat) (l : List α) (h : l.length < t) : chunkRem t l = l := by
  simp [chunkRem, Nat.div_eq_of_lt h]

theorem length_chunkRem {α} (t : Nat) (l : List α) : (chunkRem t l).length = l.length % t := by
  rw [chunkRem, List.length_drop, Nat.mul_comm, Nat.mod_def]

@[simp] theorem length_fullChunks {α} (t : Nat) (l : List α) :
    (fullChunks t l).length = l.length / t := by
  simp [fullChunks]

theorem length_of_mem_fullChunks {α} (t : Nat) (l c : List α) (h : c ∈ fullChunks t l) :
    c.length = t := by
  obtain ⟨j, hj, rfl⟩ := List.mem_map.1 h
  have : (j + 1) * t ≤ l.length :=
    Nat.le_trans (Nat.mul_le_mul_right t (List.mem_range.1 hj)) (Nat.div_mul_le_self _ _)
  rw [Nat.succ_mul] at this
  rw [List.length_take, List.length_drop]
  omega

theorem fullChunks_step {α} (t : Nat) (ht : 0 < t) (l : List α) (h : t ≤ l.length) :
    fullChunks t l = l.take t :: fullChunks t (l.drop t) := by
  have hd : l.length / t = (l.length - t) / t + 1 := by
    rw [← Nat.add_div_right _ ht, Nat.sub_add_cancel h]
  unfold fullChunks
  rw [List.length_drop, hd, List.range_succ_eq_map, List.map_cons, List.map_map, Nat.zero_mul,
    List.drop_zero]
  congr 1
  apply List.map_congr_left
  intro j _
  rw [Function.comp, List.drop_drop, Nat.succ_mul, Nat.add_comm]

theorem chunkRem_step {α} (t : Nat) (ht : 0 < t) (l : List α) (h : t ≤ l.length) :
    chunkRem t l = chunkRem t (l.drop t) := by
  have hd : l.length / t = (l.length - t) / t + 1 := by
    rw [← Nat.add_div_right _ ht, Nat.sub_add_cancel h]
  unfold chunkRem
  rw [List.length_drop, List.drop_drop, hd, Nat.succ_mul, Nat.add_comm]

theorem flatten_fullChunks {α} (t : Nat) (ht : 0 < t) (l : List α) :
    (fullChunks t l).flatten ++ chunkRem t l = l := by
  induction hn : l.length using Nat.strong_induction_on generalizing l with
  | _ n ih =>
    by_cases h : l.length < t
    · rw [fullChunks_of_lt t l h, chunkRem_of_lt t l h]; rfl
    · have h' : t ≤ l.length := by omega
      have hlen : (l.drop t).length < n := by rw [List.length_drop]; omega
      rw [fullChunks_step t ht l h', chunkRem_step t ht l h', List.flatten_cons, List.append_assoc,
        ih _ hlen (l.drop t) rfl, List.take_append_drop]

theorem fullChunks_flatten {α} (t : Nat) (ht : 0 < t) (cs : List (List α))
    (h : ∀ c ∈ cs, c.length = t) (r : List α) (hr : r.length < t) :
    fullChunks t (cs.flatten ++ r) = cs ∧ chunkRem t (cs.flatten ++ r) = r := by
  induction cs with
  | nil => exact ⟨fullChunks_of_lt t r hr, chunkRem_of_lt t r hr⟩
  | cons c cs ih =>
    have hc : c.length = t := h c List.mem_cons_self
    obtain ⟨ih1, ih2⟩ := ih (fun c hc => h c (List.mem_cons_of_mem _ hc))
    have hle : t ≤ (c ++ (cs.flatten ++ r)).length := by rw [List.length_append]; omega
    rw [List.flatten_cons, List.append_assoc, fullChunks_step t ht _ hle, chunkRem_step t ht _ hle,
      List.take_left' hc, List.drop_left' hc, ih1, ih2]
    exact ⟨rfl, rfl⟩

theorem fullChunks_append {α} (t : Nat) (ht : 0 < t) (q B : List α) :
    fullChunks t (q ++ B) = fullChunks t q ++ fullChunks t (chunkRem t q ++ B) ∧
    chunkRem t (q ++ B) = chunkRem t (chunkRem t q ++ B) := by
  have h := fullChunks_flatten t ht (fullChunks t q ++ fullChunks t (chunkRem t q ++ B))
    (fun c hc => (List.mem_append.1 hc).elim (length_of_mem_fullChunks t _ c)
      (length_of_mem_fullChunks t _ c))
    (chunkRem t (chunkRem t q ++ B)) (by rw [length_chunkRem]; exact Nat.mod_lt _ ht)
  rwa [List.flatten_append, List.append_assoc, flatten_fullChunks t ht, ← List.append_assoc,
    flatten_fullChunks t ht] at h

theorem fullChunks_exact {α} (t : Nat) (ht : 0 < t) (l : List α) (h : l.length = t) :
    fullChunks t l = [l] := by
  have := (fullChunks_flatten t ht [l] (by simpa using h) [] ht).1
  rwa [List.flatten_singleton, List.append_nil] at this

theorem shift_mod (a v k f : Nat) (hv : v < 2 ^ f) :
    (a * 2 ^ f + v) % 2 ^ (k + f) = (a % 2 ^ k) * 2 ^ f + v := by
  rw [pow_add, Nat.mul_comm (2 ^ k), Nat.mod_mul, Nat.mul_comm a, Nat.mul_add_mod,
    Nat.mod_eq_of_lt hv, Nat.mul_add_div (Nat.two_pow_pos f), Nat.div_eq_of_lt hv, Nat.add_zero,
    Nat.add_comm, Nat.mul_comm]

theorem ofBitsBE_take_drop (q : List Bool) (n : Nat) :
    ofBitsBE q = ofBitsBE (q.take n) * 2 ^ (q.drop n).length + ofBitsBE (q.drop n) := by
  rw [← ofBitsBE_append, List.take_append_drop]

/-- `acc % 2 ^ q.length = ofBitsBE q` says that the accumulator ends in the pending bits `q`: the
invariant of `convertBits.go` and `convertBits.drain`. -/
theorem mod_drop (acc : Nat) (q : List Bool) (n : Nat) (h : acc % 2 ^ q.length = ofBitsBE q) :
    acc % 2 ^ (q.drop n).length = ofBitsBE (q.drop n) := by
  have hd : 2 ^ (q.drop n).length ∣ 2 ^ q.length :=
    pow_dvd_pow 2 (by rw [List.length_drop]; omega)
  rw [← Nat.mod_mod_of_dvd acc hd, h, ofBitsBE_take_drop q n, Nat.mul_comm, Nat.mul_add_mod,
    Nat.mod_eq_of_lt (ofBitsBE_lt _)]

theorem div_mod_take (acc : Nat) (q : List Bool) (n : Nat) (h : acc % 2 ^ q.length = ofBitsBE q) :
    acc / 2 ^ (q.drop n).length % 2 ^ (q.take n).length = ofBitsBE (q.take n) := by
  rw [← Nat.mod_mul_right_div_self, ← pow_add, Nat.add_comm, ← List.length_append,
    List.take_append_drop, h, ofBitsBE_take_drop q n, Nat.mul_comm,
    Nat.mul_add_div (Nat.two_pow_pos _), Nat.div_eq_of_lt (ofBitsBE_lt _), Nat.add_zero]

theorem acc_push (f m acc v : Nat) (p : List Bool) (hacc : acc % 2 ^ p.length = ofBitsBE p)
    (hv : v < 2 ^ f) (hm : p.length + f ≤ m) :
    (((acc <<< f) ||| v) &&& (1 <<< m - 1)) % 2 ^ (p ++ bitsBE f v).length
      = ofBitsBE (p ++ bitsBE f v) := by
  have hd : 2 ^ (p.length + f) ∣ 2 ^ m := pow_dvd_pow 2 hm
  rw [Nat.one_shiftLeft, Nat.and_two_pow_sub_one_eq_mod, ← Nat.shiftLeft_add_eq_or_of_lt hv,
    Nat.shiftLeft_eq, List.length_append, length_bitsBE, Nat.mod_mod_of_dvd _ hd,
    shift_mod _ _ _ _ hv, hacc, ofBitsBE_append, ofBitsBE_bitsBE, length_bitsBE,
    Nat.mod_eq_of_lt hv]

theorem acc_pad (acc k : Nat) (p : List Bool) (hacc : acc % 2 ^ p.length = ofBitsBE p) :
    (acc <<< k) &&& (1 <<< (p.length + k) - 1) = ofBitsBE (p ++ List.replicate k false) := by
  rw [Nat.one_shiftLeft, Nat.and_two_pow_sub_one_eq_mod, Nat.shiftLeft_eq, ofBitsBE_append,
    ofBitsBE_replicate_false, List.length_replicate, Nat.add_zero, ← hacc, pow_add,
    Nat.mul_mod_mul_right]

theorem drain_spec (t : Nat) (ht : 0 < t) (acc : Nat) :
    ∀ (fuel : Nat) (q : List Bool) (ret : List Nat), q.length < fuel →
      acc % 2 ^ q.length = ofBitsBE q →
      convertBits.drain t (1 <<< t - 1) fuel acc q.length ret
        = ((chunkRem t q).length, ret ++ (fullChunks t q).map ofBitsBE)
  | 0, q, ret, h, _ => absurd h (Nat.not_lt_zero _)
  | fuel + 1, q, ret, hq, hacc => by
    unfold convertBits.drain
    by_cases h : t ≤ q.length
    · have hout : (acc >>> (q.length - t)) &&& (1 <<< t - 1) = ofBitsBE (q.take t) := by
        have := div_mod_take acc q t hacc
        rwa [List.length_take, List.length_drop, Nat.min_eq_left h, ← Nat.shiftRight_eq_div_pow,
          ← Nat.and_two_pow_sub_one_eq_mod, ← Nat.one_shiftLeft] at this
      have ih := drain_spec t ht acc fuel (q.drop t) (ret ++ [ofBitsBE (q.take t)])
        (by rw [List.length_drop]; omega) (mod_drop acc q t hacc)
      rw [List.length_drop] at ih
      rw [if_pos ⟨h, ht⟩]
      simp only [hout]
      rw [ih, fullChunks_step t ht q h, chunkRem_step t ht q h, List.map_cons, List.append_assoc]
      rfl
    · rw [if_neg (fun h' => h h'.1), fullChunks_of_lt t q (by omega), chunkRem_of_lt t q (by omega),
        List.map_nil, List.append_nil]

/-- how `convertBits` ends, given the emitted groups `ret` and the pending bits `q`. -/
def cbFinish (f t : Nat) (pad : Bool) (ret : List Nat) (q : List Bool) : Option (List Nat) :=
  let last := ofBitsBE (q ++ List.replicate (t - q.length) false)
  if pad then (if q.length ≠ 0 then some (ret ++ [last]) else some ret)
  else if q.length ≥ f ∨ last ≠ 0 then none else some ret

theorem go_spec (f t : Nat) (ht : 0 < t) (pad : Bool) :
    ∀ (rest : List Nat) (p : List Bool) (acc : Nat) (ret : List Nat),
      p.length < t → acc % 2 ^ p.length = ofBitsBE p → (∀ v ∈ rest, v < 2 ^ f) →
      convertBits.go f t pad (1 <<< t - 1) (1 <<< (f + t - 1) - 1) rest acc p.length ret
        = cbFinish f t pad
            (ret ++ (fullChunks t (p ++ rest.flatMap (bitsBE f))).map ofBitsBE)
            (chunkRem t (p ++ rest.flatMap (bitsBE f)))
  | [], p, acc, ret, hp, hacc, _ => by
    have hpad := acc_pad acc (t - p.length) p hacc
    rw [Nat.add_sub_cancel' hp.le] at hpad
    unfold convertBits.go
    rw [hpad, List.flatMap_nil, List.append_nil, fullChunks_of_lt t p hp, chunkRem_of_lt t p hp,
      List.map_nil, List.append_nil]
    rfl
  | v :: rest, p, acc, ret, hp, hacc, hv => by
    have hvlt : v < 2 ^ f := hv v List.mem_cons_self
    have hv0 : ¬ v >>> f ≠ 0 := by
      rw [Nat.shiftRight_eq_div_pow, Nat.div_eq_of_lt hvlt]; exact fun h => h rfl
    have hqlen : (p ++ bitsBE f v).length = p.length + f := by
      rw [List.length_append, length_bitsBE]
    have hacc' := acc_push f (f + t - 1) acc v p hacc hvlt (by omega)
    have hdrain := drain_spec t ht _ ((p ++ bitsBE f v).length + 1) _ ret (Nat.lt_succ_self _) hacc'
    have hih := go_spec f t ht pad rest (chunkRem t (p ++ bitsBE f v)) _
      (ret ++ (fullChunks t (p ++ bitsBE f v)).map ofBitsBE)
      (by rw [length_chunkRem]; exact Nat.mod_lt _ ht) (mod_drop _ _ _ hacc')
      (fun x hx => hv x (List.mem_cons_of_mem _ hx))
    obtain ⟨ha1, ha2⟩ := fullChunks_append t ht (p ++ bitsBE f v) (rest.flatMap (bitsBE f))
    rw [hqlen] at hdrain
    unfold convertBits.go
    rw [if_neg hv0]
    simp only []
    rw [hdrain]
    simp only []
    rw [hih, List.flatMap_cons, ← List.append_assoc, ha1, ha2, List.map_append, List.append_assoc]

/-- all symbols of `data` as one bit string, `f` bits each, most significant bit first. -/
def symbolBits (f : Nat) (data : List Nat) : List Bool := data.flatMap (bitsBE f)

/-- zero-pad a bit string to a multiple of `t`. -/
def padBits (t : Nat) (B : List Bool) : List Bool :=
  if B.length % t = 0 then B else B ++ List.replicate (t - B.length % t) false

/-- what `ConvertBits` with padding computes: cut the flat bit string into `t`-bit groups,
zero-padding the last one. -/
def regroup (f t : Nat) (data : List Nat) : List Nat :=
  (fullChunks t (padBits t (symbolBits f data))).map ofBitsBE

theorem length_symbolBits (f : Nat) (data : List Nat) :
    (symbolBits f data).length = f * data.length := by
  unfold symbolBits
  induction data with
  | nil => simp
  | cons a t ih => simp only [List.flatMap_cons, List.length_append, length_bitsBE, ih,
      List.length_cons]; ring

theorem fullChunks_padBits (t : Nat) (ht : 0 < t) (B : List Bool) :
    fullChunks t (padBits t B) = fullChunks t B ++
      (if (chunkRem t B).length ≠ 0 then
        [chunkRem t B ++ List.replicate (t - (chunkRem t B).length) false] else []) := by
  unfold padBits
  rw [length_chunkRem]
  by_cases h : B.length % t = 0
  · rw [if_pos h, if_neg (not_not.2 h), List.append_nil]
  · rw [if_neg h, if_pos h, (fullChunks_append t ht B _).1]
    congr 1
    apply fullChunks_exact t ht
    have := Nat.mod_lt B.length ht
    rw [List.length_append, List.length_replicate, length_chunkRem]
    omega

theorem padBits_eq (t : Nat) (ht : 0 < t) (B : List Bool) :
    ∃ k, k < t ∧ (B.length + k) % t = 0 ∧ padBits t B = B ++ List.replicate k false := by
  unfold padBits
  by_cases h : B.length % t = 0
  · exact ⟨0, ht, h, by rw [if_pos h, List.replicate_zero, List.append_nil]⟩
  · have := Nat.mod_lt B.length ht
    refine ⟨t - B.length % t, by omega, ?_, by rw [if_neg h]⟩
    rw [← Nat.mod_add_mod, Nat.add_sub_cancel' this.le, Nat.mod_self]

theorem all_valid_of_lt (f : Nat) (data : List Nat) (h : ∀ v ∈ data, v < 2 ^ f) :
    data.map (fun v => ofBitsBE (bitsBE f v)) = data := by
  induction data with
  | nil => rfl
  | cons a t ih =>
    rw [List.map_cons, ih (fun v hv => h v (by simp [hv])), ofBitsBE_bitsBE,
      Nat.mod_eq_of_lt (h a (by simp))]

theorem convertBits_eq_cbFinish (f t : Nat) (ht : 0 < t) (pad : Bool) (data : List Nat)
    (h : ∀ v ∈ data, v < 2 ^ f) :
    convertBits data f t pad = cbFinish f t pad ((fullChunks t (symbolBits f data)).map ofBitsBE)
      (chunkRem t (symbolBits f data)) :=
  go_spec f t ht pad data [] 0 [] ht rfl h

theorem convertBits_pad (f t : Nat) (ht : 0 < t) (data : List Nat) (h : ∀ v ∈ data, v < 2 ^ f) :
    convertBits data f t true = some (regroup f t data) := by
  rw [convertBits_eq_cbFinish f t ht true data h, regroup, fullChunks_padBits t ht, cbFinish]
  by_cases hr : (chunkRem t (symbolBits f data)).length ≠ 0
  · simp [hr]
  · simp [hr]

theorem convertBits_go_none (f t : Nat) (pad : Bool) (mo ma : Nat) :
    ∀ (rest : List Nat) (acc bits : Nat) (ret : List Nat), (∃ v ∈ rest, ¬ v < 2 ^ f) →
      convertBits.go f t pad mo ma rest acc bits ret = none := by
  intro rest
  induction rest with
  | nil => intro _ _ _ h; simp at h
  | cons v rest ih =>
    intro acc bits ret h
    unfold convertBits.go
    by_cases hv : v >>> f ≠ 0
    · rw [if_pos hv]
    · rw [if_neg hv]
      have hvlt : v < 2 ^ f := by
        rw [Nat.shiftRight_eq_div_pow] at hv
        have := Nat.two_pow_pos f
        exact (Nat.div_eq_zero_iff_lt this).mp (by simpa using hv)
      have h' : ∃ v ∈ rest, ¬ v < 2 ^ f := by
        obtain ⟨w, hw, hw2⟩ := h
        rcases List.mem_cons.mp hw with rfl | hw
        · exact absurd hvlt hw2
        · exact ⟨w, hw, hw2⟩
      simp only []
      generalize convertBits.drain t mo _ _ _ ret = d
      obtain ⟨b, r⟩ := d
      exact ih _ _ _ h'

theorem convertBits_none_of_invalid (f t : Nat) (pad : Bool) (data : List Nat)
    (h : ∃ v ∈ data, ¬ v < 2 ^ f) : convertBits data f t pad = none := by
  unfold convertBits
  exact convertBits_go_none f t pad _ _ data 0 0 [] h

/-- the two checks of `ConvertBits` after the loop when `pad` is off: `fromBits` or more bits left
over, or a left-over bit set. -/
theorem convertBits_nopad (f t : Nat) (ht : 0 < t) (data : List Nat) (h : ∀ v ∈ data, v < 2 ^ f) :
    convertBits data f t false =
      if (f * data.length) % t ≥ f ∨ ∃ b ∈ chunkRem t (symbolBits f data), b = true then none
      else some ((fullChunks t (symbolBits f data)).map ofBitsBE) := by
  have hz : ∀ k, ofBitsBE (chunkRem t (symbolBits f data) ++ List.replicate k false) ≠ 0 ↔
      ∃ b ∈ chunkRem t (symbolBits f data), b = true := by
    intro k
    rw [ne_eq, ofBitsBE_eq_zero_iff, List.forall_mem_append]
    simp
  rw [convertBits_eq_cbFinish f t ht false data h, cbFinish, length_chunkRem, length_symbolBits]
  simp only [Bool.false_eq_true, if_false, hz]

theorem length_regroup_8_5 (data : List Nat) :
    (regroup 8 5 data).length = (8 * data.length + 4) / 5 := by
  obtain ⟨k, hk, hmod, hpad⟩ := padBits_eq 5 (by omega) (symbolBits 8 data)
  rw [length_symbolBits] at hmod
  rw [regroup, List.length_map, length_fullChunks, hpad, List.length_append, List.length_replicate,
    length_symbolBits]
  omega

theorem regroup_lt (f t : Nat) (data : List Nat) : ∀ x ∈ regroup f t data, x < 2 ^ t := by
  intro x hx
  simp only [regroup, List.mem_map] at hx
  obtain ⟨c, hc, rfl⟩ := hx
  have := ofBitsBE_lt c
  rwa [length_of_mem_fullChunks t _ c hc] at this

theorem convertBits_8_5 (data : List Nat) (h : ∀ v ∈ data, v < 256) :
    ∃ r, convertBits data 8 5 true = some r ∧ r.length = (8 * data.length + 4) / 5 ∧
      ∀ x ∈ r, x < 32 :=
  ⟨regroup 8 5 data, convertBits_pad 8 5 (by omega) data h, length_regroup_8_5 data,
    regroup_lt 8 5 data⟩

theorem flatMap_bitsBE_map_ofBitsBE (t : Nat) (cs : List (List Bool)) (h : ∀ c ∈ cs, c.length = t) :
    (cs.map ofBitsBE).flatMap (bitsBE t) = cs.flatten := by
  induction cs with
  | nil => rfl
  | cons c cs ih =>
    simp only [List.map_cons, List.flatMap_cons, List.flatten_cons]
    rw [ih (fun c hc => h c (by simp [hc]))]
    congr 1
    have := bitsBE_ofBitsBE c
    rwa [h c (by simp)] at this

theorem symbolBits_regroup (f t : Nat) (ht : 0 < t) (data : List Nat) :
    symbolBits t (regroup f t data) = padBits t (symbolBits f data) := by
  unfold regroup
  rw [symbolBits, flatMap_bitsBE_map_ofBitsBE t _ (fun c hc => length_of_mem_fullChunks t _ c hc)]
  have h := flatten_fullChunks t ht (padBits t (symbolBits f data))
  have h0 : chunkRem t (padBits t (symbolBits f data)) = [] := by
    obtain ⟨k, _, hmod, hpad⟩ := padBits_eq t ht (symbolBits f data)
    apply List.eq_nil_of_length_eq_zero
    rw [length_chunkRem, hpad, List.length_append, List.length_replicate]; exact hmod
  rwa [h0, List.append_nil] at h

theorem convertBits_regroup_inv (f t : Nat) (ht : 0 < t) (htf : t ≤ f) (data : List Nat)
    (h : ∀ v ∈ data, v < 2 ^ f) : convertBits (regroup f t data) t f false = some data := by
  have hf : 0 < f := by omega
  rw [convertBits_nopad t f hf _ (regroup_lt f t data), symbolBits_regroup f t ht]
  obtain ⟨k, hk, -, hpad⟩ := padBits_eq t ht (symbolBits f data)
  have hB : symbolBits f data = (data.map (bitsBE f)).flatten := by
    simp [symbolBits, List.flatMap_def]
  obtain ⟨h1, h2⟩ := fullChunks_flatten f hf (data.map (bitsBE f))
    (by intro c hc; simp only [List.mem_map] at hc; obtain ⟨v, _, rfl⟩ := hc; simp)
    (List.replicate k false) (by simp; omega)
  have hlen : (t * (regroup f t data).length) % f = k := by
    have := congrArg List.length h2
    rw [length_chunkRem, ← hB, ← hpad, ← symbolBits_regroup f t ht, length_symbolBits] at this
    simpa using this
  rw [hpad, hB, h1, h2, hlen, if_neg, List.map_map]
  · exact congrArg some (all_valid_of_lt f data h)
  · simp; omega

/-- `ConvertFromBase32 (ConvertToBase32 b) = b` for every byte string. -/
theorem convertBits_8_5_8' (data : List Nat) (h : ∀ v ∈ data, v < 256) :
    (convertBits data 8 5 true).bind (fun r => convertBits r 5 8 false) = some data := by
  rw [convertBits_pad 8 5 (by omega) data h]
  exact convertBits_regroup_inv 8 5 (by omega) (by omega) data h

theorem bytesToNats_lt (b : Bytes) : ∀ v ∈ bytesToNats b, v < 256 := by
  intro v hv
  simp only [bytesToNats, List.mem_map] at hv
  obtain ⟨a, _, rfl⟩ := hv
  exact a.toNat_lt

theorem toBase32_eq (b : Bytes) : toBase32 (bytesToNats b) = .ok (regroup 8 5 (bytesToNats b)) := by
  unfold toBase32
  rw [convertBits_pad 8 5 (by omega) _ (bytesToNats_lt b)]
  rfl

theorem fromBase32_regroup (b : Bytes) :
    fromBase32 (regroup 8 5 (bytesToNats b)) = .ok (bytesToNats b) := by
  unfold fromBase32
  rw [convertBits_regroup_inv 8 5 (by omega) (by omega) _ (bytesToNats_lt b)]
  rfl

theorem convertBits_8_5_8 (b : Bytes) :
    (toBase32 (bytesToNats b) >>= fromBase32) = .ok (bytesToNats b) := by
  rw [toBase32_eq]
  exact fromBase32_regroup b

end BipVerif.Model
