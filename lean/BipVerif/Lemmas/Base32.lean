/- Base32: CPython's `base64.b32encode`/`b32decode` (RFC 4648) and the library's wrappers
`Base32Encoder`/`Base32Decoder` around them (custom alphabet by `str.translate`, padding stripped
and re-added, re-encoding check in `Decode`).
The encoder is cut into 5-byte blocks (`b32Block`, and `b32Tail` for the padded last one), the
decoder into 8-character quanta (`b32Acc`), and the two are matched block against quantum. This
gives the shape of every encoding (alphabet symbols, then fewer than 8 `=`), `decode (encode b) = b`
with and without padding for the standard and for any admissible custom alphabet, and canonicity:
an accepted string is, up to its padding, the encoding of what it decodes to. -/
import BipVerif.Lemmas.Chunks
import BipVerif.Lemmas.IntBytes
import BipVerif.Lemmas.Base58
import BipVerif.Lemmas.Except
import BipVerif.Model.Base32

namespace BipVerif.Model
open BipVerif

theorem rstripChar_append_replicate (c : Char) (l : List Char) (p : Nat) (h : ∀ x ∈ l, x ≠ c) :
    rstripChar c (l ++ List.replicate p c) = l := by
  unfold rstripChar
  rw [List.reverse_append, List.reverse_replicate,
    List.dropWhile_append_of_pos (by intro a ha; simp [(List.mem_replicate.mp ha).2])]
  cases hr : l.reverse with
  | nil => simp [List.reverse_eq_nil_iff.mp hr]
  | cons a t =>
    have ha : a ∈ l := by rw [← List.mem_reverse, hr]; simp
    rw [List.dropWhile_cons_of_neg (by simpa using h a ha), ← hr, List.reverse_reverse]

theorem rstripChar_of_forall_ne (c : Char) (l : List Char) (h : ∀ x ∈ l, x ≠ c) : rstripChar c l = l := by
  have := rstripChar_append_replicate c l 0 h
  rwa [List.replicate_zero, List.append_nil] at this

theorem rstripChar_split (c : Char) (s : List Char) :
    ∃ q, s = rstripChar c s ++ List.replicate q c := by
  unfold rstripChar
  have h := split_leading c s.reverse
  refine ⟨leadingCount c s.reverse, ?_⟩
  have := congrArg List.reverse h
  rw [List.reverse_reverse, List.reverse_append, List.reverse_replicate] at this
  exact this

/-! ### the eight 5-bit digits of a 40-bit quantum -/

def b32Digits (c : Nat) : List Nat :=
  (List.range 8).map fun i => (c >>> (5 * (7 - i))) &&& 31

def b32Quantum (c : Nat) : List Char := (b32Digits c).map fun d => b32Std.getD d '?'

theorem b32Digits_eq_map (c : Nat) :
    b32Digits c = (List.range 8).map fun i => c / 32 ^ (8 - 1 - i) % 32 := by
  unfold b32Digits
  refine List.map_congr_left fun i _ => ?_
  rw [Nat.shiftRight_eq_div_pow, Nat.pow_mul, Nat.and_two_pow_sub_one_eq_mod _ 5]

theorem b32Digits_eq (c : Nat) : b32Digits c =
    [c / 2 ^ 35 % 32, c / 2 ^ 30 % 32, c / 2 ^ 25 % 32, c / 2 ^ 20 % 32, c / 2 ^ 15 % 32,
      c / 2 ^ 10 % 32, c / 2 ^ 5 % 32, c % 32] := by
  rw [b32Digits_eq_map]
  simp [List.range_succ]

theorem b32Digits_lt (c : Nat) : ∀ d ∈ b32Digits c, d < 32 := by
  intro d hd
  rw [b32Digits_eq_map] at hd
  obtain ⟨i, _, rfl⟩ := List.mem_map.mp hd
  exact Nat.mod_lt _ (by omega)

theorem b32Digits_length (c : Nat) : (b32Digits c).length = 8 := by simp [b32Digits]

theorem b32Quantum_length (c : Nat) : (b32Quantum c).length = 8 := by
  simp [b32Quantum, b32Digits_length]

theorem ofDigitsBE_b32Digits_take (c p : Nat) (hc : c < 2 ^ 40) (hp : p ≤ 8) :
    ofDigitsBE 32 ((b32Digits c).take (8 - p)) = c / 32 ^ p := by
  rw [b32Digits_eq_map, ← List.map_take, List.take_range, Nat.min_eq_left (Nat.sub_le 8 p),
    ofDigitsBE_map_range 32 8 c (8 - p) (Nat.sub_le 8 p), Nat.sub_sub_self hp]
  refine Nat.mod_eq_of_lt (Nat.div_lt_of_lt_mul ?_)
  rw [← Nat.pow_add, Nat.add_sub_cancel' hp]
  exact hc

theorem ofDigitsBE_b32Digits (c : Nat) (hc : c < 2 ^ 40) : ofDigitsBE 32 (b32Digits c) = c := by
  have := ofDigitsBE_b32Digits_take c 0 hc (by omega)
  rw [List.take_of_length_le (by rw [b32Digits_length])] at this
  simpa using this

/-! ### the encoder, block by block -/

def b32Npad (k : Nat) : Nat := match k with | 1 => 6 | 2 => 4 | 3 => 3 | 4 => 1 | _ => 0

/-- the padding table: `p` pad characters stand for the `5 * p` low bits that the `5 - k` zero
bytes of the padded block contribute, and `(43 - 5 * p) / 8` recovers `k`. -/
theorem b32Npad_spec {k : Nat} (h1 : 0 < k) (h5 : k < 5) :
    0 < b32Npad k ∧ b32Npad k < 8 ∧
      (b32Npad k = 0 ∨ b32Npad k = 1 ∨ b32Npad k = 3 ∨ b32Npad k = 4 ∨ b32Npad k = 6) ∧
      (43 - 5 * b32Npad k) / 8 = k ∧ 32 ^ b32Npad k ∣ 256 ^ (5 - k) := by
  interval_cases k <;> decide

/-- encoding of the final partial block (`tail.length < 5`) -/
def b32Tail (tail : Bytes) : List Char :=
  if tail = [] then []
  else (b32Quantum (Bytes.toNatBE (tail ++ List.replicate (5 - tail.length) 0))).take
      (8 - b32Npad tail.length) ++ List.replicate (b32Npad tail.length) '='

def b32Block (blk : Bytes) : List Char := b32Quantum (Bytes.toNatBE blk)

theorem b32encodeStd_def (data : Bytes) :
    b32encodeStd data =
      let leftover := data.length % 5
      let s := if leftover ≠ 0 then data ++ List.replicate (5 - leftover) 0 else data
      let enc := (chunksOf 5 s).flatMap b32Block
      enc.take (enc.length - b32Npad leftover) ++ List.replicate (b32Npad leftover) '=' := by
  unfold b32encodeStd b32Block b32Quantum b32Digits b32Npad
  simp only [List.map_map]
  rfl

theorem flatMap_b32Block_length (bs : List Bytes) : (bs.flatMap b32Block).length = 8 * bs.length := by
  induction bs with
  | nil => rfl
  | cons a t ih =>
    rw [List.flatMap_cons, List.length_append, ih, b32Block, b32Quantum_length, List.length_cons]
    omega

theorem b32encodeStd_eq (full tail : Bytes) (hf : full.length % 5 = 0) (hk : tail.length < 5) :
    b32encodeStd (full ++ tail) = (chunksOf 5 full).flatMap b32Block ++ b32Tail tail := by
  rw [b32encodeStd_def]
  have hleft : (full ++ tail).length % 5 = tail.length := by
    rw [List.length_append]; omega
  simp only [hleft]
  by_cases ht : tail = []
  · subst ht
    simp [b32Tail, b32Npad]
  · have hpos : 0 < tail.length := List.length_pos_iff.mpr ht
    have hne : tail.length ≠ 0 := by omega
    simp only [hne, ne_eq, not_false_eq_true, if_true, b32Tail, ht, if_false]
    have hlast : (tail ++ List.replicate (5 - tail.length) 0).length = 5 := by
      simp; omega
    have hlastne : tail ++ List.replicate (5 - tail.length) 0 ≠ [] := by simp [ht]
    rw [List.append_assoc, chunksOf_append_of_mod 5 (by omega) full _ hf,
      chunksOf_of_length_le 5 (tail ++ List.replicate (5 - tail.length) 0) hlastne (by omega),
      List.flatMap_append]
    simp only [List.flatMap_cons, List.flatMap_nil, List.append_nil]
    obtain ⟨-, hnp, -⟩ := b32Npad_spec hpos hk
    rw [List.length_append, b32Block, b32Quantum_length,
      show ((chunksOf 5 full).flatMap b32Block).length + 8 - b32Npad tail.length
        = ((chunksOf 5 full).flatMap b32Block).length + (8 - b32Npad tail.length) by omega,
      List.take_append, List.append_assoc, List.take_of_length_le (by omega), Nat.add_sub_cancel_left]

/-! ### the standard alphabet: 32 distinct ASCII symbols, none of them `=` -/

theorem b32Std_eq : b32Std =
    ['A', 'B', 'C', 'D', 'E', 'F', 'G', 'H', 'I', 'J', 'K', 'L', 'M', 'N', 'O', 'P', 'Q', 'R',
      'S', 'T', 'U', 'V', 'W', 'X', 'Y', 'Z', '2', '3', '4', '5', '6', '7'] :=
  String.toList_ofList

theorem b32Std_nodup : b32Std.Nodup := by
  rw [b32Std_eq]; exact List.Nodup.of_map Char.toNat (by decide +kernel)

theorem b32Std_length : b32Std.length = 32 := by rw [b32Std_eq]; rfl

theorem b32Std_ascii : ∀ c ∈ b32Std, c ≠ '=' ∧ c.toNat < 128 := by
  rw [b32Std_eq]; decide +kernel

theorem b32Std_no_pad : '=' ∉ b32Std := fun h => (b32Std_ascii _ h).1 rfl

theorem b32Std_idxOf_getD (d : Nat) (hd : d < 32) : b32Std.idxOf? (b32Std.getD d '?') = some d :=
  idxOf?_getD_of_nodup b32Std b32Std_nodup d (by rw [b32Std_length]; exact hd) '?'

theorem b32Std_getD_mem (d : Nat) (hd : d < 32) : b32Std.getD d '?' ∈ b32Std := by
  have : d < b32Std.length := by rw [b32Std_length]; exact hd
  simp [List.getD_eq_getElem?_getD, this]

/-! ### the decoder, quantum by quantum -/

def b32Acc (q : List Char) : R Nat :=
  q.foldlM (fun acc c => match b32Std.idxOf? c with
    | some i => pure (acc * 32 + i)
    | none => throw Err.value) 0

theorem b32_foldlM_map (ds : List Nat) (h : ∀ d ∈ ds, d < 32) (a : Nat) :
    (ds.map fun d => b32Std.getD d '?').foldlM (fun acc c => match b32Std.idxOf? c with
      | some i => (pure (acc * 32 + i) : R Nat)
      | none => throw Err.value) a = .ok (ds.foldl (fun acc d => acc * 32 + d) a) := by
  induction ds generalizing a with
  | nil => rfl
  | cons d t ih =>
    rw [List.map_cons, List.foldlM_cons, b32Std_idxOf_getD d (h d (by simp))]
    simp only [List.foldl_cons]
    exact ih (fun x hx => h x (by simp [hx])) _

theorem b32Acc_map (ds : List Nat) (h : ∀ d ∈ ds, d < 32) :
    b32Acc (ds.map fun d => b32Std.getD d '?') = .ok (ofDigitsBE 32 ds) :=
  b32_foldlM_map ds h 0

theorem b32Acc_quantum (c : Nat) (hc : c < 2 ^ 40) : b32Acc (b32Quantum c) = .ok c := by
  unfold b32Quantum
  rw [b32Acc_map _ (b32Digits_lt c), ofDigitsBE_b32Digits c hc]

theorem b32Acc_quantum_take (c p : Nat) (hc : c < 2 ^ 40) (hp : p ≤ 8) :
    b32Acc ((b32Quantum c).take (8 - p)) = .ok (c / 32 ^ p) := by
  unfold b32Quantum
  rw [← List.map_take, b32Acc_map _ (fun d hd => b32Digits_lt c d (List.mem_of_mem_take hd)),
    ofDigitsBE_b32Digits_take c p hc hp]

theorem toNatBE_lt_of_length_5 (b : Bytes) (hb : b.length = 5) : Bytes.toNatBE b < 2 ^ 40 := by
  have := toNatBE_lt b; rw [hb] at this; omega

theorem b32Acc_block (b : Bytes) (hb : b.length = 5) : b32Acc (b32Block b) = .ok (Bytes.toNatBE b) :=
  b32Acc_quantum _ (toNatBE_lt_of_length_5 b hb)

theorem mapM_b32Acc_blocks (blocks : List Bytes) (hb : ∀ b ∈ blocks, b.length = 5) :
    (blocks.map b32Block).mapM b32Acc = .ok (blocks.map Bytes.toNatBE) := by
  induction blocks with
  | nil => rfl
  | cons a t ih =>
    rw [List.map_cons, List.mapM_cons, b32Acc_block a (hb a (by simp)),
      ih (fun b h => hb b (by simp [h]))]
    rfl

theorem chunksOf_flatMap_blocks (blocks : List Bytes) (r : List Char) :
    chunksOf 8 (blocks.flatMap b32Block ++ r) = blocks.map b32Block ++ chunksOf 8 r := by
  induction blocks with
  | nil => simp
  | cons a t ih =>
    rw [List.flatMap_cons, List.append_assoc,
      chunksOf_append_of_length 8 (by omega) _ _ (by rw [b32Block, b32Quantum_length]), ih]
    rfl

theorem flatMap_ofNatBE_blocks (blocks : List Bytes) (hb : ∀ b ∈ blocks, b.length = 5) :
    (blocks.map Bytes.toNatBE).flatMap (fun acc => Bytes.ofNatBE 5 acc) = blocks.flatten := by
  induction blocks with
  | nil => rfl
  | cons a t ih =>
    have ha := hb a (by simp)
    have := ofNatBE_toNatBE a
    rw [ha] at this
    rw [List.map_cons, List.flatMap_cons, this, ih (fun b h => hb b (by simp [h])),
      List.flatten_cons]

theorem b32Quantum_mem (c : Nat) : ∀ x ∈ b32Quantum c, x ∈ b32Std := by
  intro x hx
  unfold b32Quantum at hx
  obtain ⟨d, hd, rfl⟩ := List.mem_map.mp hx
  exact b32Std_getD_mem d (b32Digits_lt c d hd)

theorem flatMap_b32Block_mem (blocks : List Bytes) : ∀ x ∈ blocks.flatMap b32Block, x ∈ b32Std := by
  intro x hx
  obtain ⟨b, _, hxb⟩ := List.mem_flatMap.mp hx
  exact b32Quantum_mem _ x hxb

theorem b32decodeStd_def (s : List Char) : b32decodeStd s = (do
    if s.any (fun c => c.toNat ≥ 128) then throw Err.value
    if s.length % 8 ≠ 0 then throw Err.value
    let l := s.length
    let s := rstripChar '=' s
    let padchars := l - s.length
    let accs ← (chunksOf 8 s).mapM b32Acc
    let decoded : Bytes := accs.flatMap fun acc => Bytes.ofNatBE 5 acc
    if !(padchars = 0 || padchars = 1 || padchars = 3 || padchars = 4 || padchars = 6) then
      throw Err.value
    if padchars ≠ 0 && !decoded.isEmpty then
      let acc := (accs.getLast?.getD 0) <<< (5 * padchars)
      let last := Bytes.ofNatBE 5 acc
      let leftover := (43 - 5 * padchars) / 8
      pure (dropLast decoded 5 ++ last.take leftover)
    else pure decoded) := by
  unfold b32decodeStd b32Acc
  rfl

/-- On alphabet symbols followed by an admissible number of `=`, every check of `b32decode` passes;
what is left is the branch that trims the last quantum. -/
theorem b32decodeStd_flat (X : List Char) (p : Nat) (accs : List Nat)
    (hlen : (X.length + p) % 8 = 0) (hX : ∀ x ∈ X, x ∈ b32Std)
    (hacc : (chunksOf 8 X).mapM b32Acc = .ok accs) (hp : p = 0 ∨ p = 1 ∨ p = 3 ∨ p = 4 ∨ p = 6) :
    b32decodeStd (X ++ List.replicate p '=') =
      if p ≠ 0 ∧ accs.flatMap (fun acc => Bytes.ofNatBE 5 acc) ≠ [] then
        .ok (dropLast (accs.flatMap (fun acc => Bytes.ofNatBE 5 acc)) 5
          ++ (Bytes.ofNatBE 5 ((accs.getLast?.getD 0) <<< (5 * p))).take ((43 - 5 * p) / 8))
      else .ok (accs.flatMap (fun acc => Bytes.ofNatBE 5 acc)) := by
  rw [b32decodeStd_def]
  generalize hs : X ++ List.replicate p '=' = s
  have h1 : s.any (fun c => decide (c.toNat ≥ 128)) = false := by
    rw [List.any_eq_false, ← hs]
    intro c hc
    have : c.toNat < 128 := by
      rcases List.mem_append.mp hc with h | h
      · exact (b32Std_ascii c (hX c h)).2
      · rw [(List.mem_replicate.mp h).2]; decide
    simp; omega
  have hlen : s.length % 8 = 0 := by rw [← hs, List.length_append, List.length_replicate]; exact hlen
  have hstrip : rstripChar '=' s = X := by
    rw [← hs]; exact rstripChar_append_replicate '=' X p fun x hx => (b32Std_ascii x (hX x hx)).1
  have hpad : s.length - X.length = p := by rw [← hs]; simp
  have hpv : (!(decide (p = 0) || decide (p = 1) || decide (p = 3) || decide (p = 4) || decide (p = 6))) = false := by
    rcases hp with h | h | h | h | h <;> subst h <;> rfl
  simp only [h1, hlen, hstrip, hpad, hacc, hpv, bind, Except.bind, Bool.false_eq_true, if_false, ne_eq,
    not_true_eq_false]
  by_cases hc : p ≠ 0 ∧ accs.flatMap (fun acc => Bytes.ofNatBE 5 acc) ≠ []
  · rw [if_pos hc, if_pos (by simpa using hc)]; rfl
  · rw [if_neg hc, if_neg (by simpa using hc)]; rfl

theorem b32decodeStd_blocks (blocks : List Bytes) (hb : ∀ b ∈ blocks, b.length = 5) :
    b32decodeStd (blocks.flatMap b32Block) = .ok blocks.flatten := by
  have hmem := flatMap_b32Block_mem blocks
  have hch : chunksOf 8 (blocks.flatMap b32Block) = blocks.map b32Block := by
    have := chunksOf_flatMap_blocks blocks []
    simpa using this
  have := b32decodeStd_flat (blocks.flatMap b32Block) 0 (blocks.map Bytes.toNatBE)
    (by rw [flatMap_b32Block_length]; omega) hmem
    (by rw [hch]; exact mapM_b32Acc_blocks blocks hb) (Or.inl rfl)
  rw [List.replicate_zero, List.append_nil] at this
  rw [this, if_neg (by simp), flatMap_ofNatBE_blocks blocks hb]

theorem b32decodeStd_blocks_tail (blocks : List Bytes) (hb : ∀ b ∈ blocks, b.length = 5)
    (tail : Bytes) (ht : tail ≠ []) (hk : tail.length < 5) :
    b32decodeStd (blocks.flatMap b32Block ++ b32Tail tail) = .ok (blocks.flatten ++ tail) := by
  have hpos : 0 < tail.length := List.length_pos_iff.mpr ht
  set k := tail.length with hkdef
  set p := b32Npad k with hpdef
  set lastblk := tail ++ List.replicate (5 - k) 0 with hlb
  have hlblen : lastblk.length = 5 := by rw [hlb]; simp; omega
  set c := Bytes.toNatBE lastblk with hcdef
  have hc : c < 2 ^ 40 := toNatBE_lt_of_length_5 lastblk hlblen
  have hcval : c = Bytes.toNatBE tail * 256 ^ (5 - k) := by
    rw [hcdef, hlb, toNatBE_append, toNatBE_replicate_zero]; simp
  set T := (b32Quantum c).take (8 - p) with hT
  obtain ⟨hp0, hp8, hpv, hleft, hdvd⟩ := b32Npad_spec hpos hk
  have hshift : (c / 32 ^ p) <<< (5 * p) = c := by
    rw [Nat.shiftLeft_eq, Nat.pow_mul, Nat.div_mul_cancel (hcval ▸ Dvd.dvd.mul_left hdvd _)]
  have htail : b32Tail tail = T ++ List.replicate p '=' := by
    unfold b32Tail; rw [if_neg ht]
  have hTlen : T.length = 8 - p := by
    rw [hT, List.length_take, b32Quantum_length]; omega
  have hTne : T ≠ [] := by
    intro e; rw [e] at hTlen; simp at hTlen
    omega
  have hXmem : ∀ x ∈ blocks.flatMap b32Block ++ T, x ∈ b32Std := fun x hx =>
    (List.mem_append.mp hx).elim (flatMap_b32Block_mem blocks x) fun h =>
      b32Quantum_mem c x (List.mem_of_mem_take h)
  have hch : chunksOf 8 (blocks.flatMap b32Block ++ T) = blocks.map b32Block ++ [T] := by
    rw [chunksOf_flatMap_blocks, chunksOf_of_length_le 8 T hTne (by omega)]
  have hacc : (chunksOf 8 (blocks.flatMap b32Block ++ T)).mapM b32Acc
      = .ok (blocks.map Bytes.toNatBE ++ [c / 32 ^ p]) := by
    rw [hch, List.mapM_append, mapM_b32Acc_blocks blocks hb, List.mapM_cons,
      b32Acc_quantum_take c p hc (by omega)]
    rfl
  rw [htail, ← List.append_assoc]
  rw [b32decodeStd_flat (blocks.flatMap b32Block ++ T) p _
    (by simp only [List.length_append, flatMap_b32Block_length, hTlen]; omega) hXmem hacc hpv]
  have hdec : (blocks.map Bytes.toNatBE ++ [c / 32 ^ p]).flatMap (fun acc => Bytes.ofNatBE 5 acc)
      = blocks.flatten ++ Bytes.ofNatBE 5 (c / 32 ^ p) := by
    rw [List.flatMap_append, flatMap_ofNatBE_blocks blocks hb]; simp
  have hlast : (blocks.map Bytes.toNatBE ++ [c / 32 ^ p]).getLast?.getD 0 = c / 32 ^ p := by
    rw [List.getLast?_concat]; rfl
  rw [hdec, hlast, hshift, hleft]
  have hne : p ≠ 0 ∧ blocks.flatten ++ Bytes.ofNatBE 5 (c / 32 ^ p) ≠ [] := by
    refine ⟨by omega, ?_⟩
    intro e
    have := congrArg List.length e
    simp at this
  rw [if_pos hne, dropLast_append_of_length _ _ 5 (length_ofNatBE 5 _)]
  have hof : Bytes.ofNatBE 5 c = lastblk := by
    have := ofNatBE_toNatBE lastblk
    rwa [hlblen] at this
  rw [hof, hlb, List.take_left' hkdef.symm]

/-! ### CPython's pair: shape of an encoding, and `b32decode (b32encode b) = b` -/

theorem b32_split (data : Bytes) :
    ∃ full tail, data = full ++ tail ∧ full.length % 5 = 0 ∧ tail.length < 5 := by
  refine ⟨data.take (5 * (data.length / 5)), data.drop (5 * (data.length / 5)),
    (List.take_append_drop _ _).symm, ?_, ?_⟩
  · rw [List.length_take]; omega
  · rw [List.length_drop]; omega

theorem b32Tail_shape (tail : Bytes) (ht : tail ≠ []) (hk : tail.length < 5) :
    ∃ T p, b32Tail tail = T ++ List.replicate p '=' ∧ (∀ x ∈ T, x ∈ b32Std) ∧ T.length + p = 8
      ∧ 0 < p ∧ p < 8 := by
  obtain ⟨hp0, hp8, -⟩ := b32Npad_spec (List.length_pos_iff.mpr ht) hk
  refine ⟨_, b32Npad tail.length, by unfold b32Tail; rw [if_neg ht],
    fun x hx => b32Quantum_mem _ x (List.mem_of_mem_take hx), ?_, ?_, ?_⟩
  · rw [List.length_take, b32Quantum_length]; omega
  · exact hp0
  · exact hp8

theorem b32encodeStd_shape (data : Bytes) :
    ∃ X p, b32encodeStd data = X ++ List.replicate p '=' ∧ (∀ x ∈ X, x ∈ b32Std)
      ∧ (X.length + p) % 8 = 0 ∧ p < 8 := by
  obtain ⟨full, tail, rfl, hf, hk⟩ := b32_split data
  rw [b32encodeStd_eq full tail hf hk]
  by_cases ht : tail = []
  · subst ht
    refine ⟨(chunksOf 5 full).flatMap b32Block, 0, by simp [b32Tail], flatMap_b32Block_mem _, ?_,
      by omega⟩
    rw [flatMap_b32Block_length]; omega
  · obtain ⟨T, p, hT, hmem, hlen, hp0, hp8⟩ := b32Tail_shape tail ht hk
    refine ⟨(chunksOf 5 full).flatMap b32Block ++ T, p, by rw [hT, List.append_assoc], ?_, ?_, hp8⟩
    · intro x hx
      rcases List.mem_append.mp hx with h | h
      · exact flatMap_b32Block_mem _ x h
      · exact hmem x h
    · rw [List.length_append, flatMap_b32Block_length]; omega

/-- `base64.b32decode(base64.b32encode(b)) == b` -/
theorem b32decodeStd_b32encodeStd (data : Bytes) : b32decodeStd (b32encodeStd data) = .ok data := by
  obtain ⟨full, tail, rfl, hf, hk⟩ := b32_split data
  rw [b32encodeStd_eq full tail hf hk]
  have hb := chunksOf_length_eq 5 (by omega) full hf
  have hfl := flatten_chunksOf 5 (by omega) full
  by_cases ht : tail = []
  · subst ht
    simp only [b32Tail, if_true, List.append_nil]
    rw [b32decodeStd_blocks _ hb, hfl]
  · rw [b32decodeStd_blocks_tail _ hb tail ht hk, hfl]

/-! ### the wrappers' string operations: `_Base32Utils.AddPadding` and `TranslateAlphabet` -/

theorem addPadding_of_mod (s : List Char) (h : s.length % 8 = 0) : addPadding s = s := by
  unfold addPadding; simp [h]

theorem addPadding_strip (X : List Char) (p : Nat) (h : (X.length + p) % 8 = 0) (hp : p < 8) :
    addPadding X = X ++ List.replicate p '=' := by
  show (if X.length % 8 ≠ 0 then X ++ List.replicate (8 - X.length % 8) '=' else X) = _
  split
  · rw [show 8 - X.length % 8 = p by omega]
  · rw [show p = 0 by omega, List.replicate_zero, List.append_nil]

theorem translate_append (frm tgt : List Char) (a b : List Char) :
    translate frm tgt (a ++ b) = translate frm tgt a ++ translate frm tgt b := by
  unfold translate; rw [List.map_append]

theorem translate_length (frm tgt : List Char) (s : List Char) :
    (translate frm tgt s).length = s.length := by
  unfold translate; rw [List.length_map]

theorem translate_replicate_of_not_mem (frm tgt : List Char) (c : Char) (p : Nat) (h : c ∉ frm) :
    translate frm tgt (List.replicate p c) = List.replicate p c := by
  unfold translate
  rw [List.map_replicate]
  have : frm.idxOf? c = none := by
    rw [List.idxOf?, List.findIdx?_eq_none_iff]
    intro x hx; simp; rintro rfl; exact h hx
  rw [this]

theorem translate_translate (frm tgt : List Char) (hf : frm.Nodup) (ht : tgt.Nodup)
    (hl : frm.length = tgt.length) (s : List Char) (hs : ∀ x ∈ s, x ∈ frm) :
    translate tgt frm (translate frm tgt s) = s ∧ ∀ y ∈ translate frm tgt s, y ∈ tgt := by
  induction s with
  | nil => exact ⟨rfl, by simp [translate]⟩
  | cons x t ih =>
    obtain ⟨ih1, ih2⟩ := ih (fun y hy => hs y (by simp [hy]))
    obtain ⟨i, hi, hxi⟩ := List.mem_iff_getElem.mp (hs x (by simp))
    have hi' : i < tgt.length := by omega
    have h1 : frm.idxOf? x = some i := by rw [← hxi]; exact idxOf?_getElem_of_nodup frm hf i hi
    have h2 : tgt.getD i x = tgt[i] := by simp [List.getD_eq_getElem?_getD, hi']
    have h3 : tgt.idxOf? tgt[i] = some i := idxOf?_getElem_of_nodup tgt ht i hi'
    have h4 : frm.getD i tgt[i] = x := by simp [List.getD_eq_getElem?_getD, hi, hxi]
    have hcons : translate frm tgt (x :: t) = tgt[i] :: translate frm tgt t := by
      unfold translate; rw [List.map_cons, h1]; simp only [h2]
    rw [hcons]
    constructor
    · have : translate tgt frm (tgt[i] :: translate frm tgt t)
          = x :: translate tgt frm (translate frm tgt t) := by
        conv_lhs => unfold translate
        rw [List.map_cons, h3]; simp only [h4]; rfl
      rw [this, ih1]
    · intro y hy
      rcases List.mem_cons.mp hy with rfl | hy
      · exact List.getElem_mem hi'
      · exact ih2 y hy

theorem translate_padded (frm tgt : List Char) (hf : frm.Nodup) (ht : tgt.Nodup)
    (hl : frm.length = tgt.length) {c : Char} (hcf : c ∉ frm) (hct : c ∉ tgt) (X : List Char) (p : Nat)
    (hX : ∀ x ∈ X, x ∈ frm) :
    translate frm tgt (X ++ List.replicate p c) = translate frm tgt X ++ List.replicate p c ∧
      translate tgt frm (translate frm tgt (X ++ List.replicate p c)) = X ++ List.replicate p c := by
  have h1 : translate frm tgt (X ++ List.replicate p c) = translate frm tgt X ++ List.replicate p c := by
    rw [translate_append, translate_replicate_of_not_mem _ _ _ _ hcf]
  refine ⟨h1, ?_⟩
  rw [h1, translate_append, (translate_translate frm tgt hf ht hl X hX).1,
    translate_replicate_of_not_mem _ _ _ _ hct]

/-! ### `Base32Encoder` / `Base32Decoder`: round trips and canonicity -/

/-- The library does not validate `custom_alphabet`; the round trips are stated for alphabets of
32 distinct symbols without the padding character. -/
def Base32AlphabetOk (a : List Char) : Prop := a.Nodup ∧ a.length = 32 ∧ '=' ∉ a

theorem base32Encode_shape (data : Bytes) (custom : Option (List Char))
    (hc : ∀ a, custom = some a → Base32AlphabetOk a) :
    ∃ X p, base32Encode data custom = X ++ List.replicate p '=' ∧ (∀ x ∈ X, x ∈ custom.getD b32Std)
      ∧ (∀ x ∈ X, x ≠ '=') ∧ (X.length + p) % 8 = 0 ∧ p < 8 := by
  obtain ⟨X, p, he, hX, hlen, hp⟩ := b32encodeStd_shape data
  unfold base32Encode
  cases custom with
  | none => exact ⟨X, p, he, hX, fun x hx => (b32Std_ascii x (hX x hx)).1, hlen, hp⟩
  | some a =>
    obtain ⟨han, hal, haeq⟩ := hc a rfl
    have hl : b32Std.length = a.length := by rw [hal, b32Std_length]
    have hmem := (translate_translate b32Std a b32Std_nodup han hl X hX).2
    refine ⟨translate b32Std a X, p, ?_, hmem, fun x hx e => haeq (e ▸ hmem x hx),
      by rw [translate_length]; exact hlen, hp⟩
    rw [he]; exact (translate_padded b32Std a b32Std_nodup han hl b32Std_no_pad haeq X p hX).1

/-- the input of `b32decodeStd` inside `base32Decode`: re-padded, translated to the standard alphabet -/
def base32Pre (s : List Char) (custom : Option (List Char)) : List Char :=
  match custom with
  | some a => translate a b32Std (addPadding s)
  | none => addPadding s

/-- `base32Decode` in flat form: stdlib decoding followed by the canonical re-encoding check -/
theorem base32Decode_eq (s : List Char) (custom : Option (List Char)) :
    base32Decode s custom = match b32decodeStd (base32Pre s custom) with
      | .error e => .error e
      | .ok dec => if base32EncodeNoPad dec custom = rstripChar '=' s then .ok dec else .error .value := by
  have h : base32Decode s custom = b32decodeStd (base32Pre s custom) >>= fun dec =>
      if (base32EncodeNoPad dec custom != rstripChar '=' s) = true then
        (throw Err.value : R PUnit) >>= fun _ => pure dec else pure dec := by
    unfold base32Decode base32Pre; cases custom <;> rfl
  rw [h]
  cases b32decodeStd (base32Pre s custom) with
  | error e => rfl
  | ok dec => exact (guard_not _ _ _ _).trans (if_congr beq_iff_eq rfl rfl)

theorem b32decodeStd_base32Pre_encode (data : Bytes) (custom : Option (List Char))
    (hc : ∀ a, custom = some a → Base32AlphabetOk a) :
    b32decodeStd (base32Pre (base32Encode data custom) custom) = .ok data := by
  obtain ⟨X, p, he, hX, hlen, hp⟩ := b32encodeStd_shape data
  unfold base32Pre base32Encode
  cases custom with
  | none =>
    simp only
    rw [addPadding_of_mod _ (by rw [he]; simpa using hlen)]
    exact b32decodeStd_b32encodeStd data
  | some a =>
    obtain ⟨han, hal, haeq⟩ := hc a rfl
    simp only
    rw [addPadding_of_mod _ (by rw [translate_length, he]; simpa using hlen), he,
      (translate_padded b32Std a b32Std_nodup han (by rw [hal, b32Std_length]) b32Std_no_pad haeq X p hX).2,
      ← he]
    exact b32decodeStd_b32encodeStd data

theorem base32Decode_base32Encode (data : Bytes) (custom : Option (List Char))
    (hc : ∀ a, custom = some a → Base32AlphabetOk a) :
    base32Decode (base32Encode data custom) custom = .ok data := by
  rw [base32Decode_eq, b32decodeStd_base32Pre_encode data custom hc]
  simp only
  exact if_pos (show base32EncodeNoPad data custom = rstripChar '=' (base32Encode data custom) from rfl)

/-- decoding the unpadded encoding: `Decode` re-adds the padding that `EncodeNoPadding` stripped -/
theorem base32Decode_base32EncodeNoPad (data : Bytes) (custom : Option (List Char))
    (hc : ∀ a, custom = some a → Base32AlphabetOk a) :
    base32Decode (base32EncodeNoPad data custom) custom = .ok data := by
  obtain ⟨X, p, he, -, hX, hlen, hp⟩ := base32Encode_shape data custom hc
  have hstrip : base32EncodeNoPad data custom = X := by
    unfold base32EncodeNoPad; rw [he]; exact rstripChar_append_replicate '=' X p hX
  have hpad : addPadding X = base32Encode data custom := by
    rw [he]; exact addPadding_strip X p hlen hp
  have hfull := b32decodeStd_base32Pre_encode data custom hc
  have hmod : (base32Encode data custom).length % 8 = 0 := by rw [he]; simpa using hlen
  have hpre : base32Pre X custom = base32Pre (base32Encode data custom) custom := by
    unfold base32Pre
    rw [hpad, addPadding_of_mod _ hmod]
  rw [base32Decode_eq, hstrip, hpre, hfull]
  simp only
  rw [hstrip, rstripChar_of_forall_ne '=' X hX, if_pos rfl]

/-- Canonicity is the decoder's own last check: `Base32Decoder.Decode` compares `EncodeNoPadding`
of its result with the input stripped of `=`. -/
theorem base32_decode_canonical {s : List Char} {custom : Option (List Char)} {b : Bytes}
    (h : base32Decode s custom = .ok b) : base32EncodeNoPad b custom = rstripChar '=' s := by
  rw [base32Decode_eq] at h
  cases hd : b32decodeStd (base32Pre s custom) with
  | error e => rw [hd] at h; cases h
  | ok dec =>
    rw [hd] at h
    simp only at h
    by_cases hc : base32EncodeNoPad dec custom = rstripChar '=' s
    · rw [if_pos hc] at h
      cases h; exact hc
    · rw [if_neg hc] at h; cases h

theorem base32_decode_encodeNoPad (b : Bytes) :
    base32Decode (base32EncodeNoPad b none) none = .ok b :=
  base32Decode_base32EncodeNoPad b none (by intro a h; cases h)

theorem base32_decode_encodeNoPad_custom (b : Bytes) (a : List Char) (ha : Base32AlphabetOk a) :
    base32Decode (base32EncodeNoPad b (some a)) (some a) = .ok b :=
  base32Decode_base32EncodeNoPad b (some a) (by intro a' h; cases h; exact ha)

end BipVerif.Model
