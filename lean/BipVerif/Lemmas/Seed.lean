/-
Mnemonic → seed.  `electrumV2Seed` as its two pre-checks followed by the PBKDF2 formula.
`str.split()` (`splitWs`): on words separated by non-empty blank runs it returns the words
(`splitWs_sentence`); leading and trailing blanks are ignored and one non-empty blank run is as
good as another.  `splitWs` commutes with character maps that keep whitespace whitespace, and on
ASCII input changing the letter case is such a map and does not change `normToken` either
(`tokens_map_ascii`).  Mathlib-free.
-/
import BipVerif.Model.Seed
import BipVerif.Lemmas.Except

namespace BipVerif.Model.SeedLemmas
open BipVerif BipVerif.Prim BipVerif.Model

theorem bind_ok {α β} (x : α) (f : α → R β) : ((.ok x : R α) >>= f) = f x := ok_bind x f
theorem bind_error {α β} (e : Err) (f : α → R β) : ((.error e : R α) >>= f) = .error e := error_bind e f

/-- `ElectrumV2SeedGenerator`: the two pre-checks, then the BIP-39 formula on what the word decoder
accepts -/
theorem electrumV2Seed_eq (valid : List Nat → Bool) (langs : List (List Nat))
    (lang : Option (List Nat)) (ws : List Nat) (salt : Bytes) :
    electrumV2Seed valid langs lang ws salt
      = if (ws.length = 12 ∨ ws.length = 24) ∧ valid ws = true then
          electrumV2DecodeIdx langs lang ws >>= fun _ =>
            pure (pbkdf2HmacSha512 (sentenceBytes ws) salt 2048 64)
        else .error .value := by
  unfold electrumV2Seed
  by_cases hl : (decide (ws.length = 12) || decide (ws.length = 24)) = true
  · have hl' : ws.length = 12 ∨ ws.length = 24 := by simpa using hl
    cases hv : valid ws with
    | true => simp only [hl, hl', Bool.not_true, Bool.false_eq_true, if_false, and_self, if_true]
    | false =>
      simp only [hl, Bool.not_true, Bool.not_false, Bool.false_eq_true, if_false, if_true,
        and_false]
      rfl
  · have hl' : ¬ (ws.length = 12 ∨ ws.length = 24) := by simpa using hl
    simp only [Bool.not_eq_true] at hl
    simp only [hl, hl', Bool.not_false, if_true, false_and, if_false]
    rfl

abbrev isSp (c : Char) : Bool := splitWs.isSpace c

def Blank (b : List Char) : Prop := ∀ c ∈ b, isSp c = true
def BlankFree (w : List Char) : Prop := ∀ c ∈ w, isSp c = false

def flush (cur : List Char) (acc : List (List Char)) : List (List Char) :=
  if cur.isEmpty then acc else cur.reverse :: acc

theorem go_nil (cur : List Char) (acc : List (List Char)) :
    splitWs.go [] cur acc = (flush cur acc).reverse := by
  simp only [splitWs.go, flush]

theorem go_cons_space {c : Char} (h : isSp c = true) (rest cur : List Char) (acc : List (List Char)) :
    splitWs.go (c :: rest) cur acc = splitWs.go rest [] (flush cur acc) := by
  simp only [isSp] at h
  simp only [splitWs.go, h, if_true, flush]

theorem go_cons_char {c : Char} (h : isSp c = false) (rest cur : List Char) (acc : List (List Char)) :
    splitWs.go (c :: rest) cur acc = splitWs.go rest (c :: cur) acc := by
  simp only [isSp] at h
  simp only [splitWs.go, h, Bool.false_eq_true, if_false]

theorem blank_nil : Blank [] := fun _ h => by cases h
theorem blankFree_nil : BlankFree [] := fun _ h => by cases h

theorem blank_cons {c : Char} {b : List Char} : Blank (c :: b) ↔ isSp c = true ∧ Blank b := by
  simp [Blank]
theorem blankFree_cons {c : Char} {w : List Char} :
    BlankFree (c :: w) ↔ isSp c = false ∧ BlankFree w := by
  simp [BlankFree]

theorem blank_append {a b : List Char} (ha : Blank a) (hb : Blank b) : Blank (a ++ b) := by
  intro c hc
  rcases List.mem_append.1 hc with h | h
  · exact ha c h
  · exact hb c h

theorem blank_replicate {c : Char} (h : isSp c = true) (k : Nat) : Blank (List.replicate k c) := by
  intro d hd
  rw [(List.mem_replicate.1 hd).2]; exact h

theorem flush_nil (acc : List (List Char)) : flush [] acc = acc := rfl

theorem flush_flush_nil (cur : List Char) (acc : List (List Char)) :
    flush [] (flush cur acc) = flush cur acc := rfl

theorem flush_reverse {w : List Char} (h : w ≠ []) (acc : List (List Char)) :
    flush w.reverse acc = w :: acc := by
  simp [flush, h]

theorem go_word : ∀ (w : List Char), BlankFree w → ∀ (rest cur : List Char) (acc : List (List Char)),
    splitWs.go (w ++ rest) cur acc = splitWs.go rest (w.reverse ++ cur) acc
  | [], _, rest, cur, acc => rfl
  | c :: w, h, rest, cur, acc => by
    obtain ⟨hc, hw⟩ := blankFree_cons.1 h
    rw [List.cons_append, go_cons_char hc, go_word w hw]
    simp

theorem go_blank_nil : ∀ (b : List Char), Blank b → ∀ (rest : List Char) (acc : List (List Char)),
    splitWs.go (b ++ rest) [] acc = splitWs.go rest [] acc
  | [], _, rest, acc => rfl
  | c :: b, h, rest, acc => by
    obtain ⟨hc, hb⟩ := blank_cons.1 h
    rw [List.cons_append, go_cons_space hc, flush_nil, go_blank_nil b hb]

theorem go_blank {b : List Char} (hb : Blank b) (hne : b ≠ []) (rest cur : List Char)
    (acc : List (List Char)) :
    splitWs.go (b ++ rest) cur acc = splitWs.go rest [] (flush cur acc) := by
  cases b with
  | nil => exact absurd rfl hne
  | cons c b =>
    obtain ⟨hc, hb'⟩ := blank_cons.1 hb
    rw [List.cons_append, go_cons_space hc, go_blank_nil b hb']

theorem go_blank_end {b : List Char} (hb : Blank b) (cur : List Char) (acc : List (List Char)) :
    splitWs.go b cur acc = (flush cur acc).reverse := by
  cases b with
  | nil => exact go_nil cur acc
  | cons c b =>
    have := go_blank hb (by simp) [] cur acc
    rw [List.append_nil] at this
    rw [this, go_nil, flush_nil]

theorem go_congr_suffix : ∀ (s : List Char) {r r' : List Char},
    (∀ cur acc, splitWs.go r cur acc = splitWs.go r' cur acc) →
    ∀ cur acc, splitWs.go (s ++ r) cur acc = splitWs.go (s ++ r') cur acc
  | [], _, _, h, cur, acc => h cur acc
  | c :: s, r, r', h, cur, acc => by
    cases hc : isSp c with
    | true => rw [List.cons_append, List.cons_append, go_cons_space hc, go_cons_space hc,
                  go_congr_suffix s h]
    | false => rw [List.cons_append, List.cons_append, go_cons_char hc, go_cons_char hc,
                   go_congr_suffix s h]

theorem splitWs_blank_append {b : List Char} (hb : Blank b) (s : List Char) :
    splitWs (b ++ s) = splitWs s := by
  unfold splitWs
  exact go_blank_nil b hb s []

theorem splitWs_append_blank {b : List Char} (hb : Blank b) (s : List Char) :
    splitWs (s ++ b) = splitWs s := by
  unfold splitWs
  have := go_congr_suffix s (r := b) (r' := []) (fun cur acc => by rw [go_blank_end hb, go_nil]) [] []
  rw [List.append_nil] at this
  exact this

theorem splitWs_blank_swap {b b' : List Char} (hb : Blank b) (hne : b ≠ []) (hb' : Blank b')
    (hne' : b' ≠ []) (s s' : List Char) : splitWs (s ++ b ++ s') = splitWs (s ++ b' ++ s') := by
  unfold splitWs
  rw [List.append_assoc, List.append_assoc s b' s']
  apply go_congr_suffix s
  intro cur acc
  rw [go_blank hb hne, go_blank hb' hne']

theorem splitWs_blank {b : List Char} (hb : Blank b) : splitWs b = [] := by
  unfold splitWs
  rw [go_blank_end hb]; rfl

/-- `(sep₁ ++ w₁) ++ (sep₂ ++ w₂) ++ …` -/
def render (items : List (List Char × List Char)) : List Char := items.flatMap fun p => p.1 ++ p.2

def GoodItems (items : List (List Char × List Char)) : Prop :=
  ∀ p ∈ items, Blank p.1 ∧ p.1 ≠ [] ∧ BlankFree p.2 ∧ p.2 ≠ []

theorem go_items : ∀ (items : List (List Char × List Char)), GoodItems items →
    ∀ (trail : List Char), Blank trail → ∀ (cur : List Char) (acc : List (List Char)),
      splitWs.go (render items ++ trail) cur acc
        = (flush cur acc).reverse ++ items.map (·.2)
  | [], _, trail, ht, cur, acc => by
    simp only [render, List.flatMap_nil, List.nil_append, List.map_nil, List.append_nil]
    exact go_blank_end ht cur acc
  | (b, w) :: items, h, trail, ht, cur, acc => by
    obtain ⟨hb, hbne, hw, hwne⟩ := h (b, w) List.mem_cons_self
    have hrest : GoodItems items := fun p hp => h p (List.mem_cons_of_mem _ hp)
    have hr : render ((b, w) :: items) ++ trail = b ++ (w ++ (render items ++ trail)) := by
      simp [render, List.append_assoc]
    rw [hr, go_blank hb hbne, go_word w hw, List.append_nil, go_items items hrest trail ht,
      flush_reverse hwne]
    simp

/-- `str.split()` on optional leading blanks, a first word, then (non-empty blank run, word) pairs,
optional trailing blanks: the tokens are exactly the words. -/
theorem splitWs_sentence (lead w0 : List Char) (items : List (List Char × List Char))
    (trail : List Char) (hl : Blank lead) (hw0 : BlankFree w0) (hne : w0 ≠ [])
    (hi : GoodItems items) (ht : Blank trail) :
    splitWs (lead ++ w0 ++ render items ++ trail) = w0 :: items.map (·.2) := by
  unfold splitWs
  simp only [List.append_assoc]
  rw [go_blank_nil lead hl, go_word w0 hw0, List.append_nil, go_items items hi trail ht w0.reverse [],
    flush_reverse hne]
  rfl

/-- the canonical sentence (`" ".join(words)`) splits back into its words -/
theorem splitWs_join_single (w0 : List Char) (ws : List (List Char)) (hw0 : BlankFree w0)
    (hne : w0 ≠ []) (hws : ∀ w ∈ ws, BlankFree w ∧ w ≠ []) (hsp : isSp ' ' = true) :
    splitWs (w0 ++ render (ws.map fun w => ([' '], w))) = w0 :: ws := by
  have hi : GoodItems (ws.map fun w => ([' '], w)) := by
    intro p hp
    obtain ⟨w, hw, rfl⟩ := List.mem_map.1 hp
    refine ⟨?_, by simp, (hws w hw).1, (hws w hw).2⟩
    intro c hc
    rw [List.mem_singleton.1 hc]; exact hsp
  have := splitWs_sentence [] w0 _ [] blank_nil hw0 hne hi blank_nil
  simp only [List.nil_append, List.append_nil] at this
  rw [this]
  simp [List.map_map, Function.comp_def]

theorem normToken_ascii (oracle : List (List Char × List Char)) {w : List Char}
    (h : ∀ c ∈ w, c.toNat < 128) : normToken oracle w = .ok (w.map asciiLower) := by
  unfold normToken
  have : w.all (fun c => decide (c.toNat < 128)) = true := by
    rw [List.all_eq_true]; intro c hc; simpa using h c hc
  rw [if_pos this]; rfl

theorem flush_map (f : Char → Char) (cur : List Char) (acc : List (List Char)) :
    flush (cur.map f) (acc.map (List.map f)) = (flush cur acc).map (List.map f) := by
  cases cur with
  | nil => rfl
  | cons c cur => simp [flush, List.map_reverse]

theorem go_map (f : Char → Char) : ∀ (s : List Char), (∀ c ∈ s, isSp (f c) = isSp c) →
    ∀ (cur : List Char) (acc : List (List Char)),
      splitWs.go (s.map f) (cur.map f) (acc.map (List.map f))
        = (splitWs.go s cur acc).map (List.map f)
  | [], _, cur, acc => by
    rw [List.map_nil, go_nil, go_nil, flush_map, List.map_reverse]
  | c :: s, h, cur, acc => by
    have hc := h c List.mem_cons_self
    have hs : ∀ d ∈ s, isSp (f d) = isSp d := fun d hd => h d (List.mem_cons_of_mem _ hd)
    cases hsp : isSp c with
    | true =>
      rw [hsp] at hc
      rw [List.map_cons, go_cons_space hc, go_cons_space hsp, flush_map]
      exact go_map f s hs [] (flush cur acc)
    | false =>
      rw [hsp] at hc
      rw [List.map_cons, go_cons_char hc, go_cons_char hsp]
      exact go_map f s hs (c :: cur) acc

theorem splitWs_map (f : Char → Char) (s : List Char) (h : ∀ c ∈ s, isSp (f c) = isSp c) :
    splitWs (s.map f) = (splitWs s).map (List.map f) := by
  unfold splitWs
  exact go_map f s h [] []

theorem flush_forall {P : Char → Prop} {cur : List Char} {acc : List (List Char)}
    (hcur : ∀ c ∈ cur, P c) (hacc : ∀ t ∈ acc, ∀ c ∈ t, P c) : ∀ t ∈ flush cur acc, ∀ c ∈ t, P c := by
  intro t ht
  unfold flush at ht
  split at ht
  · exact hacc t ht
  · rcases List.mem_cons.1 ht with rfl | ht
    · exact fun c hc => hcur c (List.mem_reverse.1 hc)
    · exact hacc t ht

/-- every character of every token comes from the input -/
theorem go_forall (P : Char → Prop) : ∀ (s : List Char), (∀ c ∈ s, P c) →
    ∀ (cur : List Char) (acc : List (List Char)), (∀ c ∈ cur, P c) → (∀ t ∈ acc, ∀ c ∈ t, P c) →
      ∀ t ∈ splitWs.go s cur acc, ∀ c ∈ t, P c
  | [], _, cur, acc, hcur, hacc => by
    rw [go_nil]
    exact fun t ht => flush_forall hcur hacc t (List.mem_reverse.1 ht)
  | d :: s, h, cur, acc, hcur, hacc => by
    have hs : ∀ c ∈ s, P c := fun c hc => h c (List.mem_cons_of_mem _ hc)
    cases hsp : isSp d with
    | true =>
      rw [go_cons_space hsp]
      exact go_forall P s hs [] _ (fun _ hc => by cases hc) (flush_forall hcur hacc)
    | false =>
      rw [go_cons_char hsp]
      exact go_forall P s hs (d :: cur) acc
        (List.forall_mem_cons.2 ⟨h d List.mem_cons_self, hcur⟩) hacc

theorem splitWs_forall (P : Char → Prop) (s : List Char) (h : ∀ c ∈ s, P c) :
    ∀ t ∈ splitWs s, ∀ c ∈ t, P c := by
  unfold splitWs
  exact go_forall P s h [] [] (fun _ hc => by cases hc) (fun _ ht => by cases ht)

theorem mapM_map_congr {α β} (f : α → R β) (g : α → α) :
    ∀ (l : List α), (∀ x ∈ l, f (g x) = f x) → (l.map g).mapM f = l.mapM f
  | [], _ => rfl
  | x :: l, h => by
    rw [List.map_cons, List.mapM_cons, List.mapM_cons, h x List.mem_cons_self,
      mapM_map_congr f g l (fun y hy => h y (List.mem_cons_of_mem _ hy))]

/-- On the 128 ASCII code points changing the case stays within ASCII and changes neither
`asciiLower` nor what is whitespace.  A Boolean sweep over `List.range`, which the kernel evaluates
far faster than it decides the corresponding `∀ n : Fin 128`; the whitespace table, the dear part,
is consulted only for the characters that do change. -/
theorem ascii_table : ((List.range 128).all fun n =>
    (asciiLower (Char.ofNat n).toUpper == asciiLower (Char.ofNat n) &&
      decide ((Char.ofNat n).toUpper.toNat < 128) &&
      ((Char.ofNat n).toUpper == Char.ofNat n || isSp (Char.ofNat n).toUpper == isSp (Char.ofNat n))) &&
    (asciiLower (Char.ofNat n).toLower == asciiLower (Char.ofNat n) &&
      decide ((Char.ofNat n).toLower.toNat < 128) &&
      ((Char.ofNat n).toLower == Char.ofNat n || isSp (Char.ofNat n).toLower == isSp (Char.ofNat n))))
      = true := by
  decide +kernel

/-- what the case-insensitivity proofs need of a character map `f` -/
def AsciiCaseMap (f : Char → Char) : Prop :=
  ∀ c : Char, c.toNat < 128 →
    asciiLower (f c) = asciiLower c ∧ (f c).toNat < 128 ∧ isSp (f c) = isSp c

theorem asciiCaseMap_toUpper : AsciiCaseMap Char.toUpper := by
  intro c h
  have := List.all_eq_true.mp ascii_table c.toNat (List.mem_range.mpr h)
  simp only [Char.ofNat_toNat, Bool.and_eq_true, Bool.or_eq_true, beq_iff_eq,
    decide_eq_true_eq] at this
  exact ⟨this.1.1.1, this.1.1.2, this.1.2.elim (fun e => by rw [e]) id⟩

theorem asciiCaseMap_toLower : AsciiCaseMap Char.toLower := by
  intro c h
  have := List.all_eq_true.mp ascii_table c.toNat (List.mem_range.mpr h)
  simp only [Char.ofNat_toNat, Bool.and_eq_true, Bool.or_eq_true, beq_iff_eq,
    decide_eq_true_eq] at this
  exact ⟨this.2.1.1, this.2.1.2, this.2.2.elim (fun e => by rw [e]) id⟩

/-- an ASCII token is normalised by lower-casing, which a case map does not change -/
theorem normToken_map_ascii (oracle : List (List Char × List Char)) {f : Char → Char}
    (hf : AsciiCaseMap f) {w : List Char} (h : ∀ c ∈ w, c.toNat < 128) :
    normToken oracle (w.map f) = normToken oracle w := by
  rw [normToken_ascii oracle h, normToken_ascii oracle (w := w.map f), List.map_map]
  · congr 1
    exact List.map_congr_left fun c hc => (hf c (h c hc)).1
  · intro c hc
    obtain ⟨d, hd, rfl⟩ := List.mem_map.1 hc
    exact (hf d (h d hd)).2.1

theorem tokens_map_ascii (oracle : List (List Char × List Char)) {f : Char → Char}
    (hf : AsciiCaseMap f) {s : List Char} (h : ∀ c ∈ s, c.toNat < 128) :
    (splitWs (s.map f)).mapM (normToken oracle) = (splitWs s).mapM (normToken oracle) := by
  rw [splitWs_map f s (fun c hc => (hf c (h c hc)).2.2)]
  exact mapM_map_congr _ _ _ fun t ht =>
    normToken_map_ascii oracle hf (splitWs_forall (fun c => c.toNat < 128) s h t ht)

end BipVerif.Model.SeedLemmas
