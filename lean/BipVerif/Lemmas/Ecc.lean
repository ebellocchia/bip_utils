/-
Elliptic-curve key adapter layer (C12): what the validity predicates, the SEC1 decoder and the
`FromBytes` functions compute on each form of input.  Curve arithmetic (`mulG`, square roots, the
Edwards decoder) is never unfolded.
-/
import BipVerif.Model.Ecc
import BipVerif.Lemmas.IntBytes

namespace BipVerif.Model.EccLemmas
open BipVerif BipVerif.Prim BipVerif.Model

/-! ## private keys -/

/-- every branch of `privValid` starts with the length test -/
theorem priv_valid_length (c : CurveT) (b : Bytes) (h : privValid c b = true) : b.length = c.privLen := by
  cases c <;> simp only [privValid, Bool.and_eq_true, decide_eq_true_eq] at h
  case secp256k1 | nist256p1 => exact h.1.1
  case ed25519Monero => exact h.1
  all_goals exact h

theorem privValid_secp_length {k : Bytes} (h : privValid .secp256k1 k = true) : k.length = 32 :=
  priv_valid_length .secp256k1 k h

theorem secp_n_pos : 0 < Prim.secp256k1.n := by unfold Prim.secp256k1; norm_num
theorem secp_n_lt : Prim.secp256k1.n < 256 ^ 32 := by unfold Prim.secp256k1; norm_num

/-- `int.to_bytes(32)` of a value reduced modulo `n` never overflows -/
theorem toBytesBE_mod_n (v : Nat) :
    toBytesBE (v % Prim.secp256k1.n) 32 = .ok (Bytes.ofNatBE 32 (v % Prim.secp256k1.n)) :=
  toBytesBE_eq_ofNatBE (Nat.lt_trans (Nat.mod_lt _ secp_n_pos) secp_n_lt)

theorem privValid_secp_ofNatBE {x : Nat} (hx : x < Prim.secp256k1.n) :
    privValid .secp256k1 (Bytes.ofNatBE 32 x) = decide (x ≠ 0) := by
  have hlt : x < CurveT.secp256k1.order := hx
  unfold privValid
  rw [toNatBE_ofNatBE (Nat.lt_trans hx secp_n_lt), length_ofNatBE]
  simp [hlt, Nat.pos_iff_ne_zero]

theorem edL_pos : 0 < edL := by unfold edL; omega
theorem edL_lt : edL < 256 ^ 32 := by unfold edL; norm_num

/-! ## clamping -/

/-- `/ 8 * 8` clears the three low bits; `edClamp` has this shape with `m = 2^254` -/
theorem clamp_eq (a m : Nat) (hm : 8 ∣ m) : a % m / 8 * 8 = a % m - a % 8 := by
  rw [Nat.div_mul_self_eq_mod_sub_self, Nat.mod_mod_of_dvd a hm]

/-- a clamped scalar is a multiple of 8 in `[m, 2m)` -/
theorem clamp_bounds (a m : Nat) (hm : 8 ∣ m) (hpos : 0 < m) :
    (a % m / 8 * 8 + m) % 8 = 0 ∧ m ≤ a % m / 8 * 8 + m ∧ a % m / 8 * 8 + m < 2 * m := by
  refine ⟨Nat.mod_eq_zero_of_dvd (Nat.dvd_add (Nat.dvd_mul_left 8 _) hm), Nat.le_add_left _ _, ?_⟩
  rw [Nat.two_mul]
  exact Nat.add_lt_add_right (Nat.lt_of_le_of_lt (Nat.div_mul_le_self _ 8) (Nat.mod_lt _ hpos)) m

theorem edNoClampScalar_eq (b : Bytes) (h : Bytes.toNatLE (b.take 32) < 2 ^ 255) :
    edNoClampScalar b = Bytes.toNatLE (b.take 32) := by
  unfold edNoClampScalar; exact Nat.mod_eq_of_lt h

/-! ## public keys: ed25519 flavours -/

theorem edEncode_length (P : EdPoint) : (edEncode P).length = 32 := by
  unfold edEncode; exact length_ofNatLE _ _

def IsEd (c : CurveT) : Prop := c = .ed25519 ∨ c = .ed25519Blake2b ∨ c = .ed25519Kholaw ∨ c = .ed25519Monero

theorem isEd_iff (c : CurveT) : IsEd c ↔ c.isEcdsa = false := by
  cases c <;> simp [IsEd, CurveT.isEcdsa]

theorem ecdsa_or_isEd (c : CurveT) : (c = .secp256k1 ∨ c = .nist256p1) ∨ IsEd c := by
  cases c <;> simp [IsEd]

theorem edStripPrefix_zero_cons (k : Bytes) (hk : k.length = 32) : edStripPrefix (0 :: k) = k := by
  unfold edStripPrefix; simp [hk]

theorem edStripPrefix_of_length_32 (k : Bytes) (hk : k.length = 32) : edStripPrefix k = k := by
  unfold edStripPrefix; simp [hk]

theorem edStripPrefix_length_32_imp (b : Bytes) (h : (edStripPrefix b).length = 32) :
    b.length = 32 ∨ (b.length = 33 ∧ b.head? = some 0) := by
  unfold edStripPrefix at h
  split at h
  · next hh => exact Or.inr (by simpa using hh)
  · exact Or.inl h

theorem pubFromBytes_ed_eq (c : CurveT) (hc : IsEd c) (b : Bytes) :
    pubFromBytes c b =
      if edBytesOnCurve (edStripPrefix b) = some true ∧ (edStripPrefix b).length = 32 then
        some (if c = .ed25519Monero then edStripPrefix b else 0 :: edStripPrefix b)
      else none := by
  rcases hc with rfl | rfl | rfl | rfl <;>
    simp only [pubFromBytes, Bool.and_eq_true, decide_eq_true_eq, reduceCtorEq, if_false, if_true]

theorem pubFromBytes_ed_ok (c : CurveT) (hc : IsEd c) (b k : Bytes) (h : pubFromBytes c b = some k) :
    edBytesOnCurve (edStripPrefix b) = some true ∧ (edStripPrefix b).length = 32 ∧
      k = (if c = .ed25519Monero then edStripPrefix b else 0 :: edStripPrefix b) := by
  rw [pubFromBytes_ed_eq c hc, Option.ite_none_right_eq_some, Option.some.injEq] at h
  exact ⟨h.1.1, h.1.2, h.2.symm⟩

/-! ## SEC1 encodings of any short-Weierstrass curve -/

theorem compress_length (c : WCurve) (P : WPoint) (k : Bytes) (h : c.compress P = some k) :
    k.length = c.coordLen + 1 := by
  cases P with
  | inf => cases h
  | aff x y =>
    cases h
    rw [List.length_cons, length_ofNatBE]

theorem uncompressed_length (c : WCurve) (P : WPoint) (k : Bytes) (h : c.uncompressed P = some k) :
    k.length = 2 * c.coordLen + 1 := by
  cases P with
  | inf => cases h
  | aff x y =>
    cases h
    rw [List.cons_append, List.length_cons, List.length_append, length_ofNatBE, length_ofNatBE, Nat.two_mul]

theorem p_lt_pow_coordLen (c : WCurve) : c.p < 256 ^ c.coordLen := by
  unfold WCurve.coordLen
  rw [← natToBytesMin_length_le_iff, natToBytesMin_length_eq_byteLen]

theorem decode_prefix_none (c : WCurve) (t : UInt8) (rest : Bytes) (h2 : t ≠ 2) (h3 : t ≠ 3) (h4 : t ≠ 4) :
    c.decode (t :: rest) = none := by
  rw [WCurve.decode, if_neg (fun h => h.1.elim h2 h3), if_neg (fun h => h4 h.1)]

theorem decode_length (c : WCurve) (b : Bytes) (P : WPoint) (h : c.decode b = some P) :
    b.length = c.coordLen + 1 ∨ b.length = 2 * c.coordLen + 1 := by
  cases b with
  | nil => cases h
  | cons t rest =>
    by_cases h1 : (t = 2 ∨ t = 3) ∧ rest.length = c.coordLen
    · exact Or.inl (congrArg (· + 1) h1.2)
    · by_cases h2 : t = 4 ∧ rest.length = 2 * c.coordLen
      · exact Or.inr (congrArg (· + 1) h2.2)
      · rw [WCurve.decode, if_neg h1, if_neg h2] at h
        cases h

/-- prefix 04: the two halves are read as the coordinates and only the curve equation
(with `x, y < p`) is checked -/
theorem decode_04_eq_some (c : WCurve) (rest : Bytes) (P : WPoint) :
    c.decode (4 :: rest) = some P ↔
      rest.length = 2 * c.coordLen ∧
        c.onCurve (.aff (Bytes.toNatBE (rest.take c.coordLen)) (Bytes.toNatBE (rest.drop c.coordLen))) = true ∧
        .aff (Bytes.toNatBE (rest.take c.coordLen)) (Bytes.toNatBE (rest.drop c.coordLen)) = P := by
  have h1 : ¬ (((4 : UInt8) = 2 ∨ (4 : UInt8) = 3) ∧ rest.length = c.coordLen) :=
    fun h => absurd h.1 (by decide)
  rw [WCurve.decode, if_neg h1]
  simp only [true_and, Option.ite_none_right_eq_some, Option.some.injEq]

theorem decode_uncompressed (c : WCurve) (x y : Nat) (h : c.onCurve (.aff x y) = true) :
    c.decode (4 :: Bytes.ofNatBE c.coordLen x ++ Bytes.ofNatBE c.coordLen y) = some (.aff x y) := by
  have hp := p_lt_pow_coordLen c
  have hxy : x < c.p ∧ y < c.p := by
    simp only [WCurve.onCurve, Bool.and_eq_true, decide_eq_true_eq] at h
    exact h.1
  have hlx : (Bytes.ofNatBE c.coordLen x).length = c.coordLen := length_ofNatBE _ _
  rw [List.cons_append, decode_04_eq_some, List.take_left' hlx, List.drop_left' hlx,
    toNatBE_ofNatBE (hxy.1.trans hp), toNatBE_ofNatBE (hxy.2.trans hp), List.length_append, hlx,
    length_ofNatBE, Nat.two_mul]
  exact ⟨rfl, h, rfl⟩

/-! ## the two ECDSA curves: 32-byte coordinates -/

theorem coordLen_secp256k1 : Prim.secp256k1.coordLen = 32 := by decide +kernel
theorem coordLen_nist256p1 : Prim.nist256p1.coordLen = 32 := by decide +kernel

/-- `CurveT.wcurve` sends the ed25519 flavours to secp256k1 as a don't-care value, so for them this
and `compress_aff`, `wcurve_decode_uncompressed`, `wcurve_decode_length` below are statements about
secp256k1 that say nothing about their keys. -/
theorem wcurve_coordLen (c : CurveT) : c.wcurve.coordLen = 32 := by
  cases c
  · exact coordLen_secp256k1
  · exact coordLen_nist256p1
  all_goals exact coordLen_secp256k1

theorem compress_aff (c : CurveT) (x y : Nat) :
    c.wcurve.compress (.aff x y) = some (UInt8.ofNat (2 + y % 2) :: Bytes.ofNatBE 32 x) := by
  rw [WCurve.compress, wcurve_coordLen]

theorem wcurve_decode_uncompressed (c : CurveT) (x y : Nat) (h : c.wcurve.onCurve (.aff x y) = true) :
    c.wcurve.decode (4 :: (Bytes.ofNatBE 32 x ++ Bytes.ofNatBE 32 y)) = some (.aff x y) := by
  have hd := decode_uncompressed c.wcurve x y h
  rwa [wcurve_coordLen] at hd

theorem wcurve_decode_length (c : CurveT) (b : Bytes) (P : WPoint) (h : c.wcurve.decode b = some P) :
    b.length = 33 ∨ b.length = 65 := by
  have := decode_length _ b P h
  rwa [wcurve_coordLen] at this

/-! ## `wDecodePub`: SEC1 plus the hybrid and raw forms -/

theorem wDecodePub_of_decode {c : CurveT} {b : Bytes} {P : WPoint} (h : c.wcurve.decode b = some P) :
    wDecodePub c b = some P := by
  unfold wDecodePub
  rw [h]

/-- on 64 bytes only the raw form `x ‖ y` of python-ecdsa is left -/
theorem wDecodePub_64 (c : CurveT) (b : Bytes) (hb : b.length = 64) :
    wDecodePub c b = if c = .nist256p1 then c.wcurve.decode (4 :: b) else none := by
  have hnone : c.wcurve.decode b = none := Option.eq_none_iff_forall_ne_some.mpr fun P hP => by
    have := wcurve_decode_length c b P hP
    omega
  unfold wDecodePub
  rw [hnone]
  simp [hb]

/-- hybrid encodings `06/07 ‖ rest` (libsecp256k1 and python-ecdsa alike) are read as `04 ‖ rest` and
accepted iff the prefix parity matches `y` -/
theorem wDecodePub_hybrid (c : CurveT) (hc : c = .secp256k1 ∨ c = .nist256p1) (pfx : UInt8)
    (hp : pfx = 6 ∨ pfx = 7) (rest : Bytes) (hl : rest.length = 64) (x y : Nat)
    (hd : c.wcurve.decode (4 :: rest) = some (.aff x y)) :
    wDecodePub c (pfx :: rest) = if (y % 2 = 1) = (pfx = 7) then some (.aff x y) else none := by
  have hnone : c.wcurve.decode (pfx :: rest) = none := by
    rcases hp with rfl | rfl <;> exact decode_prefix_none _ _ _ (by decide) (by decide) (by decide)
  have hcc : (decide (c = .secp256k1) || decide (c = .nist256p1)) = true := by
    rcases hc with rfl | rfl <;> rfl
  have hp' : (decide (pfx = 6) || decide (pfx = 7)) = true := by
    rcases hp with rfl | rfl <;> rfl
  rw [wDecodePub, hnone]
  simp only [List.length_cons, hl, hcc, hp', decide_true, Bool.and_self, if_true, hd]

theorem hybrid_ecdsa (c : CurveT) (hc : c = .secp256k1 ∨ c = .nist256p1) (x y : Nat) (pfx : UInt8)
    (hp : pfx = 6 ∨ pfx = 7) (h : c.wcurve.onCurve (.aff x y) = true) :
    wDecodePub c (pfx :: Bytes.ofNatBE 32 x ++ Bytes.ofNatBE 32 y) =
      if (y % 2 = 1) = (pfx = 7) then some (.aff x y) else none :=
  wDecodePub_hybrid c hc pfx hp (Bytes.ofNatBE 32 x ++ Bytes.ofNatBE 32 y)
    (by rw [List.length_append, length_ofNatBE, length_ofNatBE]) x y (wcurve_decode_uncompressed c x y h)

/-- python-ecdsa (NIST P-256) accepts the raw encoding `x ‖ y` (64 bytes, no prefix) of an on-curve
point (`onCurve` includes `x, y < p`) -/
theorem raw_nist256p1 (x y : Nat) (h : Prim.nist256p1.onCurve (.aff x y) = true) :
    wDecodePub .nist256p1 (Bytes.ofNatBE 32 x ++ Bytes.ofNatBE 32 y) = some (.aff x y) := by
  rw [wDecodePub_64 _ _ (by simp), if_pos rfl]
  exact wcurve_decode_uncompressed .nist256p1 x y h

theorem wDecodePub_length (c : CurveT) (b : Bytes) (P : WPoint) (h : wDecodePub c b = some P) :
    b.length = 33 ∨ b.length = 65 ∨ (c = .nist256p1 ∧ b.length = 64) := by
  cases hd : c.wcurve.decode b with
  | some Q =>
    rcases wcurve_decode_length c b Q hd with h' | h'
    · exact Or.inl h'
    · exact Or.inr (Or.inl h')
  | none =>
    by_cases h65 : b.length = 65
    · exact Or.inr (Or.inl h65)
    · by_cases h64 : c = .nist256p1 ∧ b.length = 64
      · exact Or.inr (Or.inr h64)
      · simp [wDecodePub, hd, h65, h64] at h

/-! ## `pubFromBytes` on the ECDSA curves -/

theorem pubFromBytes_ecdsa_eq (c : CurveT) (hc : c = .secp256k1 ∨ c = .nist256p1) (b : Bytes) :
    pubFromBytes c b = (wDecodePub c b).bind c.wcurve.compress := by
  rcases hc with rfl | rfl <;>
    cases h : wDecodePub _ b <;> simp only [pubFromBytes, h, Option.bind]

end BipVerif.Model.EccLemmas
