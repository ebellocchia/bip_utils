/-
Hex-text addresses (Icon, Sui, Aptos, Near), Substrate (ed25519 keys in SS58) and Monero.
-/
import BipVerif.Lemmas.Addr
import BipVerif.Lemmas.AddrBase58
import BipVerif.Lemmas.Base58Xmr
import BipVerif.Lemmas.SS58

namespace BipVerif.Model
open BipVerif BipVerif.Prim

theorem icxDecode_canon (pfx : List Char) (b : Bytes) (hb : b.length = 20) :
    icxDecode pfx (pfx ++ hexOfBytes b) = .ok b := by
  unfold icxDecode
  rw [removePrefix_append]
  simp only [bind, Except.bind]
  rw [bytesOfHex_hexOfBytes]
  simp only
  rw [validateLength_ok _ _ hb]
  rfl

theorem icx_decode_encode (pfx : List Char) (pub : Bytes) (addr : List Char)
    (h : icxEncode pfx pub = .ok addr) :
    ∃ k u, addrKey .secp256k1 pub = .ok k ∧ uncompressedOf .secp256k1 k = .ok u ∧
      icxDecode pfx addr = .ok (takeLast (sha3_256 (u.drop 1)) 20) := by
  unfold icxEncode at h
  obtain ⟨k, hk, h⟩ := bind_ok_inv h
  obtain ⟨u, hu, h⟩ := bind_ok_inv h
  refine ⟨k, u, hk, hu, ?_⟩
  rw [← pure_ok_inv h]
  exact icxDecode_canon pfx _ (takeLast_length_of_le _ _ (by rw [sha3_256_length]; omega))

@[ov] theorem icxEncode_ov (pfx : List Char) (pub : Bytes) : OnlyValue (icxEncode pfx pub) := by
  unfold icxEncode; simp only [ov]
@[ov] theorem icxDecode_ov (pfx addr : List Char) : OnlyValue (icxDecode pfx addr) := by
  unfold icxDecode; simp only [ov]

theorem suiDecode_canon (pfx : List Char) (b : Bytes) (hb : b.length = 32) :
    suiDecode pfx (pfx ++ hexOfBytes b) = .ok b := by
  unfold suiDecode
  rw [removePrefix_append]
  simp only [bind, Except.bind]
  rw [validateLength_ok _ _ (by rw [hexOfBytes_length, hb])]
  exact bytesOfHex_hexOfBytes b

theorem sui_decode_encode (pfx : List Char) (pub : Bytes) (addr : List Char)
    (h : suiEncode pfx pub = .ok addr) :
    ∃ k, addrKey .ed25519 pub = .ok k ∧
      suiDecode pfx addr = .ok (blake2b256 ([0] ++ k.drop 1)) := by
  unfold suiEncode at h
  obtain ⟨k, hk, h⟩ := bind_ok_inv h
  refine ⟨k, hk, ?_⟩
  rw [← pure_ok_inv h]
  exact suiDecode_canon pfx _ (blake2b256_length _)

@[ov] theorem suiEncode_ov (pfx : List Char) (pub : Bytes) : OnlyValue (suiEncode pfx pub) := by
  unfold suiEncode; simp only [ov]
@[ov] theorem suiDecode_ov (pfx addr : List Char) : OnlyValue (suiDecode pfx addr) := by
  unfold suiDecode; simp only [ov]

/-- Aptos addresses may have their leading zeros trimmed; the decoder re-pads with `0`. -/
theorem rjust_dropWhile_zero (h : List Char) (n : Nat) (hn : h.length = n) :
    rjust n '0' (h.dropWhile (· == '0')) = h := by
  unfold rjust
  have hs := split_leading '0' h
  have hl := congrArg List.length hs
  rw [List.length_append, List.length_replicate] at hl
  have : n - (h.dropWhile (· == '0')).length = leadingCount '0' h := by omega
  rw [this]
  exact hs.symm

theorem rjust_of_length (h : List Char) (n : Nat) (hn : h.length = n) : rjust n '0' h = h := by
  unfold rjust; rw [hn]; simp

theorem aptosDecode_canon (pfx : List Char) (trim : Bool) (b : Bytes) (hb : b.length = 32) :
    aptosDecode pfx
      (pfx ++ (if trim then (hexOfBytes b).dropWhile (· == '0') else hexOfBytes b)) = .ok b := by
  have hl : (hexOfBytes b).length = 64 := by rw [hexOfBytes_length, hb]
  have hr : rjust 64 '0' (if trim then (hexOfBytes b).dropWhile (· == '0') else hexOfBytes b)
      = hexOfBytes b := by
    cases trim with
    | true => exact rjust_dropWhile_zero _ 64 hl
    | false => exact rjust_of_length _ 64 hl
  unfold aptosDecode
  rw [removePrefix_append]
  simp only [bind, Except.bind, hr]
  rw [validateLength_ok _ _ hl]
  exact bytesOfHex_hexOfBytes b

theorem aptos_decode_encode (pfx : List Char) (trim : Bool) (pub : Bytes) (addr : List Char)
    (h : aptosEncode pfx trim pub = .ok addr) :
    ∃ k, addrKey .ed25519 pub = .ok k ∧
      aptosDecode pfx addr = .ok (sha3_256 (k.drop 1 ++ [0])) := by
  unfold aptosEncode at h
  obtain ⟨k, hk, h⟩ := bind_ok_inv h
  refine ⟨k, hk, ?_⟩
  rw [← pure_ok_inv h]
  exact aptosDecode_canon pfx trim _ (sha3_256_length _)

@[ov] theorem aptosEncode_ov (pfx : List Char) (trim : Bool) (pub : Bytes) :
    OnlyValue (aptosEncode pfx trim pub) := by
  unfold aptosEncode; simp only [ov]
@[ov] theorem aptosDecode_ov (pfx addr : List Char) : OnlyValue (aptosDecode pfx addr) := by
  unfold aptosDecode; simp only [ov]

theorem nearDecode_canon (kb : Bytes) (hk : kb.length = 32) (hv : pubValid .ed25519 kb = true) :
    nearDecode (hexOfBytes kb) = .ok kb := by
  unfold nearDecode
  rw [bytesOfHex_hexOfBytes]
  simp only [bind, Except.bind]
  rw [validateLength_ok _ _ hk]
  simp only [validatePubKey_ok _ _ hv]
  rfl

theorem near_decode_encode (pub : Bytes) (addr : List Char) (h : nearEncode pub = .ok addr) :
    ∃ k, addrKey .ed25519 pub = .ok k ∧ nearDecode addr = .ok (k.drop 1) := by
  unfold nearEncode at h
  obtain ⟨k, hk, h⟩ := bind_ok_inv h
  obtain ⟨_, h32, _, _, hval⟩ := addrKey_ed_inv (c := .ed25519) rfl hk
  refine ⟨k, hk, ?_⟩
  rw [← pure_ok_inv h]
  exact nearDecode_canon _ h32 hval

@[ov] theorem nearEncode_ov (pub : Bytes) : OnlyValue (nearEncode pub) := by unfold nearEncode; simp only [ov]
@[ov] theorem nearDecode_ov (addr : List Char) : OnlyValue (nearDecode addr) := by unfold nearDecode; simp only [ov]

theorem blake2b512_ge2 : ∀ x, 2 ≤ (blake2b512 x).length := fun x => by
  rw [blake2b512_length]; omega

theorem ss58Encode_ok_pre {H : Bytes → Bytes} {data : Bytes} {fmt : Nat} {s : List Char}
    (h : ss58Encode H data fmt = .ok s) :
    data.length = 32 ∧ fmt ≤ 16383 ∧ fmt ≠ 46 ∧ fmt ≠ 47 := by
  unfold ss58Encode at h
  obtain ⟨h1, h⟩ := guard_ne_ok_inv h
  obtain ⟨h2, h⟩ := guard_ok_inv h
  obtain ⟨h3, _⟩ := guard_ok_inv h
  simp only [Bool.or_eq_true, decide_eq_true_eq, not_or] at h3
  exact ⟨h1, Nat.not_lt.mp h2, h3⟩

@[ov] theorem OnlyValue.ss58Encode (H : Bytes → Bytes) (data : Bytes) (fmt : Nat) :
    OnlyValue (ss58Encode H data fmt) := by
  unfold Model.ss58Encode; simp only [ov]

@[ov] theorem OnlyValue.ss58 (H : Bytes → Bytes) (s : List Char) :
    OnlyValue (Model.ckToValue (ss58Decode H s)) :=
  OnlyValue.ckToValue (fun _ h => ss58_decode_errors H h)

theorem substrateEd_decode_encode (fmt : Nat) (pub : Bytes) (addr : List Char)
    (h : substrateEdEncode fmt pub = .ok addr) :
    ∃ k, addrKey .ed25519 pub = .ok k ∧ substrateEdDecode fmt addr = .ok (k.drop 1) := by
  unfold substrateEdEncode at h
  obtain ⟨k, hk, h⟩ := bind_ok_inv h
  obtain ⟨_, h32, _, _, hval⟩ := addrKey_ed_inv (c := .ed25519) rfl hk
  obtain ⟨_, hf, h46, h47⟩ := ss58Encode_ok_pre h
  refine ⟨k, hk, ?_⟩
  have hd := ss58_decode_encode blake2b512 blake2b512_ge2 (k.drop 1) fmt h32 hf h46 h47
  rw [bind_ok_eq h] at hd
  unfold substrateEdDecode
  rw [hd, ckToValue_ok]
  simp only [bind, Except.bind, ne_eq, not_true_eq_false, if_false, validatePubKey_ok _ _ hval]
  rfl

/-- This includes the encoder's parameter error: an out-of-range or reserved SS58 format is
refused with `ValueError` as well. -/
@[ov] theorem substrateEdEncode_ov (fmt : Nat) (pub : Bytes) : OnlyValue (substrateEdEncode fmt pub) := by
  unfold substrateEdEncode
  exact OnlyValue.bind (OnlyValue.addrKey _ _) (fun _ _ => OnlyValue.ss58Encode _ _ _)

@[ov] theorem substrateEdDecode_ov (fmt : Nat) (addr : List Char) :
    OnlyValue (substrateEdDecode fmt addr) := by
  unfold substrateEdDecode
  apply OnlyValue.bind (OnlyValue.ss58 _ _)
  intro _ _
  simp only [ov]

@[ov] theorem OnlyValue.xmrDecBlk (i : Nat) (blk : List Char) : OnlyValue (xmrDecBlk i blk) := by
  unfold Model.xmrDecBlk; simp only [ov]

@[ov] theorem OnlyValue.xmrDecode (s : List Char) : OnlyValue (xmrDecode s) := by
  rw [xmrDecode_eq]
  cases xmrBlockEncLens.idxOf? (s.length % 11) with
  | none => exact .throw
  | some i =>
    simp only
    exact OnlyValue.bind (OnlyValue.mapM (OnlyValue.xmrDecBlk i) _) (fun _ _ => .pure _)

theorem keccak_ck_length (p : Bytes) : ((keccak256 p).take 4).length = 4 := by
  rw [List.length_take, keccak256_length]; rfl

/-- `payId = none` is the standard address, `some` of 8 bytes the integrated one. -/
theorem xmrAddrDecode_canon (netVer s v : Bytes) (payId : Option Bytes) (hs : s.length = 32)
    (hv : v.length = 32) (hp : ∀ pid, payId = some pid → pid.length = 8)
    (hsv : pubValid .ed25519Monero s = true) (hvv : pubValid .ed25519Monero v = true) :
    xmrAddrDecode netVer payId
      (xmrEncode ((netVer ++ s ++ v ++ payId.getD []) ++
        (keccak256 (netVer ++ s ++ v ++ payId.getD [])).take 4))
      = .ok (s ++ v) := by
  unfold xmrAddrDecode
  rw [xmr_decode_encode]
  simp only [bind, Except.bind]
  rw [splitCkEnd_append _ _ 4 (keccak_ck_length _)]
  simp only [ne_eq, not_true_eq_false, if_false]
  rw [List.append_assoc, List.append_assoc, removePrefix_append]
  simp only
  have h1 : (s ++ (v ++ payId.getD [])).take 32 = s := by
    rw [List.take_append_of_le_length (by omega), List.take_of_length_le (by omega)]
  have h2 : ((s ++ (v ++ payId.getD [])).drop 32).take 32 = v := by
    rw [List.drop_append_of_le_length (by omega), List.drop_of_length_le (by omega)]
    simp only [List.nil_append]
    rw [List.take_append_of_le_length (by omega), List.take_of_length_le (by omega)]
  simp only [h1, h2, validatePubKey_ok _ _ hsv, validatePubKey_ok _ _ hvv]
  cases payId with
  | none =>
    have hl : (s ++ (v ++ [])).length = 64 := by simp [hs, hv]
    simp only [Option.getD_none, validateLength_ok _ _ hl]
    rfl
  | some pid =>
    have h8 := hp pid rfl
    have hl : (s ++ (v ++ pid)).length = 72 := by simp [hs, hv, h8]
    have h0 : takeLast (s ++ (v ++ pid)) 8 = pid := by
      rw [← List.append_assoc]; exact takeLast_append_of_length _ _ 8 h8
    simp only [Option.getD_some, validateLength_ok _ _ hl, h8, h0, not_true_eq_false, if_false]
    rfl

theorem xmrAddrEncode_ok_inv {netVer : Bytes} {payId : Option Bytes} {spend view : Bytes}
    {addr : List Char} (h : xmrAddrEncode netVer payId spend view = .ok addr) :
    ∃ s v, addrKey .ed25519Monero spend = .ok s ∧ addrKey .ed25519Monero view = .ok v ∧
      (∀ p, payId = some p → p.length = 8) ∧
      addr = xmrEncode ((netVer ++ s ++ v ++ payId.getD []) ++
        (keccak256 (netVer ++ s ++ v ++ payId.getD [])).take 4) := by
  unfold xmrAddrEncode at h
  -- the payment-id check comes first, in the `some` case only
  obtain ⟨hp, h⟩ : (∀ p, payId = some p → p.length = 8) ∧ (do
      let s ← addrKey .ed25519Monero spend
      let v ← addrKey .ed25519Monero view
      pure (xmrEncode ((netVer ++ s ++ v ++ payId.getD []) ++
        (keccak256 (netVer ++ s ++ v ++ payId.getD [])).take 4)) : R (List Char)) = .ok addr := by
    cases payId with
    | none => exact ⟨nofun, h⟩
    | some p =>
      obtain ⟨h8, h⟩ := guard_ne_ok_inv h
      exact ⟨fun _ e => Option.some.inj e ▸ h8, h⟩
  obtain ⟨s, hs, h⟩ := bind_ok_inv h
  obtain ⟨v, hv, ha⟩ := bind_pure_ok_inv h
  exact ⟨s, v, hs, hv, hp, ha⟩

theorem xmr_decode_encode_addr (netVer : Bytes) (payId : Option Bytes) (spend view : Bytes)
    (addr : List Char) (h : xmrAddrEncode netVer payId spend view = .ok addr) :
    ∃ s v, addrKey .ed25519Monero spend = .ok s ∧ addrKey .ed25519Monero view = .ok v ∧
      xmrAddrDecode netVer payId addr = .ok (s ++ v) := by
  obtain ⟨s, v, hs, hv, hp, rfl⟩ := xmrAddrEncode_ok_inv h
  obtain ⟨hsl, _, hsv⟩ := addrKey_monero_inv hs
  obtain ⟨hvl, _, hvv⟩ := addrKey_monero_inv hv
  exact ⟨s, v, hs, hv, xmrAddrDecode_canon netVer s v payId hsl hvl hp hsv hvv⟩

@[ov] theorem xmrAddrEncode_ov (netVer : Bytes) (payId : Option Bytes) (spend view : Bytes) :
    OnlyValue (xmrAddrEncode netVer payId spend view) := by
  unfold xmrAddrEncode; cases payId <;> simp only [ov]

@[ov] theorem xmrAddrDecode_ov (netVer : Bytes) (payId : Option Bytes) (addr : List Char) :
    OnlyValue (xmrAddrDecode netVer payId addr) := by
  unfold xmrAddrDecode
  cases payId <;> simp only [ov]

end BipVerif.Model
