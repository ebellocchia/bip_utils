/-
Primality of the field primes and group orders of the curves in `Prim/`, by Lucas' criterion applied down to 2:
`q` is prime if some `a` has `a ^ (q - 1) = 1` and `a ^ ((q - 1) / p) ≠ 1` modulo `q` for every prime `p ∣ q - 1`.
`table` lists the six constants and every prime needed on the way down, largest first, each with such an `a`;
`check` finds the prime factors of each `q - 1` among the entries after it, so the table carries nothing else.
The kernel evaluates `check table` once (no axiom).

This file is printed by tools/pratt/gen_pratt_lean.py: everything but the entries of `table` is copied from
tools/pratt/PrattCore.lean.in, the entries are computed from tools/pratt/pratt.json (factorisations found by
sympy, re-checked there by plain integer arithmetic and here by the kernel, so sympy is not trusted).
-/
import Mathlib.NumberTheory.LucasPrimality
import BipVerif.Prim.Weierstrass
import BipVerif.Prim.Edwards

namespace BipVerif.Pratt
open BipVerif.Prim

/-- `acc * b ^ e` modulo `m`, one byte of `e` per step (`fuel` bytes): a step is a handful of big-number
operations, each of which the kernel performs natively, so a 256-bit exponent takes 32 steps. -/
def powModBytes (m : ℕ) : ℕ → ℕ → ℕ → ℕ → ℕ
  | 0, _, _, acc => acc
  | fuel + 1, b, e, acc => powModBytes m fuel (b ^ 256 % m) (e / 256) (acc * b ^ (e % 256) % m)

theorem powModBytes_modEq (m : ℕ) : ∀ fuel b e acc, e < 256 ^ fuel →
    powModBytes m fuel b e acc ≡ acc * b ^ e [MOD m]
  | 0, b, e, acc, h => by
    obtain rfl : e = 0 := by simpa using h
    simpa [powModBytes] using Nat.ModEq.refl acc
  | fuel + 1, b, e, acc, h => by
    have h' : e / 256 < 256 ^ fuel := by
      rw [Nat.div_lt_iff_lt_mul (by norm_num)]
      rwa [pow_succ] at h
    refine (powModBytes_modEq m fuel _ _ _ h').trans ?_
    calc acc * b ^ (e % 256) % m * (b ^ 256 % m) ^ (e / 256)
        ≡ acc * b ^ (e % 256) * (b ^ 256) ^ (e / 256) [MOD m] :=
          (Nat.mod_modEq _ _).mul ((Nat.mod_modEq _ _).pow _)
      _ = acc * b ^ (256 * (e / 256) + e % 256) := by ring
      _ = acc * b ^ e := by rw [Nat.div_add_mod]

/-- `a ^ e` modulo `q`, for `e ≤ q`. -/
def powBelow (q a e : ℕ) : ℕ := powModBytes q (Nat.log2 q / 8 + 1) a e 1

theorem powBelow_modEq {q e : ℕ} (a : ℕ) (h : e ≤ q) : powBelow q a e ≡ a ^ e [MOD q] := by
  have hq : q < 256 ^ (Nat.log2 q / 8 + 1) :=
    calc q < 2 ^ (Nat.log2 q + 1) := Nat.lt_log2_self
      _ ≤ 2 ^ (8 * (Nat.log2 q / 8 + 1)) := Nat.pow_le_pow_right (by norm_num) (by omega)
      _ = 256 ^ (Nat.log2 q / 8 + 1) := by rw [pow_mul]; norm_num
  simpa [powBelow] using powModBytes_modEq q _ a e 1 (h.trans_lt hq)

/-- Lucas' criterion for `q` with witness `a`, the prime factors of `q - 1` being sought among the first
components of `ps`: those that divide `q - 1` account for all of it (it divides a power of their product), and
`a` passes the test at each of them. `Nat.beq` rather than `==` in the filter, which takes most of the steps:
the kernel evaluates it without unfolding instances. -/
def lucasOk (ps : List (ℕ × ℕ)) (q a : ℕ) : Bool :=
  let fs := ps.filter fun p => Nat.beq ((q - 1) % p.1) 0
  (fs.map Prod.fst).prod ^ Nat.log2 q % (q - 1) == 0 && powBelow q a (q - 1) % q == 1 % q &&
    fs.all fun p => powBelow q a ((q - 1) / p.1) % q != 1 % q

theorem prime_of_lucasOk {ps : List (ℕ × ℕ)} {q a : ℕ} (hps : ∀ p ∈ ps, p.1.Prime)
    (h : lucasOk ps q a = true) : q.Prime := by
  simp only [lucasOk, Bool.and_eq_true, beq_iff_eq, List.all_eq_true, bne_iff_ne] at h
  obtain ⟨⟨hdvd, h1⟩, hne⟩ := h
  have cast_eq_one {e : ℕ} (he : e ≤ q) : (a : ZMod q) ^ e = 1 ↔ powBelow q a e % q = 1 % q := by
    rw [← Nat.cast_pow, ← Nat.cast_one, ZMod.natCast_eq_natCast_iff]
    exact ⟨(powBelow_modEq a he).trans, (powBelow_modEq a he).symm.trans⟩
  refine lucas_primality q a ((cast_eq_one (Nat.sub_le q 1)).mpr h1) fun r hr hrq => ?_
  -- `r` divides a power of the product of the factors found, so it is one of them
  have hr' := hr.dvd_of_dvd_pow (hrq.trans (Nat.dvd_of_mod_eq_zero hdvd))
  obtain ⟨_, hy, hry⟩ := (Prime.dvd_prod_iff hr.prime).mp hr'
  obtain ⟨p, hp, rfl⟩ := List.mem_map.mp hy
  obtain rfl : r = p.1 := (Nat.prime_dvd_prime_iff_eq hr (hps p (List.mem_filter.mp hp).1)).mp hry
  exact fun hc => hne p hp ((cast_eq_one ((Nat.div_le_self _ _).trans (Nat.sub_le q 1))).mp hc)

/-- Every entry passes Lucas' criterion with the prime factors of `q - 1` taken from the entries after it. -/
def check : List (ℕ × ℕ) → Bool
  | [] => true
  | (q, a) :: rest => lucasOk rest q a && check rest

theorem prime_of_check : ∀ {t : List (ℕ × ℕ)}, check t = true → ∀ q ∈ t.map Prod.fst, q.Prime
  | [], _, _, hq => by simp at hq
  | (q, a) :: rest, h, q', hq => by
    rw [check, Bool.and_eq_true] at h
    have ih := prime_of_check h.2
    rcases List.mem_cons.mp hq with rfl | hq
    · exact prime_of_lucasOk (fun p hp => ih p.1 (List.mem_map_of_mem hp)) h.1
    · exact ih q' hq

def table : List (ℕ × ℕ) := [
  (115792089237316195423570985008687907853269984665640564039457584007908834671663, 3),
  (115792089237316195423570985008687907852837564279074904382605163141518161494337, 7),
  (115792089210356248762697446949407573530086143415290314195533631308867097853951, 6),
  (115792089210356248762697446949407573529996955224135760342422259061068512044369, 7),
  (57896044618658097711785492504343953926634992332820282019728792003956564819949, 2),
  (7237005577332262213973186563042994240857116359379907606001950938285454250989, 2),
  (205115282021455665897114700593932402728804164701536103180137503955397371, 10),
  (74058212732561358302231226437062788676166966415465897661863160754340907, 2),
  (835945042244614951780389953367877943453916927241, 11),
  (774023187263532362759620327192479577272145303, 3),
  (276602624281642239937218680557139826668747, 2),
  (19757330305831588566944191468367130476339, 2),
  (255515944373312847190720520512484175977, 3),
  (75445702479781427272750846543864801, 7),
  (341948486974166000522343609283189, 2),
  (198211423230930754013084525763697, 5),
  (29047611873442575647497758179, 2),
  (2624747550333869278416773953, 7),
  (172054593956031949258510691, 2),
  (132896956044521568488119, 6),
  (22149492674086928081353, 5),
  (3044861653679985063343, 5),
  (174723607534414371449, 3),
  (4434155615661930479, 17),
  (208150935158385979, 2),
  (173378833005251801, 6),
  (107361793816595537, 3),
  (46076956964474543, 5),
  (31757755568855353, 10),
  (1919519569386763, 2),
  (1257559732178653, 2),
  (11290956913871, 13),
  (1002328039319, 19),
  (297159362677, 2),
  (213441916511, 13),
  (72106336199, 7),
  (66417393611, 6),
  (34282281433, 17),
  (2773320623, 5),
  (622491383, 5),
  (545358713, 5),
  (311245691, 2),
  (292386187, 2),
  (204061199, 11),
  (191039911, 3),
  (187019741, 2),
  (107590001, 3),
  (58964693, 2),
  (44706919, 6),
  (14741173, 2),
  (13331831, 13),
  (9350987, 2),
  (8574133, 2),
  (7240687, 3),
  (6700417, 5),
  (4681609, 23),
  (3969899, 2),
  (1923133, 2),
  (1627771, 3),
  (1224481, 13),
  (1206781, 10),
  (704251, 2),
  (569003, 2),
  (531581, 2),
  (490463, 14),
  (430751, 17),
  (409477, 2),
  (305873, 3),
  (155317, 5),
  (137849, 3),
  (132667, 5),
  (132049, 26),
  (126241, 7),
  (120233, 3),
  (104471, 11),
  (96557, 2),
  (85831, 3),
  (82163, 2),
  (78283, 3),
  (75707, 2),
  (65537, 3),
  (65147, 2),
  (57467, 2),
  (41201, 3),
  (41081, 3),
  (38189, 2),
  (37853, 2),
  (34123, 2),
  (32573, 2),
  (30703, 3),
  (28181, 2),
  (24809, 6),
  (22111, 6),
  (20113, 10),
  (18169, 11),
  (17449, 14),
  (17231, 13),
  (16879, 3),
  (16699, 3),
  (13441, 11),
  (9547, 2),
  (9463, 3),
  (9349, 2),
  (7723, 3),
  (5879, 11),
  (5323, 5),
  (4423, 3),
  (4349, 2),
  (4153, 5),
  (4051, 10),
  (3797, 2),
  (3769, 7),
  (3727, 3),
  (3677, 2),
  (3407, 5),
  (3023, 5),
  (2939, 2),
  (2861, 2),
  (2851, 2),
  (2731, 3),
  (2657, 3),
  (2621, 2),
  (2551, 6),
  (2437, 2),
  (2411, 6),
  (2011, 3),
  (1871, 14),
  (1723, 3),
  (1627, 3),
  (1531, 2),
  (1511, 11),
  (1409, 3),
  (1373, 2),
  (1361, 3),
  (1297, 10),
  (1201, 11),
  (1087, 3),
  (991, 6),
  (971, 6),
  (919, 7),
  (887, 5),
  (797, 2),
  (757, 2),
  (727, 5),
  (661, 2),
  (641, 3),
  (631, 3),
  (487, 3),
  (479, 13),
  (461, 2),
  (443, 2),
  (419, 2),
  (373, 2),
  (353, 3),
  (337, 10),
  (313, 10),
  (311, 17),
  (307, 5),
  (293, 2),
  (271, 6),
  (269, 2),
  (263, 5),
  (257, 3),
  (241, 7),
  (239, 7),
  (229, 6),
  (223, 3),
  (199, 3),
  (197, 2),
  (181, 2),
  (173, 2),
  (157, 5),
  (151, 6),
  (149, 2),
  (131, 2),
  (127, 3),
  (113, 3),
  (109, 6),
  (107, 2),
  (103, 5),
  (101, 2),
  (97, 5),
  (83, 2),
  (79, 3),
  (73, 5),
  (71, 7),
  (67, 2),
  (59, 2),
  (53, 2),
  (47, 5),
  (43, 3),
  (41, 6),
  (37, 2),
  (31, 3),
  (29, 2),
  (23, 5),
  (19, 2),
  (17, 3),
  (13, 2),
  (11, 2),
  (7, 3),
  (5, 2),
  (3, 2),
  (2, 1)]

theorem table_ok : check table = true := by decide +kernel

theorem secp256k1_p_prime : Nat.Prime secp256k1.p := prime_of_check table_ok _ (by decide)
theorem secp256k1_n_prime : Nat.Prime secp256k1.n := prime_of_check table_ok _ (by decide)
theorem nist256p1_p_prime : Nat.Prime nist256p1.p := prime_of_check table_ok _ (by decide)
theorem nist256p1_n_prime : Nat.Prime nist256p1.n := prime_of_check table_ok _ (by decide)
theorem p25519_prime : Nat.Prime p25519 := prime_of_check table_ok _ (by decide)
theorem edL_prime : Nat.Prime edL := prime_of_check table_ok _ (by decide)

end BipVerif.Pratt
