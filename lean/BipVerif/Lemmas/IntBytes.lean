/-
Integer <-> byte-string conversions (`int.to_bytes`, `int.from_bytes`, `IntegerUtils.ToBytes`),
binary strings (`bin(n)[2:].zfill(k)`, `int(s, 2)`) and hex strings.
-/
import Mathlib.Data.Nat.Log
import BipVerif.Lemmas.Bytes

namespace BipVerif.Model
open BipVerif

/-- The model files are elaborated without Mathlib, so their `x ^ n` on `Nat` is `instPowNat`; in the proof
files `x ^ n` is `Monoid.npow`.  The two are equal by unfolding instances as long as `x` and `n` are variables; on
numerals the kernel evaluates both sides, and a tactic that abstracts "up to instances" makes it do so.
Rewriting the model's side with this lemma first (`conv_lhs`) keeps the numerals out of any comparison. -/
theorem natPow_eq_pow (x n : Nat) : @HPow.hPow Nat Nat Nat (@instHPow Nat Nat instPowNat) x n = x ^ n := rfl

@[simp] theorem toNatBE_nil : Bytes.toNatBE [] = 0 := rfl

theorem toNatBE_append (a b : Bytes) :
    Bytes.toNatBE (a ++ b) = Bytes.toNatBE a * 256 ^ b.length + Bytes.toNatBE b := by
  rw [toNatBE_eq, toNatBE_eq, toNatBE_eq, List.map_append, ofDigitsBE_append, List.length_map]

theorem toNatBE_singleton (x : UInt8) : Bytes.toNatBE [x] = x.toNat := by
  simp [Bytes.toNatBE]

theorem toNatBE_cons (x : UInt8) (t : Bytes) :
    Bytes.toNatBE (x :: t) = x.toNat * 256 ^ t.length + Bytes.toNatBE t := by
  have := toNatBE_append [x] t
  rwa [toNatBE_singleton] at this

theorem toNatBE_concat (t : Bytes) (x : UInt8) :
    Bytes.toNatBE (t ++ [x]) = Bytes.toNatBE t * 256 + x.toNat := by
  rw [toNatBE_append, toNatBE_singleton]; simp

theorem toNatBE_replicate_zero (n : Nat) : Bytes.toNatBE (List.replicate n 0) = 0 := by
  rw [toNatBE_eq, List.map_replicate]; exact ofDigitsBE_replicate_zero 256 n

theorem toNatBE_zeros_append (n : Nat) (b : Bytes) :
    Bytes.toNatBE (List.replicate n 0 ++ b) = Bytes.toNatBE b := by
  rw [toNatBE_append, toNatBE_replicate_zero]; simp

theorem toNatBE_lt (b : Bytes) : Bytes.toNatBE b < 256 ^ b.length := by
  have := ofDigitsBE_lt 256 (b.map UInt8.toNat) (by
    intro d hd
    obtain ⟨a, _, rfl⟩ := List.mem_map.mp hd
    exact a.toNat_lt)
  rwa [← toNatBE_eq, List.length_map] at this

theorem uint8_toNat_ofNat_lt {n : Nat} (h : n < 256) : (UInt8.ofNat n).toNat = n := by
  rw [UInt8.toNat_ofNat']; exact Nat.mod_eq_of_lt h

theorem map_toNat_map_ofNat (ds : List Nat) (h : ∀ d ∈ ds, d < 256) :
    (ds.map UInt8.ofNat).map UInt8.toNat = ds := by
  rw [List.map_map]
  conv_rhs => rw [← List.map_id ds]
  exact List.map_congr_left fun d hd => uint8_toNat_ofNat_lt (h d hd)

theorem toNatBE_natToBytesMin (v : Nat) : Bytes.toNatBE (natToBytesMin v) = v := by
  rw [toNatBE_eq]; unfold natToBytesMin
  rw [map_toNat_map_ofNat _ (digitsBE_lt 256 (by omega) v)]
  exact ofDigitsBE_digitsBE 256 (by omega) v

theorem natToBytesMin_length (v : Nat) : (natToBytesMin v).length = (Nat.digits 256 v).length := by
  unfold natToBytesMin; rw [digitsBE_eq 256 (by omega)]; simp

theorem natToBytesMin_length_le_iff (v n : Nat) : (natToBytesMin v).length ≤ n ↔ v < 256 ^ n := by
  rw [natToBytesMin_length]; exact Nat.digits_length_le_iff (by omega) v

theorem natToBytesMin_zero : natToBytesMin 0 = [] := by
  unfold natToBytesMin; rw [digitsBE_zero]; rfl

theorem natToBytesMin_eq_nil_iff (v : Nat) : natToBytesMin v = [] ↔ v = 0 := by
  constructor
  · intro h
    have := toNatBE_natToBytesMin v
    rw [h] at this; exact this.symm
  · rintro rfl; exact natToBytesMin_zero

theorem natToBytesMin_length_pos {v : Nat} (h : v ≠ 0) : 0 < (natToBytesMin v).length :=
  List.length_pos_iff.mpr fun e => h ((natToBytesMin_eq_nil_iff v).mp e)

theorem natToBytesMin_head_ne_zero (v : Nat) : (natToBytesMin v).head? ≠ some 0 := by
  have := natToBytesMin_toNatBE (natToBytesMin v)
  rw [toNatBE_natToBytesMin] at this
  rw [this]
  exact dropWhile_head_ne 0 _

theorem natToBytesMin_length_eq_byteLen (v : Nat) : (natToBytesMin v).length = Bytes.byteLen v := by
  unfold Bytes.byteLen
  by_cases hv : v = 0
  · simp [hv, natToBytesMin_zero]
  · rw [if_neg hv, natToBytesMin_length, Nat.length_digits 256 v (by omega) hv, Nat.log2_eq_log_two]
    congr 1
    have : (256 : Nat) = 2 ^ 8 := by norm_num
    rw [this, Nat.log_pow_left]

/-! ### `toBytesBE v n` is `int.to_bytes(v, n, "big")`, `OverflowError` included -/

theorem toBytesBE_eq_ok (v n : Nat) (h : v < 256 ^ n) :
    toBytesBE v n = .ok (List.replicate (n - (natToBytesMin v).length) 0 ++ natToBytesMin v) := by
  unfold toBytesBE
  simp only [(natToBytesMin_length_le_iff v n).mpr h, if_true]; rfl

theorem toBytesBE_eq_error (v n : Nat) (h : 256 ^ n ≤ v) : toBytesBE v n = .error .overflow := by
  unfold toBytesBE
  have : ¬ (natToBytesMin v).length ≤ n := by rw [natToBytesMin_length_le_iff]; omega
  simp only [this, if_false]; rfl

theorem toBytesBE_toNatBE {v n : Nat} {b : Bytes} (h : toBytesBE v n = .ok b) :
    Bytes.toNatBE b = v ∧ b.length = n := by
  by_cases hv : v < 256 ^ n
  · rw [toBytesBE_eq_ok v n hv] at h
    have hb : b = _ := (Except.ok.inj h).symm
    have hl := (natToBytesMin_length_le_iff v n).mpr hv
    subst hb
    refine ⟨by rw [toNatBE_zeros_append, toNatBE_natToBytesMin], ?_⟩
    simp only [List.length_append, List.length_replicate]; omega
  · rw [toBytesBE_eq_error v n (by omega)] at h; cases h

theorem toBytesBE_ok_iff (v n : Nat) : (∃ b, toBytesBE v n = .ok b) ↔ v < 256 ^ n := by
  constructor
  · rintro ⟨b, h⟩
    by_contra hv
    rw [toBytesBE_eq_error v n (by omega)] at h; cases h
  · intro h; exact ⟨_, toBytesBE_eq_ok v n h⟩

theorem toBytesBE_error_iff (v n : Nat) : toBytesBE v n = .error .overflow ↔ 256 ^ n ≤ v := by
  constructor
  · intro h
    by_contra hv
    rw [toBytesBE_eq_ok v n (by omega)] at h; cases h
  · exact toBytesBE_eq_error v n

theorem length_eq_leadingCount_add (b : Bytes) :
    b.length = leadingCount (0 : UInt8) b + (b.dropWhile (· == 0)).length := by
  conv_lhs => rw [split_leading (0 : UInt8) b]
  simp

theorem toBytesBE_of_toNatBE (b : Bytes) : toBytesBE (Bytes.toNatBE b) b.length = .ok b := by
  rw [toBytesBE_eq_ok _ _ (toNatBE_lt b), natToBytesMin_toNatBE]
  have h := length_eq_leadingCount_add b
  have : b.length - (b.dropWhile (· == 0)).length = leadingCount (0 : UInt8) b := by omega
  rw [this]
  exact congrArg _ (split_leading (0 : UInt8) b).symm

theorem toNatBE_inj_of_length_eq {a b : Bytes} (hl : a.length = b.length)
    (hv : Bytes.toNatBE a = Bytes.toNatBE b) : a = b := by
  have h1 := toBytesBE_of_toNatBE a
  have h2 := toBytesBE_of_toNatBE b
  rw [hl, hv, h2] at h1
  exact (Except.ok.inj h1).symm

/-! ### little-endian: `toNatLE b` is `toNatBE b.reverse`, `toBytesLE` is `toBytesBE` reversed -/

theorem toNatLE_reverse (b : Bytes) : Bytes.toNatLE b.reverse = Bytes.toNatBE b := by
  unfold Bytes.toNatLE; rw [List.reverse_reverse]

theorem toNatLE_lt (b : Bytes) : Bytes.toNatLE b < 256 ^ b.length := by
  unfold Bytes.toNatLE; have := toNatBE_lt b.reverse; rwa [List.length_reverse] at this

theorem toBytesLE_eq_ok (v n : Nat) (h : v < 256 ^ n) :
    toBytesLE v n
      = .ok (List.replicate (n - (natToBytesMin v).length) 0 ++ natToBytesMin v).reverse := by
  unfold toBytesLE; rw [toBytesBE_eq_ok v n h]; rfl

theorem toBytesLE_eq_error (v n : Nat) (h : 256 ^ n ≤ v) : toBytesLE v n = .error .overflow := by
  unfold toBytesLE; rw [toBytesBE_eq_error v n h]; rfl

theorem toBytesLE_ok_iff_BE (v n : Nat) (b : Bytes) :
    toBytesLE v n = .ok b ↔ toBytesBE v n = .ok b.reverse := by
  unfold toBytesLE
  cases h : toBytesBE v n with
  | error e => simp [Except.map]
  | ok c =>
    simp only [Except.map, Except.ok.injEq]
    constructor
    · rintro rfl; simp
    · intro hc; simp [hc]

theorem toBytesLE_toNatLE {v n : Nat} {b : Bytes} (h : toBytesLE v n = .ok b) :
    Bytes.toNatLE b = v ∧ b.length = n := by
  have := toBytesBE_toNatBE ((toBytesLE_ok_iff_BE v n b).mp h)
  simpa [Bytes.toNatLE] using this

theorem toBytesLE_ok_iff (v n : Nat) : (∃ b, toBytesLE v n = .ok b) ↔ v < 256 ^ n := by
  rw [← toBytesBE_ok_iff]
  constructor
  · rintro ⟨b, h⟩; exact ⟨_, (toBytesLE_ok_iff_BE v n b).mp h⟩
  · rintro ⟨b, h⟩; exact ⟨b.reverse, (toBytesLE_ok_iff_BE v n _).mpr (by simpa using h)⟩

theorem toBytesLE_error_iff (v n : Nat) : toBytesLE v n = .error .overflow ↔ 256 ^ n ≤ v := by
  constructor
  · intro h
    by_contra hv
    rw [toBytesLE_eq_ok v n (by omega)] at h; cases h
  · exact toBytesLE_eq_error v n

theorem toBytesLE_of_toNatLE (b : Bytes) : toBytesLE (Bytes.toNatLE b) b.length = .ok b := by
  rw [toBytesLE_ok_iff_BE]
  have := toBytesBE_of_toNatBE b.reverse
  rwa [List.length_reverse] at this

theorem toNatLE_inj_of_length_eq {a b : Bytes} (hl : a.length = b.length)
    (hv : Bytes.toNatLE a = Bytes.toNatLE b) : a = b := by
  have := toNatBE_inj_of_length_eq (a := a.reverse) (b := b.reverse) (by simpa using hl) hv
  exact List.reverse_injective this

theorem toNatLE_cons (x : UInt8) (t : Bytes) :
    Bytes.toNatLE (x :: t) = x.toNat + 256 * Bytes.toNatLE t := by
  unfold Bytes.toNatLE; rw [List.reverse_cons, toNatBE_concat]; ring

theorem toNatLE_nil : Bytes.toNatLE [] = 0 := rfl

theorem toNatLE_append (a b : Bytes) :
    Bytes.toNatLE (a ++ b) = Bytes.toNatLE a + 256 ^ a.length * Bytes.toNatLE b := by
  unfold Bytes.toNatLE
  rw [List.reverse_append, toNatBE_append, List.length_reverse]; ring

theorem toNatLE_mod_256 (b : Bytes) : Bytes.toNatLE b % 256 = (b.getD 0 0).toNat := by
  cases b with
  | nil => rfl
  | cons x t =>
    rw [toNatLE_cons, List.getD_cons_zero, Nat.add_mul_mod_self_left]
    exact Nat.mod_eq_of_lt x.toNat_lt

theorem toNatLE_mod_8 (b : Bytes) : Bytes.toNatLE b % 8 = (b.getD 0 0).toNat % 8 := by
  rw [← toNatLE_mod_256, Nat.mod_mod_of_dvd _ (by decide)]

theorem eq_take_append_getD (b : Bytes) (n : Nat) (h : b.length = n + 1) :
    b = b.take n ++ [b.getD n 0] := by
  conv_lhs => rw [← List.take_append_drop n b]
  congr 1
  have hlt : n < b.length := by omega
  rw [List.drop_eq_getElem_cons hlt, List.drop_of_length_le (by omega)]
  simp [List.getD_eq_getElem?_getD, List.getElem?_eq_getElem hlt]

theorem toNatLE_split_last (b : Bytes) (n : Nat) (h : b.length = n + 1) :
    Bytes.toNatLE b = Bytes.toNatLE (b.take n) + 256 ^ n * (b.getD n 0).toNat := by
  conv_lhs => rw [eq_take_append_getD b n h]
  rw [toNatLE_append, List.length_take_of_le (by omega), toNatLE_cons, toNatLE_nil, Nat.mul_zero,
    Nat.add_zero]

theorem toNatLE_replicate_zero (n : Nat) : Bytes.toNatLE (List.replicate n 0) = 0 := by
  unfold Bytes.toNatLE; rw [List.reverse_replicate]; exact toNatBE_replicate_zero n

/-! ### `Bytes.ofNatLE` / `Bytes.ofNatBE` never fail: they encode `v % 256 ^ n` -/

@[simp] theorem length_ofNatLE (n v : Nat) : (Bytes.ofNatLE n v).length = n := by
  induction n generalizing v with
  | zero => rfl
  | succ n ih => simp [Bytes.ofNatLE, ih]

@[simp] theorem length_ofNatBE (n v : Nat) : (Bytes.ofNatBE n v).length = n := by
  simp [Bytes.ofNatBE]

theorem toNatLE_ofNatLE_mod (n v : Nat) : Bytes.toNatLE (Bytes.ofNatLE n v) = v % 256 ^ n := by
  induction n generalizing v with
  | zero => simp [Bytes.ofNatLE, Bytes.toNatLE, Nat.mod_one]
  | succ n ih =>
    rw [Bytes.ofNatLE, toNatLE_cons, ih, Nat.pow_succ, Nat.mul_comm (256 ^ n) 256,
      Nat.mod_mul]
    have : (UInt8.ofNat (v % 256)).toNat = v % 256 := by
      simp [UInt8.toNat_ofNat']
    rw [this]

theorem toNatLE_ofNatLE {n v : Nat} (h : v < 256 ^ n) :
    Bytes.toNatLE (Bytes.ofNatLE n v) = v := by
  rw [toNatLE_ofNatLE_mod, Nat.mod_eq_of_lt h]

theorem toNatBE_ofNatBE_mod (n v : Nat) : Bytes.toNatBE (Bytes.ofNatBE n v) = v % 256 ^ n := by
  unfold Bytes.ofNatBE; rw [← toNatLE_ofNatLE_mod n v]; rfl

theorem toNatBE_ofNatBE {n v : Nat} (h : v < 256 ^ n) :
    Bytes.toNatBE (Bytes.ofNatBE n v) = v := by
  rw [toNatBE_ofNatBE_mod, Nat.mod_eq_of_lt h]

theorem ofNatLE_toNatLE (b : Bytes) : Bytes.ofNatLE b.length (Bytes.toNatLE b) = b :=
  toNatLE_inj_of_length_eq (by simp) (toNatLE_ofNatLE (toNatLE_lt b))

theorem ofNatBE_toNatBE (b : Bytes) : Bytes.ofNatBE b.length (Bytes.toNatBE b) = b :=
  toNatBE_inj_of_length_eq (by simp) (toNatBE_ofNatBE (toNatBE_lt b))

theorem toBytesBE_eq_ofNatBE {v n : Nat} (h : v < 256 ^ n) :
    toBytesBE v n = .ok (Bytes.ofNatBE n v) := by
  have := toBytesBE_of_toNatBE (Bytes.ofNatBE n v)
  rwa [toNatBE_ofNatBE h, length_ofNatBE] at this

theorem toBytesLE_eq_ofNatLE {v n : Nat} (h : v < 256 ^ n) :
    toBytesLE v n = .ok (Bytes.ofNatLE n v) := by
  have := toBytesLE_of_toNatLE (Bytes.ofNatLE n v)
  rwa [toNatLE_ofNatLE h, length_ofNatLE] at this

/-! ### `IntegerUtils.ToBytes(v)` without explicit width -/

theorem toBytesAuto_zero : toBytesAuto 0 = [0] := by
  unfold toBytesAuto; rw [natToBytesMin_zero]; rfl

theorem toBytesAuto_of_ne_zero {v : Nat} (h : v ≠ 0) : toBytesAuto v = natToBytesMin v := by
  unfold toBytesAuto
  have := natToBytesMin_length_pos h
  cases hm : natToBytesMin v with
  | nil => rw [hm] at this; cases this
  | cons a t => rfl

theorem natToBytesMin_of_lt_256 {v : Nat} (h0 : v ≠ 0) (h : v < 256) :
    natToBytesMin v = [UInt8.ofNat v] := by
  apply toNatBE_inj_of_length_eq
  · have h1 := (natToBytesMin_length_le_iff v 1).mpr (by omega)
    have := natToBytesMin_length_pos h0
    rw [List.length_singleton]; omega
  · rw [toNatBE_natToBytesMin, toNatBE_singleton, uint8_toNat_ofNat_lt h]

theorem toBytesAuto_of_lt_256 {v : Nat} (h : v < 256) : toBytesAuto v = [UInt8.ofNat v] := by
  by_cases h0 : v = 0
  · subst h0; rw [toBytesAuto_zero]; rfl
  · rw [toBytesAuto_of_ne_zero h0, natToBytesMin_of_lt_256 h0 h]

theorem toBytesAuto_byte (b : UInt8) : toBytesAuto b.toNat = [b] := by
  rw [toBytesAuto_of_lt_256 b.toNat_lt, UInt8.ofNat_toNat]

theorem toNatBE_toBytesAuto (v : Nat) : Bytes.toNatBE (toBytesAuto v) = v := by
  by_cases h : v = 0
  · subst h; rw [toBytesAuto_zero]; rfl
  · rw [toBytesAuto_of_ne_zero h, toNatBE_natToBytesMin]

theorem bytesNumber_eq (v : Nat) : bytesNumber v = max (natToBytesMin v).length 1 := rfl

theorem toBytesAuto_length (v : Nat) : (toBytesAuto v).length = bytesNumber v := by
  rw [bytesNumber_eq]
  by_cases h : v = 0
  · subst h; rw [toBytesAuto_zero, natToBytesMin_zero]; rfl
  · rw [toBytesAuto_of_ne_zero h]
    have := natToBytesMin_length_pos h
    omega

theorem toBytesAuto_length_pos (v : Nat) : 1 ≤ (toBytesAuto v).length := by
  rw [toBytesAuto_length, bytesNumber_eq]; omega

theorem toBytesAuto_length_eq (v : Nat) : (toBytesAuto v).length = max (Bytes.byteLen v) 1 := by
  rw [toBytesAuto_length, bytesNumber_eq, natToBytesMin_length_eq_byteLen]

theorem toBytesAuto_head_ne_zero {v : Nat} (h : v ≠ 0) : (toBytesAuto v).head? ≠ some 0 := by
  rw [toBytesAuto_of_ne_zero h]
  exact natToBytesMin_head_ne_zero v

theorem toBytesAuto_lt {v n : Nat} (hn : 1 ≤ n) (h : v < 256 ^ n) : (toBytesAuto v).length ≤ n := by
  rw [toBytesAuto_length, bytesNumber_eq]
  have := (natToBytesMin_length_le_iff v n).mpr h
  omega

/-! ### binary strings: `toBinStr v pad` is `bin(v)[2:].zfill(pad)`, `ofBinStr` is `int(s, 2)` -/

/-- `int.bit_length()` -/
def bitLength (v : Nat) : Nat := if v = 0 then 0 else Nat.log2 v + 1

theorem bitLength_le_iff (v k : Nat) : bitLength v ≤ k ↔ v < 2 ^ k := by
  unfold bitLength
  by_cases hv : v = 0
  · subst hv; simp
  · rw [if_neg hv]
    have := Nat.log2_lt (n := v) (k := k) hv
    omega

theorem digitsBE_two_length (v : Nat) : (digitsBE 2 v []).length = bitLength v := by
  unfold bitLength
  rw [digitsBE_eq 2 (by omega)]
  by_cases hv : v = 0
  · simp [hv]
  · simp only [List.append_nil, List.length_reverse, hv, if_false]
    rw [Nat.length_digits 2 v (by omega) hv, Nat.log2_eq_log_two]

theorem ofBinStr_eq (bs : List Bool) :
    ofBinStr bs = ofDigitsBE 2 (bs.map fun b => if b then 1 else 0) := by
  unfold ofBinStr ofDigitsBE; rw [List.foldl_map]

theorem ofBinStr_append (a b : List Bool) :
    ofBinStr (a ++ b) = ofBinStr a * 2 ^ b.length + ofBinStr b := by
  simp only [ofBinStr_eq, List.map_append, ofDigitsBE_append, List.length_map]

theorem ofBinStr_replicate_false (n : Nat) : ofBinStr (List.replicate n false) = 0 := by
  rw [ofBinStr_eq, List.map_replicate]; exact ofDigitsBE_replicate_zero 2 n

theorem ofBinStr_digits (v : Nat) : ofBinStr ((digitsBE 2 v []).map (· == 1)) = v := by
  rw [ofBinStr_eq, List.map_map]
  have : (digitsBE 2 v []).map ((fun b : Bool => if b then 1 else 0) ∘ (· == 1))
      = digitsBE 2 v [] := by
    conv_rhs => rw [← List.map_id (digitsBE 2 v [])]
    apply List.map_congr_left
    intro d hd
    have := digitsBE_lt 2 (by omega) v d hd
    have : d = 0 ∨ d = 1 := by omega
    rcases this with rfl | rfl <;> simp
  rw [this]; exact ofDigitsBE_digitsBE 2 (by omega) v

theorem toBinStr_zero (pad : Nat) : toBinStr 0 pad = List.replicate (pad - 1) false ++ [false] := by
  unfold toBinStr; rw [digitsBE_zero]; rfl

theorem toBinStr_of_ne_zero {v : Nat} (hv : v ≠ 0) (pad : Nat) :
    toBinStr v pad
      = List.replicate (pad - bitLength v) false ++ (digitsBE 2 v []).map (· == 1) := by
  have hlen := digitsBE_two_length v
  unfold toBinStr
  cases h : digitsBE 2 v [] with
  | nil => rw [h] at hlen; simp [bitLength, hv] at hlen
  | cons a t => rw [h] at hlen; simp [← hlen]

theorem ofBinStr_toBinStr (v pad : Nat) : ofBinStr (toBinStr v pad) = v := by
  by_cases hv : v = 0
  · subst hv
    rw [toBinStr_zero, ofBinStr_append, ofBinStr_replicate_false]; rfl
  · rw [toBinStr_of_ne_zero hv, ofBinStr_append, ofBinStr_replicate_false, Nat.zero_mul,
      Nat.zero_add, ofBinStr_digits]

theorem toBinStr_length (v pad : Nat) :
    (toBinStr v pad).length = max pad (max 1 (bitLength v)) := by
  by_cases hv : v = 0
  · subst hv
    rw [toBinStr_zero]; simp [bitLength]; omega
  · have hpos : 1 ≤ bitLength v := by simp [bitLength, hv]
    rw [toBinStr_of_ne_zero hv, List.length_append, List.length_replicate, List.length_map,
      digitsBE_two_length]
    omega

theorem toBinStr_length_of_lt {v pad : Nat} (hp : 1 ≤ pad) (h : v < 2 ^ pad) :
    (toBinStr v pad).length = pad := by
  rw [toBinStr_length]
  have : bitLength v ≤ pad := by
    rw [← digitsBE_two_length, digitsBE_eq 2 (by omega)]
    simpa using (Nat.digits_length_le_iff (b := 2) (by omega) v).mpr h
  omega

/-! ### hex strings: `bytes.fromhex(b.hex()) == b` -/

theorem hexVal_hexDigit (n : Nat) (h : n < 16) : Bytes.hexVal (Bytes.hexDigit n) = some n := by
  interval_cases n <;> decide

theorem ofHexChars_flatMap (b : Bytes) :
    Bytes.ofHexChars (b.flatMap fun x =>
      [Bytes.hexDigit (x.toNat / 16), Bytes.hexDigit (x.toNat % 16)]) = some b := by
  induction b with
  | nil => rfl
  | cons x t ih =>
    have hx := x.toNat_lt
    simp only [List.flatMap_cons, List.cons_append, List.nil_append, Bytes.ofHexChars]
    rw [hexVal_hexDigit _ (by omega), hexVal_hexDigit _ (by omega), ih]
    simp only [Option.bind_eq_bind, Option.bind_some, Option.pure_def, Option.some.injEq,
      List.cons.injEq, and_true]
    have : x.toNat / 16 * 16 + x.toNat % 16 = x.toNat := by omega
    rw [this]; simp

theorem ofHex_toHex (b : Bytes) : Bytes.ofHex (Bytes.toHex b) = some b := by
  unfold Bytes.ofHex Bytes.toHex
  rw [String.toList_ofList]
  exact ofHexChars_flatMap b

theorem toHex_length (b : Bytes) : (Bytes.toHex b).toList.length = 2 * b.length := by
  unfold Bytes.toHex
  rw [String.toList_ofList]
  induction b with
  | nil => rfl
  | cons x t ih => simp only [List.flatMap_cons, List.length_append, ih]; simp; omega

end BipVerif.Model
