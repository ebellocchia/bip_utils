/-
Base58 canonicity (every accepted string is the encoding of its decoding), the error kinds of the
decoder, and Base58Check round trip / soundness / error kinds, for an arbitrary 58-symbol alphabet
and an arbitrary checksum hash `H`.
-/
import BipVerif.Lemmas.Chunks
import BipVerif.Lemmas.IntBytes
import BipVerif.Lemmas.Base58
import BipVerif.Lemmas.Except
import BipVerif.Prim.Sha256

namespace BipVerif.Model
open BipVerif

theorem alphaIndex_ok {alph : List Char} {c : Char} {i : Nat} (h : alphaIndex alph c = .ok i) :
    alph.idxOf? c = some i ∧ i < alph.length ∧ alph.getD i 'x' = c := by
  unfold alphaIndex at h
  cases hi : alph.idxOf? c with
  | none => rw [hi] at h; cases h
  | some j =>
    rw [hi] at h
    obtain rfl : j = i := by cases h; rfl
    rw [List.idxOf?, List.findIdx?_eq_some_iff_getElem] at hi
    obtain ⟨hlt, heq, _⟩ := hi
    simp only [beq_iff_eq] at heq
    exact ⟨rfl, hlt, by simp [List.getD_eq_getElem?_getD, hlt, heq]⟩

theorem alphaIndex_error {alph : List Char} {c : Char} {e : Err} (h : alphaIndex alph c = .error e) :
    e = .value := by
  unfold alphaIndex at h
  cases hi : alph.idxOf? c with
  | none => rw [hi] at h; cases h; rfl
  | some i => rw [hi] at h; cases h

theorem alphaIndex_ok_iff (alph : List Char) (c : Char) :
    (∃ i, alphaIndex alph c = .ok i) ↔ c ∈ alph := by
  unfold alphaIndex
  cases hi : alph.idxOf? c with
  | none => simpa using List.idxOf?_eq_none_iff.mp hi
  | some i =>
    have : c ∈ alph := by
      by_contra hn; rw [List.idxOf?_eq_none_iff.mpr hn] at hi; cases hi
    simpa [pure, Except.pure] using this

/-- an accepted symbol list is the image of its index list, and every index is the *first*
position of its symbol. -/
theorem mapM_alphaIndex_ok {alph : List Char} {s : List Char} {ds : List Nat}
    (h : s.mapM (alphaIndex alph) = .ok ds) :
    s = ds.map (fun d => alph.getD d 'x') ∧
      ∀ d ∈ ds, d < alph.length ∧ alph.idxOf? (alph.getD d 'x') = some d := by
  induction s generalizing ds with
  | nil =>
    obtain rfl : ds = [] := by cases h; rfl
    simp
  | cons c t ih =>
    obtain ⟨i, r, hc, ht, rfl⟩ := mapM_cons_ok h
    obtain ⟨hidx, hlt, hget⟩ := alphaIndex_ok hc
    obtain ⟨hs, hall⟩ := ih ht
    refine ⟨by rw [List.map_cons, hget, ← hs], ?_⟩
    intro d hd
    rcases List.mem_cons.mp hd with rfl | hd
    · exact ⟨hlt, by rw [hget]; exact hidx⟩
    · exact hall d hd

theorem b58Decode_error {alph : List Char} {s : List Char} {e : Err} (h : b58Decode alph s = .error e) :
    e = .value := by
  unfold b58Decode at h
  cases hm : s.mapM (alphaIndex alph) with
  | error e' =>
    rw [hm] at h
    obtain rfl : e' = e := by cases h; rfl
    exact mapM_error_of (P := fun e => e = .value) (fun a e h => alphaIndex_error h) s hm
  | ok ds => rw [hm] at h; cases h

theorem b58Decode_ok_iff (alph : List Char) (s : List Char) :
    (∃ b, b58Decode alph s = .ok b) ↔ ∀ c ∈ s, c ∈ alph := by
  have hm := mapM_ok_iff (alphaIndex alph) s
  simp only [alphaIndex_ok_iff] at hm
  rw [← hm]
  unfold b58Decode
  cases s.mapM (alphaIndex alph) with
  | error e => simp [bind, Except.bind]
  | ok ds => simp [bind, Except.bind, pure, Except.pure]

theorem leadingCount_map {α β} [BEq α] [BEq β] (f : α → β) (x : β) (y : α) (l : List α)
    (h : ∀ a ∈ l, (f a == x) = (a == y)) : leadingCount x (l.map f) = leadingCount y l := by
  unfold leadingCount
  induction l with
  | nil => rfl
  | cons a t ih =>
    have ha := h a (by simp)
    simp only [List.map_cons, List.takeWhile_cons, ha]
    cases hay : a == y
    · simp
    · simp only [if_true, List.length_cons]
      rw [ih (fun b hb => h b (by simp [hb]))]

/-- Base58 has no non-canonical spellings.  No `Nodup` hypothesis: the decoder only ever returns
first positions, so the alphabet may even repeat symbols. -/
theorem b58Encode_of_b58Decode (alph : List Char) (hl : alph.length = 58) {s : List Char} {b : Bytes}
    (h : b58Decode alph s = .ok b) : b58Encode alph b = s := by
  unfold b58Decode at h
  cases hm : s.mapM (alphaIndex alph) with
  | error e' => rw [hm] at h; cases h
  | ok ds =>
    rw [hm] at h
    have hb : b = _ := (Except.ok.inj h).symm
    obtain ⟨hs, hall⟩ := mapM_alphaIndex_ok hm
    -- leading pad symbols correspond to leading zero digits
    have h0 : alph.idxOf? (alph.getD 0 'x') = some 0 := by
      cases alph with
      | nil => simp at hl
      | cons a t => simp [List.idxOf?, List.findIdx?_cons]
    have hpad : leadingCount (alph.getD 0 'x') s = leadingCount 0 ds := by
      rw [hs]
      apply leadingCount_map
      intro d hd
      obtain ⟨_, hidx⟩ := hall d hd
      by_cases hd0 : d = 0
      · subst hd0; simp
      · have : alph.getD d 'x' ≠ alph.getD 0 'x' := by
          intro e
          rw [e, h0] at hidx
          exact hd0 (Option.some.inj hidx).symm
        rw [beq_eq_false_iff_ne.mpr this, beq_eq_false_iff_ne.mpr hd0]
    rw [hpad] at hb
    -- the digit list splits into zeros and a canonical tail
    have hsplit := split_leading (0 : Nat) ds
    set r := ds.dropWhile (· == (0 : Nat)) with hr
    have hv : ofDigitsBE 58 ds = ofDigitsBE 58 r := by
      conv_lhs => rw [hsplit]
      exact ofDigitsBE_zeros_append 58 _ _
    have hrlt : ∀ d ∈ r, d < 58 := by
      intro d hd
      have : d ∈ ds := by rw [hsplit]; exact List.mem_append_right _ hd
      rw [← hl]; exact (hall d this).1
    have hdig : digitsBE 58 (ofDigitsBE 58 ds) [] = r := by
      rw [hv]
      exact digitsBE_ofDigitsBE 58 (by omega) r hrlt (dropWhile_head_ne (0 : Nat) ds)
    have hval : Bytes.toNatBE b = ofDigitsBE 58 ds := by
      rw [hb, toNatBE_zeros_append, toNatBE_natToBytesMin]
    have hlead : leadingCount (0 : UInt8) b = leadingCount 0 ds := by
      rw [hb]
      exact leadingCount_replicate_append (0 : UInt8) _ _ (natToBytesMin_head_ne_zero _)
    unfold b58Encode
    simp only [hval, hlead, hdig]
    conv_rhs => rw [hs, hsplit]
    simp

namespace XK

/-- `alph.Nodup` is not needed, since canonicity does not need it. -/
theorem b58Decode_inj (alph : List Char) (hl : alph.length = 58) (s t : List Char) (b : Bytes)
    (hs : b58Decode alph s = .ok b) (ht : b58Decode alph t = .ok b) : s = t := by
  rw [← b58Encode_of_b58Decode alph hl hs, ← b58Encode_of_b58Decode alph hl ht]

end XK

theorem b58Decode_inj (alph : List Char) (hn : alph.Nodup) (hl : alph.length = 58)
    (s t : List Char) (b : Bytes) (hs : b58Decode alph s = .ok b) (ht : b58Decode alph t = .ok b) :
    s = t := XK.b58Decode_inj alph hl s t b hs ht

theorem b58Encode_inj (alph : List Char) (hn : alph.Nodup) (hl : alph.length = 58)
    (a b : Bytes) (h : b58Encode alph a = b58Encode alph b) : a = b := by
  have h1 := b58_decode_encode alph hn hl a
  rw [h, b58_decode_encode alph hn hl b] at h1
  exact (Except.ok.inj h1).symm

theorem b58CheckDecode_eq (H : Bytes → Bytes) (alph s : List Char) :
    b58CheckDecode H alph s = b58Decode alph s >>= fun dec =>
      if takeLast dec 4 = (H (dropLast dec 4)).take 4 then .ok (dropLast dec 4) else .error .checksum := by
  unfold b58CheckDecode
  exact congrArg _ (funext fun dec => (guard_not _ _ _ _).trans (if_congr beq_iff_eq rfl rfl))

theorem b58CheckDecode_eq_ok {H : Bytes → Bytes} {alph s : List Char} {data : Bytes} :
    b58CheckDecode H alph s = .ok data ↔
      ∃ dec, b58Decode alph s = .ok dec ∧ takeLast dec 4 = (H (dropLast dec 4)).take 4 ∧
        dropLast dec 4 = data := by
  rw [b58CheckDecode_eq, bind_eq_ok_iff]
  refine exists_congr fun dec => and_congr_right fun _ => ?_
  rw [ite_else_error_eq_ok, Except.ok.injEq]

theorem sha256d_ge4 : ∀ x, (Prim.sha256d x).length ≥ 4 := fun x => by rw [Prim.sha256d_length]; omega

theorem b58CheckDecode_ok_iff (H : Bytes → Bytes) (alph : List Char) (hH : ∀ x, (H x).length ≥ 4)
    (s : List Char) (data : Bytes) :
    b58CheckDecode H alph s = .ok data ↔ b58Decode alph s = .ok (data ++ (H data).take 4) := by
  have hck : ((H data).take 4).length = 4 := by
    rw [List.length_take]; have := hH data; omega
  rw [b58CheckDecode_eq_ok]
  constructor
  · rintro ⟨dec, hd, ht, rfl⟩
    rw [hd, ← ht, dropLast_append_takeLast]
  · intro h
    exact ⟨_, h, by rw [takeLast_append_of_length _ _ 4 hck, dropLast_append_of_length _ _ 4 hck],
      dropLast_append_of_length _ _ 4 hck⟩

theorem b58Check_decode_encode (H : Bytes → Bytes) (hH : ∀ x, 4 ≤ (H x).length)
    (alph : List Char) (hn : alph.Nodup) (hl : alph.length = 58) (data : Bytes) :
    b58CheckDecode H alph (b58CheckEncode H alph data) = .ok data :=
  (b58CheckDecode_ok_iff H alph hH _ data).mpr (b58_decode_encode alph hn hl _)

theorem b58CheckDecode_btc_encode (H : Bytes → Bytes) (hH : ∀ x, (H x).length ≥ 4) (data : Bytes) :
    b58CheckDecode H btcAlphabet (b58CheckEncode H btcAlphabet data) = .ok data :=
  b58Check_decode_encode H hH btcAlphabet btcAlphabet_nodup btcAlphabet_length data

/-- No hypothesis on `H` or on the length of the decoded bytes: when fewer than 4 bytes are
decoded, `dec[:-4] = b""` and `dec[-4:] = dec`, and acceptance forces `dec = H(b"")[:4]`. -/
theorem b58Check_encode_decode (H : Bytes → Bytes)
    (alph : List Char) (hl : alph.length = 58) (s : List Char) (d : Bytes)
    (h : b58CheckDecode H alph s = .ok d) : b58CheckEncode H alph d = s := by
  obtain ⟨dec, hdec, hck, rfl⟩ := b58CheckDecode_eq_ok.mp h
  unfold b58CheckEncode
  rw [← hck, dropLast_append_takeLast]
  exact b58Encode_of_b58Decode alph hl hdec

theorem b58CheckDecode_checksum_iff (H : Bytes → Bytes) (alph : List Char) (s : List Char) :
    b58CheckDecode H alph s = .error .checksum ↔
      ∃ dec, b58Decode alph s = .ok dec ∧ takeLast dec 4 ≠ (H (dropLast dec 4)).take 4 := by
  rw [b58CheckDecode_eq, bind_eq_error_iff, or_iff_right (a := b58Decode alph s = .error .checksum) fun h => nomatch b58Decode_error h]
  refine exists_congr fun dec => and_congr_right fun _ => ?_
  by_cases hck : takeLast dec 4 = (H (dropLast dec 4)).take 4
  · rw [if_pos hck]; exact ⟨nofun, fun h => absurd hck h⟩
  · rw [if_neg hck]; exact iff_of_true rfl hck

theorem b58Check_checksum_error (H : Bytes → Bytes) (alph : List Char) (s : List Char) (dec : Bytes)
    (hdec : b58Decode alph s = .ok dec) (hck : takeLast dec 4 ≠ (H (dropLast dec 4)).take 4) :
    b58CheckDecode H alph s = .error .checksum :=
  (b58CheckDecode_checksum_iff H alph s).mpr ⟨dec, hdec, hck⟩

theorem b58CheckDecode_error (H : Bytes → Bytes) (alph : List Char) (s : List Char) (e : Err)
    (h : b58CheckDecode H alph s = .error e) : e = .value ∨ e = .checksum := by
  rw [b58CheckDecode_eq] at h
  rcases bind_error_inv h with h | ⟨dec, -, h⟩
  · exact .inl (b58Decode_error h)
  · split at h
    · cases h
    · exact .inr (Except.error.inj h).symm

theorem b58Decode_value_iff (alph s : List Char) :
    b58Decode alph s = .error .value ↔ ¬ ∀ c ∈ s, c ∈ alph := by
  rw [← b58Decode_ok_iff]
  cases hd : b58Decode alph s with
  | error e => obtain rfl := b58Decode_error hd; exact iff_of_true rfl fun ⟨_, h⟩ => nomatch h
  | ok dec => exact iff_of_false nofun fun h => h ⟨dec, rfl⟩

theorem b58CheckDecode_value_iff (H : Bytes → Bytes) (alph : List Char) (s : List Char) :
    b58CheckDecode H alph s = .error .value ↔ ¬ ∀ c ∈ s, c ∈ alph := by
  rw [b58CheckDecode_eq, bind_eq_error_iff_left, b58Decode_value_iff]
  intro dec h
  split at h <;> cases h

end BipVerif.Model
