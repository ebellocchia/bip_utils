/-
Bech32 / Bech32m (SegWit) / CashAddr. Decoding an encoding gives the input back; conversely an
accepted string, lower-cased, is the encoding of what the decoder returns (`bechDecodeRaw_sound`,
by uniqueness of the checksum). Built on `ConvertBits.lean` (bit regrouping) and `Polymod.lean` (checksum identities).
-/
import BipVerif.Lemmas.ConvertBits
import BipVerif.Lemmas.Polymod
import BipVerif.Lemmas.Chunks
import BipVerif.Lemmas.IntBytes
import BipVerif.Lemmas.Except

namespace BipVerif.Model
open BipVerif

/-- a character that `asciiCase` does not regard as upper case. -/
def NotUpper (c : Char) : Prop := ¬ ('A' ≤ c ∧ c ≤ 'Z') ∧ c.toNat ≠ 0x212A

/-- the HRPs for which the round trip holds: non-empty, printable ASCII `[33,126]`, no `A`–`Z`. -/
def ValidHrp (hrp : List Char) : Prop :=
  hrp ≠ [] ∧ ∀ c ∈ hrp, 33 ≤ c.toNat ∧ c.toNat ≤ 126 ∧ ¬ ('A' ≤ c ∧ c ≤ 'Z')

theorem isUpper_of_notUpper (c : Char) (h : NotUpper c) : asciiCase.isUpper c = false := by
  simp only [asciiCase, decide_eq_false_iff_not]
  intro hc
  rcases hc with hc | hc
  · exact h.1 hc
  · exact h.2 hc

theorem lower_of_notUpper (c : Char) (h : NotUpper c) : asciiCase.lower c = [c] := by
  simp only [asciiCase]
  rw [if_neg h.1, if_neg h.2]

-- evaluated by the kernel: the elaborator's own evaluator is slow on `String.toList`.
theorem charset_eq : bech32Charset =
    ['q', 'p', 'z', 'r', 'y', '9', 'x', '8', 'g', 'f', '2', 't', 'v', 'd', 'w', '0',
     's', '3', 'j', 'n', '5', '4', 'k', 'h', 'c', 'e', '6', 'm', 'u', 'a', '7', 'l'] := by
  decide +kernel

theorem charset_length : bech32Charset.length = 32 := by rw [charset_eq]; rfl

theorem charset_nodup : bech32Charset.Nodup := by rw [charset_eq]; decide +kernel

theorem charset_notUpper : ∀ c ∈ bech32Charset, NotUpper c := by
  rw [charset_eq]; unfold NotUpper; decide +kernel

theorem charset_ascii : ∀ c ∈ bech32Charset, c.toNat < 128 := by rw [charset_eq]; decide +kernel

theorem sep_not_mem_charset (k : BechKind) : k.sep ∉ bech32Charset := by
  rw [charset_eq]; cases k <;> decide +kernel

theorem sep_notUpper (k : BechKind) : NotUpper k.sep := by
  cases k <;> (unfold NotUpper BechKind.sep; decide)

theorem sep_ascii (k : BechKind) : k.sep.toNat < 128 := by cases k <;> decide

theorem hrp_notUpper (hrp : List Char) (h : ValidHrp hrp) : ∀ c ∈ hrp, NotUpper c := by
  intro c hc
  obtain ⟨_, h2, h3⟩ := h.2 c hc
  exact ⟨h3, by omega⟩

theorem any_isUpper_false (s : List Char) (h : ∀ c ∈ s, NotUpper c) :
    s.any asciiCase.isUpper = false := by
  rw [List.any_eq_false]
  intro c hc
  simp [isUpper_of_notUpper c (h c hc)]

theorem flatMap_lower (s : List Char) (h : ∀ c ∈ s, NotUpper c) :
    s.flatMap asciiCase.lower = s := by
  induction s with
  | nil => rfl
  | cons a t ih =>
    rw [List.flatMap_cons, lower_of_notUpper a (h a (by simp)), ih (fun c hc => h c (by simp [hc]))]
    rfl

theorem getD_mem_charset (x : Nat) (hx : x < 32) : bech32Charset.getD x '?' ∈ bech32Charset := by
  have hx' : x < bech32Charset.length := charset_length ▸ hx
  rw [List.getD_eq_getElem?_getD, List.getElem?_eq_getElem hx', Option.getD_some]
  exact List.getElem_mem hx'

theorem idxOf?_getD_charset (x : Nat) (hx : x < 32) :
    bech32Charset.idxOf? (bech32Charset.getD x '?') = some x :=
  idxOf?_getD_of_nodup _ charset_nodup x (charset_length ▸ hx) _

theorem map_idxOf?_map_getD (d : List Nat) (hd : ∀ x ∈ d, x < 32) :
    (d.map (fun x => bech32Charset.getD x '?')).map
      (fun x => (bech32Charset.idxOf? x).getD 0) = d := by
  induction d with
  | nil => rfl
  | cons a t ih =>
    simp only [List.map_cons]
    rw [idxOf?_getD_charset a (hd a (by simp))]
    simp only [List.map_map] at ih
    simp only [List.map_map, Option.getD_some]
    rw [ih (fun x hx => hd x (by simp [hx]))]

theorem idxOf?_append_of_not_mem (sep : Char) (l r : List Char) (h : sep ∉ l) :
    (l ++ sep :: r).idxOf? sep = some l.length := by
  induction l with
  | nil => simp [List.idxOf?_cons]
  | cons a t ih =>
    have hne : ¬ a = sep := fun e => h (by simp [e])
    have ht : sep ∉ t := fun e => h (by simp [e])
    rw [List.cons_append, List.idxOf?_cons, ih ht]
    simp [hne]

theorem rfind_append (sep : Char) (a b : List Char) (h : sep ∉ b) :
    rfind (a ++ [sep] ++ b) sep = some a.length := by
  unfold rfind
  have hr : (a ++ [sep] ++ b).reverse = b.reverse ++ sep :: a.reverse := by simp
  rw [hr, idxOf?_append_of_not_mem sep b.reverse a.reverse (by simpa using h)]
  simp only [List.length_append, List.length_cons, List.length_nil, List.length_reverse]
  congr 1
  omega

theorem any_nonAscii_false (k : BechKind) (hrp chars : List Char) (hv : ValidHrp hrp)
    (hc : ∀ c ∈ chars, c ∈ bech32Charset) :
    ((hrp ++ [k.sep] ++ chars).any fun c => decide (c.toNat ≥ 128)) = false := by
  rw [List.any_eq_false]
  intro c hcm
  simp only [List.mem_append, List.mem_singleton] at hcm
  simp only [decide_eq_true_eq, not_le]
  rcases hcm with (h | h) | h
  · have := (hv.2 c h).2.1; omega
  · rw [h]; exact sep_ascii k
  · exact charset_ascii c (hc c h)

/-- `bechDecodeRaw` with its guards written as nested `if`s. -/
def bechDecodeRawFlat (U : CaseOracle) (k : BechKind) (s : List Char) : R (List Char × List Nat) :=
  if (s.any fun c => decide (c.toNat ≥ 128)) = true then .error .value
  else if (s.any U.isLower && s.any U.isUpper) = true then .error .value
  else match rfind (s.flatMap U.lower) k.sep with
    | none => .error .value
    | some p =>
      let hrp := (s.flatMap U.lower).take p
      let dp := (s.flatMap U.lower).drop (p + 1)
      if (hrp.length = 0 || hrp.any (fun x => x.toNat < 33 || x.toNat > 126)) = true then .error .value
      else if (dp.length < k.ckLen + 1 || !(dp.all (fun x => bech32Charset.contains x))) = true then
        .error .value
      else if (!(k.verify hrp (dp.map (fun x => (bech32Charset.idxOf? x).getD 0)))) = true then
        .error .checksum
      else .ok (hrp, dropLast (dp.map (fun x => (bech32Charset.idxOf? x).getD 0)) k.ckLen)

theorem bechDecodeRaw_eq_flat (U : CaseOracle) (k : BechKind) (s : List Char) :
    bechDecodeRaw U k s = bechDecodeRawFlat U k s := by
  unfold bechDecodeRaw bechDecodeRawFlat
  simp only [Bool.or_false]
  cases rfind (s.flatMap U.lower) k.sep <;> rfl

theorem bechDecodeRaw_symbols (k : BechKind) (hrp : List Char) (d : List Nat)
    (hv : ValidHrp hrp) (hd : ∀ x ∈ d, x < 32) :
    bechDecodeRaw asciiCase k (hrp ++ [k.sep] ++ d.map (fun x => bech32Charset.getD x '?'))
      = if d.length < k.ckLen + 1 then .error .value
        else if k.verify hrp d = false then .error .checksum
        else .ok (hrp, dropLast d k.ckLen) := by
  generalize hchars : d.map (fun x => bech32Charset.getD x '?') = chars
  have hcmem : ∀ c ∈ chars, c ∈ bech32Charset := by
    intro c hc
    rw [← hchars] at hc
    obtain ⟨x, hx, rfl⟩ := List.mem_map.1 hc
    exact getD_mem_charset x (hd x hx)
  have hnu : ∀ c ∈ hrp ++ [k.sep] ++ chars, NotUpper c := by
    intro c hc
    simp only [List.mem_append, List.mem_singleton] at hc
    rcases hc with (hc | hc) | hc
    · exact hrp_notUpper hrp hv c hc
    · rw [hc]; exact sep_notUpper k
    · exact charset_notUpper c (hcmem c hc)
  have hU := any_isUpper_false _ hnu
  have hA := any_nonAscii_false k hrp chars hv hcmem
  have hL := flatMap_lower _ hnu
  have hR : rfind (hrp ++ [k.sep] ++ chars) k.sep = some hrp.length :=
    rfind_append k.sep hrp chars (fun h => sep_not_mem_charset k (hcmem _ h))
  have hT : (hrp ++ [k.sep] ++ chars).take hrp.length = hrp := by
    rw [List.append_assoc, List.take_left]
  have hD : (hrp ++ [k.sep] ++ chars).drop (hrp.length + 1) = chars :=
    List.drop_left' (by rw [List.length_append, List.length_singleton])
  have hne : (hrp.length = 0) = False := eq_false (List.length_pos_iff.mpr hv.1).ne'
  have hany : (hrp.any fun x => decide (x.toNat < 33) || decide (x.toNat > 126)) = false := by
    rw [List.any_eq_false]
    intro c hc
    obtain ⟨h1, h2, _⟩ := hv.2 c hc
    simp; omega
  have hall : (chars.all fun x => bech32Charset.contains x) = true := by
    rw [List.all_eq_true]
    intro c hc
    simpa using hcmem c hc
  have hmap : chars.map (fun x => (bech32Charset.idxOf? x).getD 0) = d :=
    hchars ▸ map_idxOf?_map_getD d hd
  have hclen : chars.length = d.length := by rw [← hchars, List.length_map]
  rw [bechDecodeRaw_eq_flat]
  unfold bechDecodeRawFlat
  simp only [hA, hU, hL, hR, hT, hD, hne, hany, hall, hmap, hclen, Bool.and_false, Bool.or_false,
    Bool.false_eq_true, if_false, decide_false, Bool.not_true, decide_eq_true_eq,
    Bool.not_eq_true']

theorem length_checksum (k : BechKind) (hrp : List Char) (data : List Nat) :
    (k.checksum hrp data).length = k.ckLen := by
  cases k <;> simp [BechKind.checksum, BechKind.ckLen, length_bech32Checksum, length_bchChecksum]

theorem checksum_lt (k : BechKind) (hrp : List Char) (data : List Nat) :
    ∀ x ∈ k.checksum hrp data, x < 32 := by
  cases k
  · exact bech32Checksum_lt hrp data _
  · exact bech32Checksum_lt hrp data _
  · exact bchChecksum_lt hrp data

/-- data followed by its checksum verifies, for all three flavours (SegWit chooses Bech32 or
Bech32m from the first data symbol, which is why `data` must be non-empty there). -/
theorem verify_checksum (k : BechKind) (hrp : List Char) (data : List Nat) (hne : data ≠ []) :
    k.verify hrp (data ++ k.checksum hrp data) = true := by
  cases k
  · exact bech32Verify_checksum hrp data false
  · have hh : (data ++ bech32Checksum hrp data (data.head? != some 0)).head? = data.head? := by
      cases data with
      | nil => exact absurd rfl hne
      | cons a t => rfl
    simp only [BechKind.verify, BechKind.checksum, hh]
    exact bech32Verify_checksum hrp data _
  · exact bchVerify_checksum hrp data

/-- `data ≠ []` is necessary: `_DecodeBech32` rejects a data part that consists of the checksum only. -/
theorem bechDecodeRaw_encodeRaw (k : BechKind) (hrp : List Char) (data : List Nat)
    (hv : ValidHrp hrp) (hd : ∀ x ∈ data, x < 32) (hne : data ≠ []) :
    bechDecodeRaw asciiCase k (bechEncodeRaw k hrp data) = .ok (hrp, data) := by
  have hlen : ¬ (data ++ k.checksum hrp data).length < k.ckLen + 1 := by
    have := List.length_pos_iff.mpr hne
    rw [List.length_append, length_checksum]; omega
  unfold bechEncodeRaw
  rw [bechDecodeRaw_symbols k hrp _ hv
      (fun x hx => (List.mem_append.mp hx).elim (hd x) (checksum_lt k hrp data x)),
    if_neg hlen, verify_checksum k hrp data hne, if_neg (by decide)]
  rw [← length_checksum k hrp data, dropLast_append_of_length _ _ _ rfl]

theorem bechDecodeRaw_encodeRaw_nil (k : BechKind) (hrp : List Char) (hv : ValidHrp hrp) :
    bechDecodeRaw asciiCase k (bechEncodeRaw k hrp []) = .error .value := by
  unfold bechEncodeRaw
  rw [List.nil_append, bechDecodeRaw_symbols k hrp _ hv (checksum_lt k hrp []),
    if_pos (by rw [length_checksum]; omega)]

theorem regroup_8_5_ne_nil (data : List Nat) (h : data ≠ []) : regroup 8 5 data ≠ [] := by
  intro e
  have h1 := length_regroup_8_5 data
  have h2 := List.length_pos_iff.mpr h
  rw [e, List.length_nil] at h1
  omega

theorem bytesToNats_ne_nil (b : Bytes) (h : b ≠ []) : bytesToNats b ≠ [] := by
  simpa [bytesToNats] using h

theorem natsToBytes_bytesToNats (b : Bytes) : natsToBytes (bytesToNats b) = b :=
  uint8_ofNat_toNat_map b

theorem bech32Encode_eq (hrp : List Char) (b : Bytes) :
    bech32Encode hrp b = .ok (bechEncodeRaw .bech32 hrp (regroup 8 5 (bytesToNats b))) := by
  unfold bech32Encode; rw [toBase32_eq]; rfl

theorem segwitEncode_eq (hrp : List Char) (witVer : Nat) (prog : Bytes) :
    segwitEncode hrp witVer prog
      = .ok (bechEncodeRaw .segwit hrp (witVer :: regroup 8 5 (bytesToNats prog))) := by
  unfold segwitEncode; rw [toBase32_eq]; rfl

theorem bchEncode_eq (hrp : List Char) (netVer data : Bytes) :
    bchEncode hrp netVer data
      = .ok (bechEncodeRaw .bch hrp (regroup 8 5 (bytesToNats (netVer ++ data)))) := by
  unfold bchEncode; rw [toBase32_eq]; rfl

theorem bech32_decode_encode (hrp : List Char) (hv : ValidHrp hrp) (b : Bytes) (hb : b ≠ []) :
    (bech32Encode hrp b >>= bech32Decode asciiCase hrp) = .ok b := by
  rw [bech32Encode_eq]
  show bech32Decode asciiCase hrp _ = _
  unfold bech32Decode
  rw [bechDecodeRaw_encodeRaw .bech32 hrp _ hv (regroup_lt 8 5 _)
    (regroup_8_5_ne_nil _ (bytesToNats_ne_nil b hb))]
  simp only [bind, Except.bind, fromBase32_regroup, bne_self_eq_false, Bool.false_eq_true, if_false,
    natsToBytes_bytesToNats]
  rfl

/-- the side conditions are the checks of `SegwitBech32Decoder.Decode`. -/
theorem segwit_decode_encode (hrp : List Char) (hv : ValidHrp hrp) (witVer : Nat) (prog : Bytes)
    (hw : witVer ≤ 16) (h2 : 2 ≤ prog.length) (h40 : prog.length ≤ 40)
    (h0 : witVer = 0 → prog.length = 20 ∨ prog.length = 32) :
    (segwitEncode hrp witVer prog >>= segwitDecode asciiCase hrp) = .ok (witVer, prog) := by
  rw [segwitEncode_eq]
  show segwitDecode asciiCase hrp _ = _
  unfold segwitDecode
  rw [bechDecodeRaw_encodeRaw .segwit hrp _ hv
    (by
      intro x hx
      rcases List.mem_cons.mp hx with rfl | hx
      · omega
      · exact regroup_lt 8 5 _ x hx)
    (by simp)]
  have hlen : (bytesToNats prog).length = prog.length := by simp [bytesToNats]
  have c1 : (decide ((bytesToNats prog).length < 2) || decide ((bytesToNats prog).length > 40))
      = false := by
    rw [hlen]; simp; omega
  have c2 : (decide (witVer = 0) &&
      !(decide ((bytesToNats prog).length = 20) || decide ((bytesToNats prog).length = 32)))
      = false := by
    rw [hlen]
    by_cases hz : witVer = 0
    · rcases h0 hz with h | h <;> simp [h]
    · simp [hz]
  have c3 : (witVer > 16) = False := eq_false (by omega)
  simp only [bind, Except.bind, List.drop_one, List.tail_cons, fromBase32_regroup,
    bne_self_eq_false, Bool.false_eq_true, if_false, pyIdx, List.getElem?_cons_zero, c1,
    natsToBytes_bytesToNats, pure, Except.pure, c2, c3]

theorem bch_decode_encode (hrp : List Char) (hv : ValidHrp hrp) (nv : UInt8) (data : Bytes) :
    (bchEncode hrp [nv] data >>= bchDecode asciiCase hrp) = .ok ([nv], data) := by
  rw [bchEncode_eq]
  show bchDecode asciiCase hrp _ = _
  unfold bchDecode
  rw [bechDecodeRaw_encodeRaw .bch hrp _ hv (regroup_lt 8 5 _)
    (regroup_8_5_ne_nil _ (bytesToNats_ne_nil _ (by simp)))]
  have hcons : bytesToNats ([nv] ++ data) = nv.toNat :: bytesToNats data := rfl
  simp only [bind, Except.bind, fromBase32_regroup, bne_self_eq_false, Bool.false_eq_true, if_false]
  simp only [hcons, pyIdx, List.getElem?_cons_zero, List.drop_one, List.tail_cons,
    natsToBytes_bytesToNats, pure, Except.pure, toBytesAuto_byte]

/-- the empty byte string is encodable but its encoding is rejected by the decoder. -/
theorem bech32_decode_encode_nil (hrp : List Char) (hv : ValidHrp hrp) :
    (bech32Encode hrp [] >>= bech32Decode asciiCase hrp) = .error .value := by
  rw [bech32Encode_eq]
  show bech32Decode asciiCase hrp (bechEncodeRaw .bech32 hrp []) = _
  unfold bech32Decode
  rw [bechDecodeRaw_encodeRaw_nil .bech32 hrp hv]
  rfl

theorem rfind_some {s : List Char} {sep : Char} {p : Nat} (h : rfind s sep = some p) :
    s = s.take p ++ [sep] ++ s.drop (p + 1) := by
  unfold rfind at h
  cases hi : s.reverse.idxOf? sep with
  | none => rw [hi] at h; cases h
  | some i =>
    rw [hi] at h
    obtain ⟨hlt, heq, -⟩ := List.idxOf?_eq_some_iff.1 hi
    rw [List.length_reverse] at hlt
    rw [List.getElem_reverse] at heq
    injection h with h
    subst h
    have hp : s.length - 1 - i < s.length := by omega
    rw [List.append_assoc, List.singleton_append, ← heq, ← List.drop_eq_getElem_cons hp,
      List.take_append_drop]

theorem charset_idx_getD {c : Char} (h : c ∈ bech32Charset) :
    bech32Charset.getD ((bech32Charset.idxOf? c).getD 0) '?' = c ∧
      (bech32Charset.idxOf? c).getD 0 < 32 := by
  obtain ⟨i, hi, hci⟩ := List.mem_iff_getElem.mp h
  have hi32 : i < 32 := by rw [charset_length] at hi; exact hi
  have hg : bech32Charset.getD i '?' = c := by
    simp [List.getD_eq_getElem?_getD, hi, hci]
  have := idxOf?_getD_charset i hi32
  rw [hg] at this
  rw [this]
  exact ⟨hg, hi32⟩

theorem map_getD_map_idxOf? (dp : List Char) (h : ∀ c ∈ dp, c ∈ bech32Charset) :
    (dp.map (fun x => (bech32Charset.idxOf? x).getD 0)).map (fun x => bech32Charset.getD x '?') = dp := by
  induction dp with
  | nil => rfl
  | cons a t ih =>
    simp only [List.map_cons]
    rw [(charset_idx_getD (h a (by simp))).1, ih (fun c hc => h c (by simp [hc]))]

theorem verify_unique (k : BechKind) (hrp : List Char) (data t : List Nat) (hne : data ≠ [])
    (hl : t.length = k.ckLen) (ht : ∀ x ∈ t, x < 32) (h : k.verify hrp (data ++ t) = true) :
    t = k.checksum hrp data := by
  cases k
  · exact bech32Verify_unique hrp data t false hl ht h
  · have hh : (data ++ t).head? = data.head? := by
      cases data with
      | nil => exact absurd rfl hne
      | cons a r => rfl
    simp only [BechKind.verify, hh] at h
    exact bech32Verify_unique hrp data t _ hl ht h
  · exact bchVerify_unique hrp data t hl ht h

theorem bechDecodeRaw_ok (U : CaseOracle) (k : BechKind) {s hrp : List Char} {data : List Nat}
    (h : bechDecodeRaw U k s = .ok (hrp, data)) :
    ∃ dp : List Char, s.flatMap U.lower = hrp ++ [k.sep] ++ dp ∧ k.ckLen + 1 ≤ dp.length ∧
      (∀ c ∈ dp, c ∈ bech32Charset) ∧
      k.verify hrp (dp.map fun x => (bech32Charset.idxOf? x).getD 0) = true ∧
      data = dropLast (dp.map fun x => (bech32Charset.idxOf? x).getD 0) k.ckLen := by
  rw [bechDecodeRaw_eq_flat] at h
  unfold bechDecodeRawFlat at h
  simp only [ite_error_eq_ok] at h
  obtain ⟨-, -, h⟩ := h
  cases hr : rfind (s.flatMap U.lower) k.sep with
  | none => rw [hr] at h; cases h
  | some p =>
    rw [hr] at h
    simp only [ite_error_eq_ok] at h
    obtain ⟨-, hdp, hver, h⟩ := h
    simp only [Bool.or_eq_true, decide_eq_true_eq, Bool.not_eq_true', not_or, Bool.not_eq_false,
      List.all_eq_true, List.contains_iff_mem, Nat.not_lt] at hdp hver
    injection h with h
    injection h with h1 h2
    subst h1
    exact ⟨_, rfind_some hr, hdp.1, hdp.2, hver, h2.symm⟩

/-- for any case oracle: an accepted string, lower-cased, is exactly the encoding of the returned HRP
and data. In particular its checksum symbols are the checksum of the returned parse and no other
spelling is accepted. -/
theorem bechDecodeRaw_sound (U : CaseOracle) (k : BechKind) {s hrp : List Char} {data : List Nat}
    (h : bechDecodeRaw U k s = .ok (hrp, data)) : bechEncodeRaw k hrp data = s.flatMap U.lower := by
  obtain ⟨dp, hs, hlen, hmem, hver, rfl⟩ := bechDecodeRaw_ok U k h
  clear h
  generalize hint : dp.map (fun x => (bech32Charset.idxOf? x).getD 0) = intData at hver ⊢
  have hilen : intData.length = dp.length := by rw [← hint, List.length_map]
  have hlt : ∀ x ∈ takeLast intData k.ckLen, x < 32 := by
    intro x hx
    rw [← hint] at hx
    obtain ⟨c, hc, rfl⟩ := List.mem_map.1 (List.mem_of_mem_drop hx)
    exact (charset_idx_getD (hmem c hc)).2
  have hsplit := dropLast_append_takeLast intData k.ckLen
  have htl : (takeLast intData k.ckLen).length = k.ckLen := by
    unfold takeLast; rw [List.length_drop]; omega
  have hdne : dropLast intData k.ckLen ≠ [] := by
    intro e
    have := congrArg List.length e
    rw [dropLast, List.length_take, List.length_nil] at this
    omega
  rw [← hsplit] at hver
  have huniq := verify_unique k hrp _ _ hdne htl hlt hver
  unfold bechEncodeRaw
  simp only
  rw [← huniq, hsplit, ← hint, map_getD_map_idxOf? dp hmem, hs]

/-- for the library's case table (ASCII and KELVIN SIGN). -/
theorem bech_decode_sound (k : BechKind) {s hrp : List Char} {data : List Nat}
    (h : bechDecodeRaw asciiCase k s = .ok (hrp, data)) :
    bechEncodeRaw k hrp data = s.flatMap asciiCase.lower :=
  bechDecodeRaw_sound asciiCase k h

end BipVerif.Model
