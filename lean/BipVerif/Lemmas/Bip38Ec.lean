/-
BIP-38, EC-multiplied mode (C13): intermediate passphrase codes, key generation, decryption.
-/
import BipVerif.Lemmas.Bip38

namespace BipVerif.Model.Bip38Lemmas
open BipVerif BipVerif.Prim BipVerif.Model

theorem lotseq_lt {lot seq : Nat} (hl : lot ≤ 1048575) (hs : seq ≤ 4095) :
    lot * 4096 + seq < 2 ^ 32 := by omega

theorem lotseq_value {lot seq : Nat} (hl : lot ≤ 1048575) (hs : seq ≤ 4095) :
    Bytes.toNatBE (Bytes.ofNatBE 4 (lot * 4096 + seq)) = lot * 4096 + seq :=
  toNatBE_ofNatBE (by have := lotseq_lt hl hs; omega)

/-- owner entropy: `salt[:4] ‖ be32(lot·4096 + seq)` with lot/sequence, the 8-byte salt without -/
def ownerEntropy (salt : Bytes) : Option (Nat × Nat) → Bytes
  | some (lot, seq) => salt.take 4 ++ Bytes.ofNatBE 4 (lot * 4096 + seq)
  | none => salt

theorem bip38Intermediate_lot_range (pass salt : Bytes) (lot seq : Nat) (h : lot > 1048575) :
    bip38Intermediate pass salt (some (lot, seq)) = .error .value := by
  unfold bip38Intermediate
  dsimp only
  rw [guard_pos h]

theorem bip38Intermediate_seq_range (pass salt : Bytes) (lot seq : Nat) (h : seq > 4095) :
    bip38Intermediate pass salt (some (lot, seq)) = .error .value := by
  unfold bip38Intermediate
  dsimp only
  by_cases hl : lot > 1048575
  · rw [guard_pos hl]
  · rw [guard_neg hl, guard_pos h]

theorem bip38Intermediate_ok {pass salt : Bytes} {ls : Option (Nat × Nat)} {ip : List Char}
    (h : bip38Intermediate pass salt ls = .ok ip) :
    (∀ lot seq, ls = some (lot, seq) → lot ≤ 1048575 ∧ seq ≤ 4095) ∧
    ∃ pp, secpMulG (Bytes.toNatBE (bip38PassFactor pass (ownerEntropy salt ls) ls.isSome)) = .ok pp ∧
      ip = b58CheckEncode sha256d btcAlphabet
        ((if ls.isSome = true then magicLotSeq else magicNoLotSeq) ++ ownerEntropy salt ls ++ pp) := by
  unfold bip38Intermediate at h
  cases ls with
  | none =>
    dsimp only at h
    rw [pure_bind] at h
    obtain ⟨pp, hpp, h⟩ := bind_ok_inv h
    refine ⟨fun _ _ hc => (by cases hc), pp, hpp, (Except.ok.inj h).symm⟩
  | some p =>
    obtain ⟨lot, seq⟩ := p
    dsimp only at h
    obtain ⟨hl, h⟩ := guard_ok_inv h
    obtain ⟨hs, h⟩ := guard_ok_inv h
    rw [pure_bind] at h
    obtain ⟨pp, hpp, h⟩ := bind_ok_inv h
    refine ⟨fun l s hc => ?_, pp, hpp, (Except.ok.inj h).symm⟩
    cases Option.some.inj hc
    omega

def ecKey (pp ah oe : Bytes) : Bytes := scrypt pp (ah ++ oe) 1024 1 1 64

theorem ecKey_length (pp ah oe : Bytes) : (ecKey pp ah oe).length = 64 := scrypt_length _ _ _ _ _ _

def ecE1 (key seedb : Bytes) : Bytes :=
  aes256EncryptBlock (key.drop 32) (xorBytes (seedb.take 16) ((key.take 32).take 16))

def ecE2 (key seedb : Bytes) : Bytes :=
  aes256EncryptBlock (key.drop 32)
    (xorBytes ((ecE1 key seedb).drop 8 ++ seedb.drop 16) ((key.take 32).drop 16))

/-- the flag value: bit 5 = compressed, bit 2 = lot/sequence present -/
def ecFlag (compressed lotSeq : Bool) : Nat := (if compressed then 32 else 0) + (if lotSeq then 4 else 0)

/-- the flag as the generator computes it from the magic bytes of the intermediate code -/
def ecFlagOf (c : Bool) (magic : Bytes) : Nat :=
  (if c = true then 32 else 0) + if magic = magicLotSeq then 4 else 0

theorem ecFlagOf_eq (c : Bool) (magic : Bytes) :
    ecFlagOf c magic = ecFlag c (decide (magic = magicLotSeq)) := by
  unfold ecFlagOf ecFlag
  by_cases h : magic = magicLotSeq <;> simp [h]

/-- the 39-byte payload written by `Bip38EcKeysGenerator.GeneratePrivateKey` -/
def ecPayload (flag : Nat) (ah oe key seedb : Bytes) : Bytes :=
  [0x01, 0x43] ++ toBytesAuto flag ++ ah ++ oe ++ (ecE1 key seedb).take 8 ++ ecE2 key seedb

theorem bip38EcGenerate_ok {ip : List Char} {seedb : Bytes} {c : Bool} {s : List Char}
    (h : bip38EcGenerate ip seedb c = .ok s) :
    ∃ b pp pt ah, b58CheckDecode sha256d btcAlphabet ip = .ok b ∧ b.length = 49 ∧
      addrKey .secp256k1 (b.drop 16) = .ok pp ∧
      (b.take 8 = magicNoLotSeq ∨ b.take 8 = magicLotSeq) ∧
      secpMul pp (Bytes.toNatBE (sha256d seedb)) = .ok pt ∧ bip38AddrHash pt c = .ok ah ∧
      s = b58CheckEncode sha256d btcAlphabet
        (ecPayload (ecFlagOf c (b.take 8)) ah ((b.drop 8).take 8) (ecKey pp ah ((b.drop 8).take 8)) seedb) := by
  unfold bip38EcGenerate at h
  obtain ⟨b, hb, h⟩ := bind_ok_inv h
  obtain ⟨hl, h⟩ := guard_ok_inv h
  obtain ⟨pp, hpp, h⟩ := bind_ok_inv h
  obtain ⟨hm, h⟩ := guard_ok_inv h
  obtain ⟨pt, hpt, h⟩ := bind_ok_inv h
  obtain ⟨ah, hah, h⟩ := bind_ok_inv h
  refine ⟨b, pp, pt, ah, hb, by omega, hpp, ?_, hpt, hah, ?_⟩
  · by_cases h1 : b.take 8 = magicNoLotSeq
    · exact Or.inl h1
    · by_cases h2 : b.take 8 = magicLotSeq
      · exact Or.inr h2
      · exact absurd (by simp [h1, h2]) hm
  · unfold ecPayload ecFlagOf ecE2 ecE1 ecKey
    exact (Except.ok.inj h).symm

theorem ecPayload_def (flag : Nat) (ah oe key seedb : Bytes) (hf : flag < 256) :
    ecPayload flag ah oe key seedb =
      [0x01, 0x43, UInt8.ofNat flag] ++ (ah ++ (oe ++ ((ecE1 key seedb).take 8 ++ ecE2 key seedb))) := by
  unfold ecPayload
  rw [toBytesAuto_of_lt_256 hf]
  simp only [List.append_assoc, List.cons_append, List.nil_append]

theorem ecE1_length (key seedb : Bytes) : (ecE1 key seedb).length = 16 := aes256EncryptBlock_length _ _

theorem ecE2_length (key seedb : Bytes) : (ecE2 key seedb).length = 16 := aes256EncryptBlock_length _ _

theorem ecPayload_fields (flag : Nat) (ah oe key seedb : Bytes) (hf : flag < 256)
    (hah : ah.length = 4) (hoe : oe.length = 8) :
    (ecPayload flag ah oe key seedb).length = 39 ∧
    (ecPayload flag ah oe key seedb)[2]? = some (UInt8.ofNat flag) ∧
    (ecPayload flag ah oe key seedb).take 2 = [0x01, 0x43] ∧
    ((ecPayload flag ah oe key seedb).drop 3).take 4 = ah ∧
    ((ecPayload flag ah oe key seedb).drop 7).take 8 = oe ∧
    ((ecPayload flag ah oe key seedb).drop 15).take 8 = (ecE1 key seedb).take 8 ∧
    (ecPayload flag ah oe key seedb).drop 23 = ecE2 key seedb := by
  have l1 : ((ecE1 key seedb).take 8).length = 8 := by rw [List.length_take, ecE1_length]; rfl
  rw [ecPayload_def flag ah oe key seedb hf]
  obtain ⟨f0, f1, f2, f3, f4⟩ := payload_fields 0x01 0x43 (UInt8.ofNat flag) ah
    (oe ++ ((ecE1 key seedb).take 8 ++ ecE2 key seedb)) hah
    (by rw [List.length_append, List.length_append, hoe, l1, ecE2_length])
  refine ⟨f0, f1, f2, f3, ?_, ?_, ?_⟩
  · rw [f4 0]; exact take_append_len _ _ hoe
  · rw [f4 8]; exact drop_take_mid _ _ _ hoe l1
  · rw [f4 16, ← List.append_assoc]
    exact drop_append_len _ _ (by rw [List.length_append, hoe, l1])

/-- the flag-byte test of the decrypter: something besides bits 2 and 5 is set -/
def ecFlagBad (f : Nat) : Prop :=
  ((f - if f / 4 % 2 = 1 then 4 else 0) - if f / 32 % 2 = 1 then 32 else 0) ≠ 0

instance (f : Nat) : Decidable (ecFlagBad f) := by unfold ecFlagBad; infer_instance

theorem ecFlagBad_iff (f : Nat) : ecFlagBad f ↔ ¬ (f = 0 ∨ f = 4 ∨ f = 32 ∨ f = 36) := by
  by_cases hf : f ≤ 36
  · exact (by decide +kernel : ∀ f ≤ 36, ecFlagBad f ↔ ¬ (f = 0 ∨ f = 4 ∨ f = 32 ∨ f = 36)) f hf
  · -- at most 4 + 32 is subtracted
    have ha : (if f / 4 % 2 = 1 then 4 else 0) ≤ 4 := by split <;> decide
    have hb : (if f / 32 % 2 = 1 then 32 else 0) ≤ 32 := by split <;> decide
    unfold ecFlagBad
    generalize (if f / 4 % 2 = 1 then 4 else 0) = a at ha ⊢
    generalize (if f / 32 % 2 = 1 then 32 else 0) = b at hb ⊢
    omega

theorem ecFlag_cases (c l : Bool) :
    ecFlag c l < 256 ∧ ¬ ecFlagBad (ecFlag c l) ∧
      decide (ecFlag c l / 4 % 2 = 1) = l ∧ decide (ecFlag c l / 32 % 2 = 1) = c ∧
      (UInt8.ofNat (ecFlag c l)).toNat = ecFlag c l := by
  cases c <;> cases l <;> decide

/-- `seedb` as recovered by the decrypter from the two AES blocks -/
def ecRecoverSeed (key e1lo e2 : Bytes) : Bytes :=
  xorBytes (aes256DecryptBlock (key.drop 32)
      (e1lo ++ (xorBytes (aes256DecryptBlock (key.drop 32) e2) ((key.take 32).drop 16)).take 8))
    ((key.take 32).take 16)
  ++ (xorBytes (aes256DecryptBlock (key.drop 32) e2) ((key.take 32).drop 16)).drop 8

theorem bip38EcDecrypt_ok {s : List Char} {pass k : Bytes} {c : Bool}
    (h : bip38EcDecrypt s pass = .ok (k, c)) :
    ∃ b flag pp pub, b58CheckDecode sha256d btcAlphabet s = .ok b ∧ b.length = 39 ∧
      b[2]? = some flag ∧ b.take 2 = [0x01, 0x43] ∧ ¬ ecFlagBad flag.toNat ∧
      c = decide (flag.toNat / 32 % 2 = 1) ∧
      secpMulG (Bytes.toNatBE (bip38PassFactor pass ((b.drop 7).take 8)
        (decide (flag.toNat / 4 % 2 = 1)))) = .ok pp ∧
      k = Bytes.ofNatBE 32
        (Bytes.toNatBE (bip38PassFactor pass ((b.drop 7).take 8) (decide (flag.toNat / 4 % 2 = 1)))
          * Bytes.toNatBE (sha256d (ecRecoverSeed (ecKey pp ((b.drop 3).take 4) ((b.drop 7).take 8))
              ((b.drop 15).take 8) (b.drop 23)))
          % Prim.secp256k1.n) ∧
      secpPubOfPriv k = .ok pub ∧ bip38AddrHash pub c = .ok ((b.drop 3).take 4) := by
  unfold bip38EcDecrypt at h
  obtain ⟨b, hb, h⟩ := bind_ok_inv h
  obtain ⟨hl, h⟩ := guard_ok_inv h
  obtain ⟨flag, hflag, h⟩ := bind_ok_inv h
  obtain ⟨hp, h⟩ := guard_ok_inv h
  obtain ⟨hf, h⟩ := guard_ok_inv h
  obtain ⟨pp, hpp, h⟩ := bind_ok_inv h
  obtain ⟨priv, hpriv, h⟩ := bind_ok_inv h
  obtain ⟨pub, hpub, h⟩ := bind_ok_inv h
  obtain ⟨ah', hah, h⟩ := bind_ok_inv h
  obtain ⟨ha, h⟩ := guard_ok_inv h
  have hk := Except.ok.inj h
  simp only [Prod.mk.injEq] at hk
  obtain ⟨rfl, rfl⟩ := hk
  rw [EccLemmas.toBytesBE_mod_n] at hpriv
  have hpriv' := (Except.ok.inj hpriv).symm
  refine ⟨b, flag, pp, pub, hb, by omega, pyIdx_ok hflag, by simpa using hp, hf, rfl, hpp, ?_, hpub, ?_⟩
  · rw [hpriv']; rfl
  · rw [hah]; simp only [ne_eq, Decidable.not_not] at ha; rw [ha]

/-- the decrypter fails with the error of the Base58Check layer or with `ValueError`: `b[2]` is
dominated by the length-39 check and `to_bytes(32)` of a value below `n` cannot overflow -/
theorem bip38EcDecrypt_error {s : List Char} {pass : Bytes} {e : Err}
    (h : bip38EcDecrypt s pass = .error e) :
    b58CheckDecode sha256d btcAlphabet s = .error e ∨ e = .value := by
  refine (C14MoreLemmas.Only.bind (P := fun e => b58CheckDecode sha256d btcAlphabet s = .error e ∨ e = .value)
    ⟨fun _ => .inl⟩ fun b _ => .of_ov ?_ (.inr rfl)).h e h
  simp only [ov]
  intro hl
  rw [pyIdx_of_lt b 2 (by omega)]
  simp only [ov, EccLemmas.toBytesBE_mod_n]

theorem bip38EcDecrypt_badflag {s : List Char} {pass b : Bytes} {flag : UInt8}
    (hb : b58CheckDecode sha256d btcAlphabet s = .ok b) (hflag : b[2]? = some flag)
    (hbad : ecFlagBad flag.toNat) : bip38EcDecrypt s pass = .error .value := by
  unfold ecFlagBad at hbad
  unfold bip38EcDecrypt
  rw [hb, ok_bind]
  dsimp only
  by_cases hl : b.length ≠ 39
  · rw [guard_pos hl]
  · rw [guard_neg hl, pyIdx_eq_ok hflag, ok_bind]
    by_cases hp : b.take 2 ≠ [0x01, 0x43]
    · rw [guard_pos hp]
    · rw [guard_neg hp, guard_pos hbad]

theorem ecRecoverSeed_blocks (AesInv : ∀ k b : Bytes, k.length = 32 → b.length = 16 →
      aes256DecryptBlock k (aes256EncryptBlock k b) = b)
    (key seedb : Bytes) (hk : key.length = 64) (hs : seedb.length = 24) :
    ecRecoverSeed key ((ecE1 key seedb).take 8) (ecE2 key seedb) = seedb := by
  have hdh2 : (key.drop 32).length = 32 := by rw [List.length_drop, hk]
  have hdh1 : (key.take 32).length = 32 := by rw [List.length_take, hk]; rfl
  have he1 := ecE1_length key seedb
  have hm2 : ((key.take 32).drop 16).length = 16 := by rw [List.length_drop, hdh1]
  have hm1 : ((key.take 32).take 16).length = 16 := by rw [List.length_take, hdh1]; rfl
  have hx2 : ((ecE1 key seedb).drop 8 ++ seedb.drop 16).length = 16 := by
    rw [List.length_append, List.length_drop, List.length_drop, he1, hs]
  have hd2 : xorBytes (aes256DecryptBlock (key.drop 32) (ecE2 key seedb)) ((key.take 32).drop 16)
      = (ecE1 key seedb).drop 8 ++ seedb.drop 16 := by
    unfold ecE2
    rw [AesInv _ _ hdh2 (by rw [xorBytes_length, hx2, hm2]; rfl),
      xorBytes_xorBytes _ _ (by rw [hx2, hm2])]
  unfold ecRecoverSeed
  rw [hd2]
  have hl8 : ((ecE1 key seedb).drop 8).length = 8 := by rw [List.length_drop, he1]
  rw [take_append_len _ _ hl8, drop_append_len _ _ hl8, List.take_append_drop]
  have hx1 : (xorBytes (seedb.take 16) ((key.take 32).take 16)).length = 16 := by
    rw [xorBytes_length, List.length_take, hs, hm1]; rfl
  unfold ecE1
  rw [AesInv _ _ hdh2 hx1,
    xorBytes_xorBytes _ _ (by rw [List.length_take, hs, hm1]; decide), List.take_append_drop]

/-- stated on the fields of the payload so that nothing heavy is evaluated:
`pp` is the pass point, `pt` the public key of the product scalar, `ah` its address hash -/
theorem ecDecrypt_payload (AesInv : ∀ k b : Bytes, k.length = 32 → b.length = 16 →
      aes256DecryptBlock k (aes256EncryptBlock k b) = b)
    (pass oe seedb ah pp pt : Bytes) (c l : Bool)
    (hah : ah.length = 4) (hoe : oe.length = 8) (hseed : seedb.length = 24)
    (hpp : secpMulG (Bytes.toNatBE (bip38PassFactor pass oe l)) = .ok pp)
    (hpub : secpPubOfPriv (Bytes.ofNatBE 32 (Bytes.toNatBE (bip38PassFactor pass oe l)
        * Bytes.toNatBE (sha256d seedb) % Prim.secp256k1.n)) = .ok pt)
    (hahash : bip38AddrHash pt c = .ok ah) :
    bip38EcDecrypt (b58CheckEncode sha256d btcAlphabet
        (ecPayload (ecFlag c l) ah oe (ecKey pp ah oe) seedb)) pass
      = .ok (Bytes.ofNatBE 32 (Bytes.toNatBE (bip38PassFactor pass oe l)
          * Bytes.toNatBE (sha256d seedb) % Prim.secp256k1.n), c) := by
  obtain ⟨fl, fnb, fl4, fc32, fnat⟩ := ecFlag_cases c l
  obtain ⟨f0, f1, f2, f3, f4, f5, f6⟩ :=
    ecPayload_fields (ecFlag c l) ah oe (ecKey pp ah oe) seedb fl hah hoe
  have hrec := ecRecoverSeed_blocks AesInv (ecKey pp ah oe) seedb (ecKey_length _ _ _) hseed
  unfold ecFlagBad at fnb
  unfold ecRecoverSeed at hrec
  unfold bip38EcDecrypt
  rw [b58c_decode_encode, ok_bind]
  generalize ecPayload (ecFlag c l) ah oe (ecKey pp ah oe) seedb = P at *
  dsimp only
  rw [guard_neg (by rw [f0]; decide), pyIdx_eq_ok f1, ok_bind, guard_neg (by rw [f2]; decide)]
  rw [fnat, guard_neg fnb, fl4, fc32, f3, f4, f5, f6, hpp, ok_bind]
  rw [show scrypt pp (ah ++ oe) 1024 1 1 64 = ecKey pp ah oe from rfl]
  rw [hrec, EccLemmas.toBytesBE_mod_n, ok_bind, hpub, ok_bind, hahash, ok_bind, guard_neg (by simp)]
  rfl

theorem magic_length (l : Bool) : (if l = true then magicLotSeq else magicNoLotSeq).length = 8 := by
  cases l <;> rfl

theorem magic_flag (l : Bool) :
    decide ((if l = true then magicLotSeq else magicNoLotSeq) = magicLotSeq) = l := by
  cases l <;> decide

end BipVerif.Model.Bip38Lemmas
