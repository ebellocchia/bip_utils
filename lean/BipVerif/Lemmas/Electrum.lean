/-
Electrum v1, Electrum v2 and the SPL-token address search.  The message Electrum v1 hashes for a
child key, `ascii(f"{addr}:{change}:") ‖ K`, determines `(addr, change, K)`: the decimal rendering
`str(int)` is inverted by `decVal` and contains no `':'`.  Then the Electrum v1 child key as a
decision tree, Electrum v2 derivation as two or three SLIP-0010 steps, and the order in which
`findPdaLoop` tries the bumps.  `sha256`, `sha256d` and the secp256k1 arithmetic are never unfolded.
-/
import BipVerif.Model.Electrum
import BipVerif.Lemmas.IntBytes
import BipVerif.Lemmas.Slip10
import BipVerif.Lemmas.Ecc

namespace BipVerif.Model.ElectrumLemmas
open BipVerif BipVerif.Prim BipVerif.Model

theorem byteArray_toList_loop (bs : ByteArray) (i : Nat) (r : List UInt8) :
    ByteArray.toList.loop bs i r = r.reverse ++ bs.data.toList.drop i := by
  have hsz : bs.data.toList.length = bs.size := by rw [Array.length_toList]; rfl
  induction h : bs.size - i generalizing i r with
  | zero =>
    unfold ByteArray.toList.loop
    have : ¬ i < bs.size := by omega
    rw [if_neg this]
    rw [List.drop_of_length_le (by omega)]; simp
  | succ n ih =>
    unfold ByteArray.toList.loop
    have hi : i < bs.size := by omega
    rw [if_pos hi, ih (i+1) _ (by omega)]
    have hl : i < bs.data.toList.length := by omega
    rw [List.drop_eq_getElem_cons hl]
    simp [ByteArray.get!, hi]

theorem byteArray_toList_eq (bs : ByteArray) : bs.toList = bs.data.toList := by
  unfold ByteArray.toList
  rw [byteArray_toList_loop]; simp

/-- `str.encode()` is injective (as a byte list) -/
theorem utf8_toList_inj {s t : String} (h : s.toUTF8.toList = t.toUTF8.toList) : s = t := by
  rw [byteArray_toList_eq, byteArray_toList_eq] at h
  exact String.toByteArray_inj.mp (ByteArray.ext (Array.toList_inj.mp h))

/-- value of a string of ASCII digits (`int(s)`) -/
def decVal (l : List Char) : Nat := l.foldl (fun acc c => acc * 10 + (c.toNat - 48)) 0

theorem decVal_append_singleton (l : List Char) (c : Char) :
    decVal (l ++ [c]) = decVal l * 10 + (c.toNat - 48) := by
  unfold decVal; rw [List.foldl_append]; rfl

/-- `int(str(n)) = n` -/
theorem decVal_toDigits (n : Nat) : decVal (Nat.toDigits 10 n) = n := by
  induction n using Nat.strong_induction_on with
  | _ n ih =>
    rw [Nat.toDigits_eq_if (by omega)]
    split
    · rename_i h
      show (0 * 10 + ((Nat.digitChar n).toNat - 48)) = n
      rw [Nat.toNat_digitChar_sub_48_of_lt_ten h]; omega
    · rename_i h
      rw [decVal_append_singleton, ih (n / 10) (by omega),
        Nat.toNat_digitChar_sub_48_of_lt_ten (Nat.mod_lt n (by omega))]
      omega

theorem toString_toList (n : Nat) : (toString n).toList = Nat.toDigits 10 n := by
  rw [Nat.toString_eq_repr, Nat.toList_repr]

theorem colon_not_mem_toDigits (n : Nat) : ':' ∉ Nat.toDigits 10 n := by
  intro h
  have := Nat.isDigit_of_mem_toDigits (by omega) (by omega) h
  revert this; decide

theorem append_cons_inj_of_not_mem {α} {x : α} :
    ∀ {l1 l2 r1 r2 : List α}, x ∉ l1 → x ∉ l2 → l1 ++ x :: r1 = l2 ++ x :: r2 → l1 = l2 ∧ r1 = r2
  | [], [], _, _, _, _, h => ⟨rfl, List.tail_eq_of_cons_eq h⟩
  | [], b :: l2, _, _, _, h2, h => by
    have := List.head_eq_of_cons_eq h
    exact absurd (this ▸ List.mem_cons_self) h2
  | a :: l1, [], _, _, h1, _, h => by
    have := List.head_eq_of_cons_eq h
    exact absurd (this ▸ List.mem_cons_self) h1
  | a :: l1, b :: l2, r1, r2, h1, h2, h => by
    have hh := List.head_eq_of_cons_eq h
    have ht := List.tail_eq_of_cons_eq h
    have := append_cons_inj_of_not_mem (fun m => h1 (List.mem_cons_of_mem _ m))
      (fun m => h2 (List.mem_cons_of_mem _ m)) ht
    exact ⟨by rw [hh, this.1], this.2⟩

/-- the text `f"{addr}:{change}:"` -/
def ev1PrefixStr (addr change : Nat) : String := toString addr ++ ":" ++ toString change ++ ":"

theorem ev1PrefixStr_toList (addr change : Nat) :
    (ev1PrefixStr addr change).toList
      = Nat.toDigits 10 addr ++ ':' :: (Nat.toDigits 10 change ++ [':']) := by
  unfold ev1PrefixStr
  simp only [String.toList_append, toString_toList]
  simp

theorem ev1PrefixStr_count (addr change : Nat) : (ev1PrefixStr addr change).toList.count ':' = 2 := by
  rw [ev1PrefixStr_toList]
  simp [List.count_append, List.count_eq_zero_of_not_mem (colon_not_mem_toDigits _)]

theorem ev1PrefixStr_inj {a c a' c' : Nat} (h : ev1PrefixStr a c = ev1PrefixStr a' c') :
    a = a' ∧ c = c' := by
  have h1 := congrArg String.toList h
  rw [ev1PrefixStr_toList, ev1PrefixStr_toList] at h1
  obtain ⟨h2, h3⟩ := append_cons_inj_of_not_mem (colon_not_mem_toDigits a)
    (colon_not_mem_toDigits a') h1
  obtain ⟨h4, _⟩ := append_cons_inj_of_not_mem (colon_not_mem_toDigits c)
    (colon_not_mem_toDigits c') h3
  constructor
  · rw [← decVal_toDigits a, ← decVal_toDigits a', h2]
  · rw [← decVal_toDigits c, ← decVal_toDigits c', h4]

/-- the byte string hashed by Electrum v1: `ascii(f"{addr}:{change}:") ‖ K` -/
def ev1Msg (addr change : Nat) (K : Bytes) : Bytes := (ev1PrefixStr addr change).toUTF8.toList ++ K

/-- for master keys of equal length (64 bytes in the library) the hashed message determines
`(addr, change, K)` -/
theorem ev1Msg_inj {a c a' c' : Nat} {K K' : Bytes} (hl : K.length = K'.length)
    (h : ev1Msg a c K = ev1Msg a' c' K') : a = a' ∧ c = c' ∧ K = K' := by
  unfold ev1Msg at h
  have hlen := congrArg List.length h
  rw [List.length_append, List.length_append] at hlen
  obtain ⟨h1, h2⟩ := List.append_inj h (by omega)
  obtain ⟨h3, h4⟩ := ev1PrefixStr_inj (utf8_toList_inj h1)
  exact ⟨h3, h4, h2⟩

theorem uncompressedOf_eq (c : CurveT) (k : Bytes) :
    uncompressedOf c k = match pubUncompressed c k with
      | some u => .ok u
      | none => .error .value := by
  unfold uncompressedOf; cases pubUncompressed c k <;> rfl

theorem ev1Sequence_eq (w : Ev1) (change addr : Nat) :
    ev1Sequence w change addr = match pubUncompressed .secp256k1 w.pub with
      | some u => .ok (Bytes.toNatBE (sha256d (ev1Msg addr change (u.drop 1))))
      | none => .error .value := by
  unfold ev1Sequence
  rw [uncompressedOf_eq]
  cases pubUncompressed .secp256k1 w.pub <;> rfl

theorem ev1Sequence_error {w : Ev1} {change addr : Nat} {e : Err}
    (h : ev1Sequence w change addr = .error e) : e = .value := by
  rw [ev1Sequence_eq] at h
  split at h
  · cases h
  · exact (Except.error.inj h).symm

theorem privValid_ofNatBE_mod (v : Nat) :
    privValid .secp256k1 (Bytes.ofNatBE 32 (v % Prim.secp256k1.n)) = !decide (v % Prim.secp256k1.n = 0) := by
  rw [EccLemmas.privValid_secp_ofNatBE (Nat.mod_lt v EccLemmas.secp_n_pos), decide_not]

/-- the index guard of the `do` blocks, as a proposition -/
theorem ite_or_decide {α} (p q : Prop) [Decidable p] [Decidable q] (x y : α) :
    (if (decide p || decide q) = true then x else y) = if p ∨ q then x else y := by
  by_cases hp : p <;> by_cases hq : q <;> simp [hp, hq]

/-- the child key: `to_bytes(32)` cannot overflow, and the validity check of the result only
refuses zero -/
theorem ev1PrivateKey_eq (w : Ev1) (change addr : Nat) :
    ev1PrivateKey w change addr =
      match w.priv with
      | none => .error .value
      | some m =>
        if change > 2 ^ 32 - 1 ∨ addr > 2 ^ 32 - 1 then .error .value
        else ev1Sequence w change addr >>= fun s =>
          if (Bytes.toNatBE m + s) % Prim.secp256k1.n = 0 then .error .value
          else .ok (Bytes.ofNatBE 32 ((Bytes.toNatBE m + s) % Prim.secp256k1.n)) := by
  unfold ev1PrivateKey
  cases w.priv with
  | none => rfl
  | some m =>
    simp only [EccLemmas.toBytesBE_mod_n, ok_bind, pure_bind, privValid_ofNatBE_mod, Bool.not_not,
      decide_eq_true_eq, ite_or_decide]
    rfl

/-- only `ValueError`: in particular `to_bytes(32)` cannot overflow -/
theorem ev1PrivateKey_error {w : Ev1} {change addr : Nat} {e : Err}
    (h : ev1PrivateKey w change addr = .error e) : e = .value := by
  rw [ev1PrivateKey_eq] at h
  split at h
  · exact (Except.error.inj h).symm
  · split at h
    · exact (Except.error.inj h).symm
    · rcases bind_error_inv h with h | ⟨s, _, h⟩
      · exact ev1Sequence_error h
      · split at h
        · exact (Except.error.inj h).symm
        · cases h

theorem ev2Derive_standard_eq (master : Node) (c i : Nat) (h : master.depth = 0) :
    ev2Derive false master c i =
      if c > 2 ^ 32 - 1 ∨ i > 2 ^ 32 - 1 then .error .path
      else slip10ChildKey master c >>= fun x => slip10ChildKey x i := by
  unfold ev2Derive
  simp only [ite_or_decide]
  rw [if_neg (by omega)]
  rfl

theorem ev2Derive_segwit_eq (master : Node) (c i : Nat) (h : master.depth = 0) :
    ev2Derive true master c i =
      slip10ChildKey master (harden 0) >>= fun a =>
        if c > 2 ^ 32 - 1 ∨ i > 2 ^ 32 - 1 then .error .path
        else slip10ChildKey a c >>= fun x => slip10ChildKey x i := by
  unfold ev2Derive
  simp only [ite_or_decide]
  rw [if_neg (by omega)]
  rfl

theorem createPda_eq (seeds : List Bytes) (p : Bytes) :
    createPda seeds p =
      if pubValid .ed25519 (Prim.sha256 (seeds.flatten ++ p ++ "ProgramDerivedAddress".toUTF8.toList)) = true
      then none
      else some (Prim.sha256 (seeds.flatten ++ p ++ "ProgramDerivedAddress".toUTF8.toList)) := rfl

theorem createPda_some {seeds : List Bytes} {p d : Bytes} (h : createPda seeds p = some d) :
    pubValid .ed25519 d = false ∧ d.length = 32 ∧
      d = Prim.sha256 (seeds.flatten ++ p ++ "ProgramDerivedAddress".toUTF8.toList) := by
  rw [createPda_eq] at h
  split at h
  · cases h
  · rename_i hv
    cases Option.some.inj h
    exact ⟨by simpa using hv, sha256_length _, rfl⟩

theorem findPdaLoop_succ (seeds : List Bytes) (p : Bytes) (fuel bump : Nat) :
    findPdaLoop seeds p (fuel + 1) bump =
      match createPda (seeds ++ [toBytesAuto bump]) p with
      | some d => .ok d
      | none => findPdaLoop seeds p fuel (bump - 1) := by
  -- not `rfl` or `rw [findPdaLoop]`: their unifier runs into SHA-256 on both sides
  conv_lhs => unfold findPdaLoop
  cases createPda (seeds ++ [toBytesAuto bump]) p <;> rfl

theorem findPdaLoop_error {seeds : List Bytes} {p : Bytes} {fuel bump : Nat} {e : Err}
    (h : findPdaLoop seeds p fuel bump = .error e) : e = .value := by
  induction fuel generalizing bump with
  | zero => exact (Except.error.inj h).symm
  | succ fuel ih =>
    rw [findPdaLoop_succ] at h
    cases hc : createPda (seeds ++ [toBytesAuto bump]) p with
    | some d => rw [hc] at h; cases h
    | none => rw [hc] at h; exact ih h

/-- With `fuel ≤ bump` the loop tries the bumps `bump, bump-1, …, bump-fuel+1` in this order: either
it returns the digest of the first off-curve one, or all are on the curve and it fails. -/
theorem findPdaLoop_spec {seeds : List Bytes} {p : Bytes} (fuel bump : Nat) (hle : fuel ≤ bump) :
    (∃ b d, bump - fuel < b ∧ b ≤ bump ∧ createPda (seeds ++ [toBytesAuto b]) p = some d ∧
        (∀ b', b < b' → b' ≤ bump → createPda (seeds ++ [toBytesAuto b']) p = none) ∧
        findPdaLoop seeds p fuel bump = .ok d) ∨
    ((∀ b, bump - fuel < b → b ≤ bump → createPda (seeds ++ [toBytesAuto b]) p = none) ∧
        findPdaLoop seeds p fuel bump = .error .value) := by
  induction fuel generalizing bump with
  | zero => exact Or.inr ⟨fun b h1 h2 => absurd h2 (by omega), rfl⟩
  | succ fuel ih =>
    rw [findPdaLoop_succ]
    cases hc : createPda (seeds ++ [toBytesAuto bump]) p with
    | some d =>
      exact Or.inl ⟨bump, d, by omega, le_rfl, hc, fun b' h1 h2 => absurd h2 (by omega), rfl⟩
    | none =>
      -- `bump` is on the curve, so what holds up to `bump - 1` holds up to `bump`
      have upTo (b' : Nat) (hb' : b' ≤ bump)
          (h : b' ≤ bump - 1 → createPda (seeds ++ [toBytesAuto b']) p = none) :
          createPda (seeds ++ [toBytesAuto b']) p = none := by
        by_cases hb : b' = bump
        · rw [hb]; exact hc
        · exact h (by omega)
      rcases ih (bump - 1) (by omega) with ⟨b, d, h1, h2, h3, h4, h5⟩ | ⟨h1, h2⟩
      · exact Or.inl ⟨b, d, by omega, by omega, h3, fun b' hb hb' => upTo b' hb' (h4 b' hb), h5⟩
      · exact Or.inr ⟨fun b hb hb' => upTo b hb' (h1 b (by omega)), h2⟩

theorem findPda_eq (seeds : List Bytes) (prog : List Char) :
    findPda seeds prog =
      if seeds.length > 16 then .error .value
      else if seeds.any (fun s => s.length > 32) = true then .error .value
      else solDecode prog >>= fun pb => findPdaLoop seeds pb 255 255 >>= fun d =>
        .ok (b58Encode btcAlphabet d) := rfl

end BipVerif.Model.ElectrumLemmas
