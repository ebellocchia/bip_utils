/-
Encoder side of the address layer.  Every encoder validates the key first, so
`addrKey_bind_none` gives "invalid key bytes are refused with `ValueError`" for each of them (the
per-format `encode_invalid_key` theorems are in `Props/C09`; Monero, with two keys and a payment id,
is done here), then the Monero and Substrate parameter errors, and — for non-vacuity of the round
trips — what the encoders output for an accepted key (`…_of_key`).
-/
import BipVerif.Lemmas.AddrBase58
import BipVerif.Lemmas.AddrBech32
import BipVerif.Lemmas.AddrEth
import BipVerif.Lemmas.AddrBase32
import BipVerif.Lemmas.AddrMisc

namespace BipVerif.Model
open BipVerif BipVerif.Prim

theorem addrKey_none {c : CurveT} {pub : Bytes} (h : pubFromBytes c pub = none) :
    addrKey c pub = .error .value := by
  unfold addrKey; rw [h]; rfl

theorem addrKey_bind_none {β} {c : CurveT} {pub : Bytes} (h : pubFromBytes c pub = none) (f : Bytes → R β) :
    (addrKey c pub >>= f) = .error .value :=
  bind_error_eq (addrKey_none h)

/-- `XmrAddrEncoder`: the payment-id length is checked first, then the spend key, then the view key. -/
theorem xmrAddrEncode_invalid_spend (netVer : Bytes) (payId : Option Bytes) (spend view : Bytes)
    (h : pubFromBytes .ed25519Monero spend = none) :
    xmrAddrEncode netVer payId spend view = .error .value := by
  unfold xmrAddrEncode
  rw [addrKey_none h]
  cases payId with
  | none => rfl
  | some p => dsimp only; split <;> rfl

theorem xmrAddrEncode_invalid_view (netVer : Bytes) (payId : Option Bytes) (spend view : Bytes)
    (h : pubFromBytes .ed25519Monero view = none) :
    xmrAddrEncode netVer payId spend view = .error .value := by
  cases hr : xmrAddrEncode netVer payId spend view with
  | error e => rw [(xmrAddrEncode_ov netVer payId spend view).h e hr]
  | ok a =>
    obtain ⟨_, v, _, hv, _⟩ := xmrAddrEncode_ok_inv hr
    rw [addrKey_none h] at hv; cases hv

theorem xmrAddrEncode_bad_payment_id (netVer pid spend view : Bytes) (h : pid.length ≠ 8) :
    xmrAddrEncode netVer (some pid) spend view = .error .value := by
  unfold xmrAddrEncode
  dsimp only
  rw [if_pos h]; rfl

/-- `SS58Encoder`: formats above 16383 and the reserved 46, 47 are refused. -/
theorem substrateEdEncode_bad_format (fmt : Nat) (pub : Bytes)
    (h : fmt > 16383 ∨ fmt = 46 ∨ fmt = 47) : substrateEdEncode fmt pub = .error .value := by
  cases hr : substrateEdEncode fmt pub with
  | error e => rw [(substrateEdEncode_ov fmt pub).h e hr]
  | ok a =>
    exfalso
    unfold substrateEdEncode at hr
    obtain ⟨k, _, hr⟩ := bind_ok_inv hr
    obtain ⟨_, h1, h2, h3⟩ := ss58Encode_ok_pre hr
    omega

/-! Every encoder succeeds on an accepted key, except where a further partial operation is involved:
decompression (`uncompressedOf`, which needs the hypothesis that it succeeds — curve arithmetic),
the Taproot tweak, and the SS58 format check. -/

section
variable {pub k u : Bytes}

theorem atomEncode_of_key (hrp : List Char) (hk : addrKey .secp256k1 pub = .ok k) :
    atomEncode hrp pub = .ok (bechEncodeRaw .bech32 hrp (regroup 8 5 (bytesToNats (hash160 k)))) := by
  unfold atomEncode; rw [bind_ok_eq hk]; exact bech32Encode_eq _ _

theorem egldEncode_of_key (hrp : List Char) (hk : addrKey .ed25519 pub = .ok k) :
    egldEncode hrp pub = .ok (bechEncodeRaw .bech32 hrp (regroup 8 5 (bytesToNats (k.drop 1)))) := by
  unfold egldEncode; rw [bind_ok_eq hk]; exact bech32Encode_eq _ _

theorem ethRaw_of_uncompressed (hu : uncompressedOf .secp256k1 k = .ok u) :
    ethRaw k = .ok (hexOfBytes (ethAddrBytes u)) := by
  unfold ethRaw; rw [hu]
  exact congrArg Except.ok (hexOfBytes_drop _ 12)

theorem nearEncode_of_key (hk : addrKey .ed25519 pub = .ok k) :
    nearEncode pub = .ok (hexOfBytes (k.drop 1)) := by
  unfold nearEncode; rw [bind_ok_eq hk]; rfl

theorem solEncode_of_key (hk : addrKey .ed25519 pub = .ok k) :
    solEncode pub = .ok (b58Encode btcAlphabet (k.drop 1)) := by
  unfold solEncode; rw [bind_ok_eq hk]; rfl

theorem algoEncodeAddr_of_key (hk : addrKey .ed25519 pub = .ok k) :
    algoEncodeAddr pub
      = .ok (base32EncodeNoPad (k.drop 1 ++ takeLast (sha512_256 (k.drop 1)) 4) none) := by
  unfold algoEncodeAddr; rw [bind_ok_eq hk]; rfl

theorem xlmEncode_of_key (addrType : Nat) (hk : addrKey .ed25519 pub = .ok k) :
    xlmEncode addrType pub = .ok (base32EncodeNoPad ((toBytesAuto addrType ++ k.drop 1) ++
      xlmCrc (toBytesAuto addrType ++ k.drop 1)) none) := by
  unfold xlmEncode; rw [bind_ok_eq hk]; rfl

theorem nanoEncode_of_key (pfx : List Char) (hk : addrKey .ed25519Blake2b pub = .ok k) :
    nanoEncode pfx pub = .ok (pfx ++ (base32EncodeNoPad
      ([0, 0, 0] ++ k.drop 1 ++ (blake2b40 (k.drop 1)).reverse) (some nanoAlphabet)).drop 4) := by
  unfold nanoEncode; rw [bind_ok_eq hk]; rfl

theorem xmrAddrEncode_of_keys (netVer : Bytes) {spend view s v : Bytes}
    (hs : addrKey .ed25519Monero spend = .ok s) (hv : addrKey .ed25519Monero view = .ok v) :
    xmrAddrEncode netVer none spend view
      = .ok (xmrEncode ((netVer ++ s ++ v ++ []) ++ (keccak256 (netVer ++ s ++ v ++ [])).take 4)) := by
  unfold xmrAddrEncode; rw [bind_ok_eq hs, bind_ok_eq hv]; rfl

theorem xmrAddrEncode_of_keys_int (netVer pid : Bytes) (hp : pid.length = 8)
    {spend view s v : Bytes}
    (hs : addrKey .ed25519Monero spend = .ok s) (hv : addrKey .ed25519Monero view = .ok v) :
    xmrAddrEncode netVer (some pid) spend view
      = .ok (xmrEncode ((netVer ++ s ++ v ++ pid) ++ (keccak256 (netVer ++ s ++ v ++ pid)).take 4)) := by
  unfold xmrAddrEncode; rw [bind_ok_eq hs, bind_ok_eq hv]
  dsimp only
  rw [if_neg (by simpa using hp)]; rfl

end

end BipVerif.Model
