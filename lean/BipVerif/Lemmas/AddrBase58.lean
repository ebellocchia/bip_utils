/-
Address formats of the Base58 family: P2PKH (Bitcoin alphabet and the Ripple alphabet), P2SH,
Tezos, Neo, EOS, Ergo, Solana.  For each: that the decoder
accepts the canonical text of a payload (`…Decode_canon`), the round trip, and the error kinds.
-/
import BipVerif.Lemmas.Addr
import BipVerif.Lemmas.Bech32

namespace BipVerif.Model
open BipVerif BipVerif.Prim

theorem hash160_length (b : Bytes) : (hash160 b).length = 20 := ripemd160_length _

theorem p2pkhDecode_canon (nv : Bytes) (alph : List Char) (hn : alph.Nodup) (hl : alph.length = 58)
    (h : Bytes) (hh : h.length = 20) :
    p2pkhDecode nv alph (b58CheckEncode sha256d alph (nv ++ h)) = .ok h := by
  unfold p2pkhDecode
  rw [b58Check_decode_encode sha256d sha256d_ge4 alph hn hl, ckToValue_ok]
  simp only [bind, Except.bind]
  rw [validateLength_ok _ _ (by simp [hh]; omega)]
  exact removePrefix_append nv h

theorem p2pkh_decode_encode (nv : Bytes) (alph : List Char) (hn : alph.Nodup)
    (hl : alph.length = 58) (compressed : Bool) (pub : Bytes) (addr : List Char)
    (h : p2pkhEncode nv alph compressed pub = .ok addr) :
    ∃ k kb, addrKey .secp256k1 pub = .ok k ∧
      (if compressed then kb = k else uncompressedOf .secp256k1 k = .ok kb) ∧
      p2pkhDecode nv alph addr = .ok (hash160 kb) := by
  unfold p2pkhEncode at h
  obtain ⟨k, hk, h⟩ := bind_ok_inv h
  cases compressed
  · obtain ⟨kb, hkb, rfl⟩ := bind_pure_ok_inv h
    exact ⟨k, kb, hk, hkb, p2pkhDecode_canon nv alph hn hl _ (hash160_length _)⟩
  · obtain rfl := pure_ok_inv h
    exact ⟨k, k, hk, rfl, p2pkhDecode_canon nv alph hn hl _ (hash160_length _)⟩

@[ov] theorem p2pkhEncode_ov (nv : Bytes) (alph : List Char) (compressed : Bool) (pub : Bytes) :
    OnlyValue (p2pkhEncode nv alph compressed pub) := by
  unfold p2pkhEncode; simp only [ov]

@[ov] theorem p2pkhDecode_ov (nv : Bytes) (alph addr : List Char) : OnlyValue (p2pkhDecode nv alph addr) := by
  unfold p2pkhDecode; simp only [ov]

theorem p2shScriptHash_length (k : Bytes) : (p2shScriptHash k).length = 20 := hash160_length _

theorem p2sh_decode_encode (nv pub : Bytes) (addr : List Char) (h : p2shEncode nv pub = .ok addr) :
    ∃ k, addrKey .secp256k1 pub = .ok k ∧
      p2pkhDecode nv btcAlphabet addr = .ok (p2shScriptHash k) := by
  unfold p2shEncode at h
  obtain ⟨k, hk, rfl⟩ := bind_pure_ok_inv h
  exact ⟨k, hk, p2pkhDecode_canon nv _ btcAlphabet_nodup btcAlphabet_length _ (p2shScriptHash_length k)⟩

@[ov] theorem p2shEncode_ov (nv pub : Bytes) : OnlyValue (p2shEncode nv pub) := by
  unfold p2shEncode; simp only [ov]

theorem xtzDecode_eq (pfx : Bytes) (addr : List Char) :
    xtzDecode pfx addr = p2pkhDecode pfx btcAlphabet addr := by
  unfold xtzDecode p2pkhDecode; rw [Nat.add_comm]

theorem xtzDecode_canon (pfx h : Bytes) (hh : h.length = 20) :
    xtzDecode pfx (b58CheckEncode sha256d btcAlphabet (pfx ++ h)) = .ok h :=
  xtzDecode_eq pfx _ ▸ p2pkhDecode_canon pfx _ btcAlphabet_nodup btcAlphabet_length h hh

theorem xtz_decode_encode (pfx pub : Bytes) (addr : List Char) (h : xtzEncode pfx pub = .ok addr) :
    ∃ k, addrKey .ed25519 pub = .ok k ∧ xtzDecode pfx addr = .ok (blake2b160 (k.drop 1)) := by
  unfold xtzEncode at h
  obtain ⟨k, hk, rfl⟩ := bind_pure_ok_inv h
  exact ⟨k, hk, xtzDecode_canon pfx _ (blake2b160_length _)⟩

@[ov] theorem xtzEncode_ov (pfx pub : Bytes) : OnlyValue (xtzEncode pfx pub) := by unfold xtzEncode; simp only [ov]
@[ov] theorem xtzDecode_ov (pfx : Bytes) (addr : List Char) : OnlyValue (xtzDecode pfx addr) :=
  xtzDecode_eq pfx addr ▸ p2pkhDecode_ov pfx btcAlphabet addr

theorem neoDecode_canon (v : UInt8) (h : Bytes) (hh : h.length = 20) :
    neoDecode [v] (b58CheckEncode sha256d btcAlphabet ([v] ++ h)) = .ok h := by
  unfold neoDecode
  rw [b58Check_decode_encode sha256d sha256d_ge4 _ btcAlphabet_nodup btcAlphabet_length,
    ckToValue_ok]
  simp only [bind, Except.bind]
  rw [validateLength_ok _ _ (by simp [hh])]
  simp only [pyIdx, List.singleton_append, List.getElem?_cons_zero, pure, Except.pure,
    toBytesAuto_byte, ne_eq, not_true_eq_false, if_false, List.drop_succ_cons, List.drop_zero]

theorem neo_decode_encode (v : UInt8) (pfx sfx pub : Bytes) (addr : List Char)
    (h : neoEncode [v] pfx sfx pub = .ok addr) :
    ∃ k, addrKey .nist256p1 pub = .ok k ∧ neoDecode [v] addr = .ok (hash160 (pfx ++ k ++ sfx)) := by
  unfold neoEncode at h
  obtain ⟨k, hk, rfl⟩ := bind_pure_ok_inv h
  exact ⟨k, hk, neoDecode_canon v _ (hash160_length _)⟩

@[ov] theorem neoEncode_ov (ver pfx sfx pub : Bytes) : OnlyValue (neoEncode ver pfx sfx pub) := by
  unfold neoEncode; simp only [ov]

/-- `dec[0]` is guarded by the length check (`20 + len(ver) ≥ 1`): no `IndexError`. -/
@[ov] theorem neoDecode_ov (ver : Bytes) (addr : List Char) : OnlyValue (neoDecode ver addr) := by
  unfold neoDecode
  apply OnlyValue.bind (OnlyValue.b58Check _ _ _)
  intro dec _
  apply OnlyValue.bind (OnlyValue.validateLength _ _)
  intro _ hlen
  rw [validateLength_ok_iff] at hlen
  cases dec with
  | nil => simp only [List.length_nil] at hlen; omega
  | cons a t =>
    simp only [pyIdx, List.getElem?_cons_zero]
    simp only [ov]

theorem eosDecode_canon (pfx : List Char) (k : Bytes) (hk : k.length = 33)
    (hv : pubValid .secp256k1 k = true) :
    eosDecode pfx (pfx ++ b58Encode btcAlphabet (k ++ (ripemd160 k).take 4)) = .ok k := by
  unfold eosDecode
  have hck : ((ripemd160 k).take 4).length = 4 := by rw [List.length_take, ripemd160_length]; rfl
  rw [removePrefix_append]
  simp only [bind, Except.bind]
  rw [b58_decode_encode _ btcAlphabet_nodup btcAlphabet_length]
  simp only
  rw [validateLength_ok _ _ (by simp [hk, hck])]
  simp only [splitCkEnd_append _ _ 4 hck, ne_eq, not_true_eq_false, if_false,
    validatePubKey_ok _ _ hv, pure, Except.pure]

/-- EOS round trip; the decoder re-validates the key, hence `KeyCanon`. -/
theorem eos_decode_encode (hK : KeyCanon .secp256k1) (pfx : List Char) (pub : Bytes)
    (addr : List Char) (h : eosEncode pfx pub = .ok addr) :
    ∃ k, addrKey .secp256k1 pub = .ok k ∧ eosDecode pfx addr = .ok k := by
  unfold eosEncode at h
  obtain ⟨k, hk, rfl⟩ := bind_pure_ok_inv h
  refine ⟨k, hk, eosDecode_canon pfx k (addrKey_secp_length hk) ?_⟩
  exact pubValid_of_some (hK pub k ((addrKey_ok_iff _ _ _).mp hk))

@[ov] theorem eosEncode_ov (pfx : List Char) (pub : Bytes) : OnlyValue (eosEncode pfx pub) := by
  unfold eosEncode; simp only [ov]
@[ov] theorem eosDecode_ov (pfx addr : List Char) : OnlyValue (eosDecode pfx addr) := by
  unfold eosDecode; simp only [ov]

theorem ergoDecode_canon (netType : Nat) (hnt : 1 + netType < 256) (k : Bytes) (hk : k.length = 33)
    (hv : pubValid .secp256k1 k = true) :
    ergoDecode netType (b58Encode btcAlphabet
      ((toBytesAuto (1 + netType) ++ k) ++ (blake2b256 (toBytesAuto (1 + netType) ++ k)).take 4))
      = .ok k := by
  unfold ergoDecode
  set p := toBytesAuto (1 + netType) ++ k with hp
  have hpl : (toBytesAuto (1 + netType)).length = 1 := by
    rw [toBytesAuto_of_lt_256 hnt]; rfl
  have hck : ((blake2b256 p).take 4).length = 4 := by
    rw [List.length_take, blake2b256_length]; rfl
  simp only [bind, Except.bind]
  rw [b58_decode_encode _ btcAlphabet_nodup btcAlphabet_length]
  simp only
  rw [validateLength_ok _ _ (by rw [List.length_append, hck, hp, List.length_append, hpl, hk])]
  simp only [splitCkEnd_append _ _ 4 hck, ne_eq, not_true_eq_false, if_false]
  rw [hp, removePrefix_append]
  simp only [validatePubKey_ok _ _ hv, pure, Except.pure]

/-- Ergo round trip (network types 0 / 16, any `1 + netType < 256`); the decoder re-validates the
key, hence `KeyCanon`. -/
theorem ergo_decode_encode (hK : KeyCanon .secp256k1) (netType : Nat) (hnt : 1 + netType < 256)
    (pub : Bytes) (addr : List Char) (h : ergoEncode netType pub = .ok addr) :
    ∃ k, addrKey .secp256k1 pub = .ok k ∧ ergoDecode netType addr = .ok k := by
  unfold ergoEncode at h
  obtain ⟨k, hk, rfl⟩ := bind_pure_ok_inv h
  refine ⟨k, hk, ergoDecode_canon netType hnt k (addrKey_secp_length hk) ?_⟩
  exact pubValid_of_some (hK pub k ((addrKey_ok_iff _ _ _).mp hk))

@[ov] theorem ergoEncode_ov (netType : Nat) (pub : Bytes) : OnlyValue (ergoEncode netType pub) := by
  unfold ergoEncode; simp only [ov]
@[ov] theorem ergoDecode_ov (netType : Nat) (addr : List Char) : OnlyValue (ergoDecode netType addr) := by
  unfold ergoDecode; simp only [ov]

theorem solDecode_canon (k32 : Bytes) (hk : k32.length = 32) (hv : pubValid .ed25519 k32 = true) :
    solDecode (b58Encode btcAlphabet k32) = .ok k32 := by
  unfold solDecode
  simp only [bind, Except.bind]
  rw [b58_decode_encode _ btcAlphabet_nodup btcAlphabet_length]
  simp only
  rw [validateLength_ok _ _ hk]
  simp only [validatePubKey_ok _ _ hv, pure, Except.pure]

theorem sol_decode_encode (pub : Bytes) (addr : List Char) (h : solEncode pub = .ok addr) :
    ∃ k, addrKey .ed25519 pub = .ok k ∧ solDecode addr = .ok (k.drop 1) := by
  unfold solEncode at h
  obtain ⟨k, hk, rfl⟩ := bind_pure_ok_inv h
  obtain ⟨_, h32, _, _, hv⟩ := addrKey_ed_inv (c := .ed25519) rfl hk
  exact ⟨k, hk, solDecode_canon _ h32 hv⟩

@[ov] theorem solEncode_ov (pub : Bytes) : OnlyValue (solEncode pub) := by unfold solEncode; simp only [ov]
@[ov] theorem solDecode_ov (addr : List Char) : OnlyValue (solDecode addr) := by unfold solDecode; simp only [ov]

end BipVerif.Model
