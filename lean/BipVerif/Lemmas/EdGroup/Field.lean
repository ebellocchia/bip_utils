/-
The field `F = ZMod (2^255 - 19)` of ed25519 and the two facts that make the addition law of
`-x² + y² = 1 + d·x²·y²` complete: `-1` is a square and `d` is not.  Both come from kernel
evaluations of `powMod` (Fermat / Euler).  Result: the curve `edC : EdCurve F` and its group of
points `EdPt`.
-/
import BipVerif.Lemmas.Pratt
import BipVerif.Lemmas.WGroup.Basic
import BipVerif.Lemmas.EdGroup.Curve

namespace BipVerif.EdGroup
open BipVerif BipVerif.Prim BipVerif.WGroup

instance edP_prime : Fact (Nat.Prime edP) := ⟨Pratt.p25519_prime⟩

/-- the prime field of ed25519 -/
abbrev F : Type := ZMod edP

theorem edP_two_lt : 2 < edP := by decide +kernel

theorem edP_pos : 0 < edP := by have := edP_two_lt; omega

instance : Fact (1 < edP) := ⟨by have := edP_two_lt; omega⟩

theorem two_ne_zero_F : (2 : F) ≠ 0 := by
  have : ((2 : ℕ) : F) ≠ 0 := by
    rw [Ne, natCast_eq_zero_of_lt edP_two_lt]; decide
  simpa using this

theorem neg_one_ne_one_F : (-1 : F) ≠ 1 := by
  intro h
  apply two_ne_zero_F
  linear_combination -h

def dF : F := (edD : F)

/-- `√-1 = 2^((p-1)/4)` as a number -/
def sqrtM1 : ℕ := powMod 2 ((edP - 1) / 4) edP

def iF : F := (sqrtM1 : F)

theorem sqrtM1_sq : sqrtM1 * sqrtM1 % edP = edP - 1 := by decide +kernel

theorem sqrtM1_lt : sqrtM1 < edP := powMod_lt _ _ edP_pos

theorem cast_edP_sub_one : ((edP - 1 : ℕ) : F) = -1 := by
  rw [Nat.cast_sub (by have := edP_two_lt; omega), ZMod.natCast_self]; simp

theorem iF_sq : iF * iF = -1 := by
  have h := congrArg (fun n : ℕ => (n : F)) sqrtM1_sq
  simp only [cast_mod, Nat.cast_mul] at h
  rw [cast_edP_sub_one] at h
  exact h

theorem edD_euler : powMod edD ((edP - 1) / 2) edP = edP - 1 := by decide +kernel

/-- Euler: `d^((p-1)/2) = -1`. -/
theorem dF_pow : dF ^ ((edP - 1) / 2) = -1 := by
  have h := congrArg (fun n : ℕ => (n : F)) edD_euler
  simp only [cast_powMod] at h
  rw [cast_edP_sub_one] at h
  exact h

theorem dF_nonsq (z : F) : z * z ≠ dF := by
  intro h
  have hd := dF_pow
  have hz : z ≠ 0 := by
    rintro rfl
    rw [← h, mul_zero, zero_pow (by decide +kernel)] at hd
    exact two_ne_zero_F (by linear_combination 2 * hd)
  have h1 : z ^ (edP - 1) = 1 := ZMod.pow_card_sub_one_eq_one hz
  have h2 : dF ^ ((edP - 1) / 2) = z ^ (edP - 1) := by
    rw [← h, ← pow_two, ← pow_mul, show 2 * ((edP - 1) / 2) = edP - 1 by decide +kernel]
  rw [h2, h1] at hd
  exact neg_one_ne_one_F hd.symm

def edC : EdCurve F where
  d := dF
  i := iF
  i_sq := iF_sq
  d_nonsq := dF_nonsq
  two_ne := two_ne_zero_F

/-- **The group of points of ed25519** (all `F`-rational points, order `8·L`). -/
abbrev EdPt : Type := edC.Pt

@[simp] theorem edC_d : edC.d = dF := rfl

example : AddCommGroup EdPt := inferInstance

end BipVerif.EdGroup
