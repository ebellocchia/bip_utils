/-
Twisted Edwards curves `-x² + y² = 1 + d·x²·y²` (`a = -1`) over a field in which `-1` is a square
and `d` is not: the complete addition law makes the set of points a commutative group.
Mathlib has no Edwards curves, so the group is built here from scratch:

* completeness (Bernstein–Lange): the denominators `1 ± d·x₁x₂y₁y₂` never vanish;
* closure, identity `(0, 1)`, negation `(-x, y)`, commutativity;
* associativity of the `x` coordinate: after clearing denominators it is a polynomial identity modulo the
  three curve equations; the cofactors were computed with a Gröbner-style reduction (sympy) and are checked
  by `ring`. Translation by the point `(i, 0)` exchanges the coordinates and gives the `y` coordinate.
-/
import Mathlib.Algebra.Field.Basic
import Mathlib.Algebra.Group.Basic
import Mathlib.Tactic.FieldSimp
import Mathlib.Tactic.LinearCombination
import Mathlib.Tactic.Ring

namespace BipVerif.EdGroup

/-- Parameters of a complete twisted Edwards curve with `a = -1`. -/
structure EdCurve (K : Type*) [Field K] where
  d : K
  /-- a square root of `-1` -/
  i : K
  i_sq : i * i = -1
  d_nonsq : ∀ z : K, z * z ≠ d
  two_ne : (2 : K) ≠ 0

/-! Polynomial identities, over a commutative ring: `ring` is cheaper there than in a field. -/

section Poly
variable {R : Type*} [CommRing R] {d x1 y1 x2 y2 x3 y3 : R}

/-- closure of the addition law, denominators cleared -/
theorem closure_poly (e1 : -x1 ^ 2 + y1 ^ 2 = 1 + d * x1 ^ 2 * y1 ^ 2)
    (e2 : -x2 ^ 2 + y2 ^ 2 = 1 + d * x2 ^ 2 * y2 ^ 2) :
    -(x1 * y2 + x2 * y1) ^ 2 * (1 - d * x1 * x2 * y1 * y2) ^ 2 +
        (y1 * y2 + x1 * x2) ^ 2 * (1 + d * x1 * x2 * y1 * y2) ^ 2 =
      (1 + d * x1 * x2 * y1 * y2) ^ 2 * (1 - d * x1 * x2 * y1 * y2) ^ 2 +
        d * (x1 * y2 + x2 * y1) ^ 2 * (y1 * y2 + x1 * x2) ^ 2 := by
  linear_combination
    (d^3*x1^2*x2^4*y1^2*y2^4 - d^2*x1^2*x2^4*y2^4 + d^2*x2^4*y1^2*y2^4 - d^2*x2^4*y2^4 - d*x1^2*x2^4*y2^2 + d*x1^2*x2^2*y2^4 + d*x2^4*y1^2*y2^2 - 2*d*x2^4*y2^4 - d*x2^2*y1^2*y2^4 - 2*d*x2^2*y2^2 - 2*x2^4*y2^2 + x2^4 + 2*x2^2*y2^4 - 4*x2^2*y2^2 + y2^4) * e1 +
    (d*x1^4*x2^2*y2^2 + 2*d*x1^2*x2^2*y2^2 + d*x2^2*y1^4*y2^2 - 2*d*x2^2*y1^2*y2^2 + d*x2^2*y2^2 + 2*x1^2*x2^2*y2^2 - x1^2*x2^2 + x1^2*y2^2 - 2*x2^2*y1^2*y2^2 + x2^2*y1^2 + 2*x2^2*y2^2 - x2^2 - y1^2*y2^2 + y2^2 + 1) * e2

/-- associativity, `x` coordinate, denominators cleared:
`X((P₁+P₂)+P₃) · Z((P₂+P₃)+P₁) = X((P₂+P₃)+P₁) · Z((P₁+P₂)+P₃)` -/
theorem assoc_x_poly (e1 : -x1 ^ 2 + y1 ^ 2 = 1 + d * x1 ^ 2 * y1 ^ 2)
    (e2 : -x2 ^ 2 + y2 ^ 2 = 1 + d * x2 ^ 2 * y2 ^ 2)
    (e3 : -x3 ^ 2 + y3 ^ 2 = 1 + d * x3 ^ 2 * y3 ^ 2) :
    ((x1 * y2 + x2 * y1) * y3 * (1 - d * x1 * x2 * y1 * y2) +
        x3 * (y1 * y2 + x1 * x2) * (1 + d * x1 * x2 * y1 * y2)) *
      ((1 + d * x2 * x3 * y2 * y3) * (1 - d * x2 * x3 * y2 * y3) +
        d * (x2 * y3 + x3 * y2) * (y2 * y3 + x2 * x3) * x1 * y1) =
    ((x2 * y3 + x3 * y2) * y1 * (1 - d * x2 * x3 * y2 * y3) +
        x1 * (y2 * y3 + x2 * x3) * (1 + d * x2 * x3 * y2 * y3)) *
      ((1 + d * x1 * x2 * y1 * y2) * (1 - d * x1 * x2 * y1 * y2) +
        d * (x1 * y2 + x2 * y1) * (y1 * y2 + x1 * x2) * x3 * y3) := by
  linear_combination
    (-d^2*x1*x2^4*x3^2*y2^3*y3 - d^2*x1*x2^3*x3*y2^4*y3^2 + d^2*x2^4*x3*y1*y2^3*y3^2 + d^2*x2^3*x3^2*y1*y2^4*y3 - d*x1*x2^4*x3^2*y2*y3 - d*x1*x2^3*x3^3*y2^2 - d*x1*x2^3*x3*y2^2 + d*x1*x2^2*y2^3*y3^3 - d*x1*x2^2*y2^3*y3 + d*x1*x2*x3*y2^4*y3^2 + d*x2^4*x3*y1*y2*y3^2 + d*x2^3*y1*y2^2*y3^3 - d*x2^3*y1*y2^2*y3 - d*x2^2*x3^3*y1*y2^3 - d*x2^2*x3*y1*y2^3 - d*x2*x3^2*y1*y2^4*y3) * e1 +
    (d^2*x1^2*x2^2*x3^3*y1*y2*y3^2 - d^2*x1^2*x2*x3^2*y1*y2^2*y3^3 - d^2*x1*x2^2*x3^2*y1^2*y2*y3^3 + d^2*x1*x2*x3^3*y1^2*y2^2*y3^2 + d*x1^3*x2^2*x3^2*y2*y3 + d*x1^3*x2*x3^3*y3^2 + d*x1^3*x2*x3*y2^2*y3^2 + d*x1^3*x3^2*y2*y3^3 - d*x1^2*x2^2*x3*y1*y2*y3^2 - d*x1^2*x2*x3^2*y1*y2^2*y3 + d*x1^2*x2*x3^2*y1*y3^3 + d*x1^2*x3^3*y1*y2*y3^2 - d*x1*x2^2*x3^2*y1^2*y2*y3 + d*x1*x2^2*x3^2*y2*y3 - d*x1*x2*x3^3*y1^2*y3^2 + d*x1*x2*x3^3*y3^2 - d*x1*x2*x3*y1^2*y2^2*y3^2 + d*x1*x2*x3*y2^2*y3^2 - d*x1*x3^2*y1^2*y2*y3^3 + d*x1*x3^2*y2*y3^3 + d*x2^2*x3*y1^3*y2*y3^2 - d*x2^2*x3*y1*y2*y3^2 + d*x2*x3^2*y1^3*y2^2*y3 - d*x2*x3^2*y1^3*y3^3 - d*x2*x3^2*y1*y2^2*y3 + d*x2*x3^2*y1*y3^3 - d*x3^3*y1^3*y2*y3^2 + d*x3^3*y1*y2*y3^2 + x1^3*x2*x3^3 - x1^3*x2*x3*y3^2 + x1^3*x2*x3 + x1^3*x3^2*y2*y3 - x1^3*y2*y3^3 + x1^3*y2*y3 + x1^2*x2*x3^2*y1*y3 - x1^2*x2*y1*y3^3 + x1^2*x2*y1*y3 + x1^2*x3^3*y1*y2 - x1^2*x3*y1*y2*y3^2 + x1^2*x3*y1*y2 - x1*x2*x3^3*y1^2 + x1*x2*x3^3 + x1*x2*x3*y1^2*y3^2 - x1*x2*x3*y1^2 - x1*x2*x3*y3^2 + x1*x2*x3 - x1*x3^2*y1^2*y2*y3 + x1*x3^2*y2*y3 + x1*y1^2*y2*y3^3 - x1*y1^2*y2*y3 - x1*y2*y3^3 + x1*y2*y3 - x2*x3^2*y1^3*y3 + x2*x3^2*y1*y3 + x2*y1^3*y3^3 - x2*y1^3*y3 - x2*y1*y3^3 + x2*y1*y3 - x3^3*y1^3*y2 + x3^3*y1*y2 + x3*y1^3*y2*y3^2 - x3*y1^3*y2 - x3*y1*y2*y3^2 + x3*y1*y2) * e2 +
    (-d*x1^2*x2^2*x3*y1*y2 + d*x1^2*x2*y1*y2^2*y3 + d*x1*x2^2*y1^2*y2*y3 - d*x1*x2*x3*y1^2*y2^2 - x1^3*x2^3*x3 - x1^3*x2^2*y2*y3 + x1^3*x2*x3*y2^2 - x1^3*x2*x3 + x1^3*y2^3*y3 - x1^3*y2*y3 - x1^2*x2^3*y1*y3 - x1^2*x2^2*x3*y1*y2 + x1^2*x2*y1*y2^2*y3 - x1^2*x2*y1*y3 + x1^2*x3*y1*y2^3 - x1^2*x3*y1*y2 + x1*x2^3*x3*y1^2 - x1*x2^3*x3 + x1*x2^2*y1^2*y2*y3 - x1*x2^2*y2*y3 - x1*x2*x3*y1^2*y2^2 + x1*x2*x3*y1^2 + x1*x2*x3*y2^2 - x1*x2*x3 - x1*y1^2*y2^3*y3 + x1*y1^2*y2*y3 + x1*y2^3*y3 - x1*y2*y3 + x2^3*y1^3*y3 - x2^3*y1*y3 + x2^2*x3*y1^3*y2 - x2^2*x3*y1*y2 - x2*y1^3*y2^2*y3 + x2*y1^3*y3 + x2*y1*y2^2*y3 - x2*y1*y3 - x3*y1^3*y2^3 + x3*y1^3*y2 + x3*y1*y2^3 - x3*y1*y2) * e3

end Poly

variable {K : Type*} [Field K]

def EdCurve.On (C : EdCurve K) (x y : K) : Prop := -x ^ 2 + y ^ 2 = 1 + C.d * x ^ 2 * y ^ 2

namespace EdCurve
variable (C : EdCurve K) {x1 y1 x2 y2 x3 y3 : K}

/-- Completeness (Bernstein–Lange): `d·x₁x₂y₁y₂ ≠ ±1` for two points of the curve. -/
theorem t_sq_ne_one (e1 : C.On x1 y1) (e2 : C.On x2 y2) : (C.d * x1 * x2 * y1 * y2) ^ 2 ≠ 1 := by
  intro ht
  unfold On at e1 e2
  have hx1 : x1 ≠ 0 := by rintro rfl; simp at ht
  have hy1 : y1 ≠ 0 := by rintro rfl; simp at ht
  have hy2 : y2 ≠ 0 := by rintro rfl; simp at ht
  -- for either sign `s`, `(i·x₁ + s·t·y₁)² = d·(x₁y₁(i·x₂ + s·y₂))²`, so `d` is a square unless `i·x₂ + s·y₂ = 0`
  have key (s : K) (hs : s ^ 2 = 1) : C.i * x2 + s * y2 = 0 := by
    by_contra h
    have hne : x1 * y1 * (C.i * x2 + s * y2) ≠ 0 := mul_ne_zero (mul_ne_zero hx1 hy1) h
    apply C.d_nonsq ((C.i * x1 + s * (C.d * x1 * x2 * y1 * y2) * y1) / (x1 * y1 * (C.i * x2 + s * y2)))
    rw [div_mul_div_comm, div_eq_iff (mul_ne_zero hne hne)]
    linear_combination (x1 ^ 2 - C.d * x1 ^ 2 * y1 ^ 2 * x2 ^ 2) * C.i_sq + (y1 ^ 2 - 1) * ht + e1 -
      C.d * x1 ^ 2 * y1 ^ 2 * e2 + C.d * x1 ^ 2 * y1 ^ 2 * y2 ^ 2 * (C.d * x2 ^ 2 * y1 ^ 2 - 1) * hs
  have : (2 : K) * y2 = 0 := by linear_combination key 1 (one_pow 2) - key (-1) (by ring)
  rcases mul_eq_zero.mp this with h | h
  exacts [C.two_ne h, hy2 h]

theorem one_add_t_ne (e1 : C.On x1 y1) (e2 : C.On x2 y2) : 1 + C.d * x1 * x2 * y1 * y2 ≠ 0 := by
  intro h
  apply C.t_sq_ne_one e1 e2
  linear_combination (C.d * x1 * x2 * y1 * y2 - 1) * h

theorem one_sub_t_ne (e1 : C.On x1 y1) (e2 : C.On x2 y2) : 1 - C.d * x1 * x2 * y1 * y2 ≠ 0 := by
  intro h
  apply C.t_sq_ne_one e1 e2
  linear_combination (-(C.d * x1 * x2 * y1 * y2) - 1) * h

end EdCurve

theorem frac_on {d A B D1 D2 : K} (h1 : D1 ≠ 0) (h2 : D2 ≠ 0)
    (h : -A ^ 2 * D2 ^ 2 + B ^ 2 * D1 ^ 2 = D1 ^ 2 * D2 ^ 2 + d * A ^ 2 * B ^ 2) :
    -(A / D1) ^ 2 + (B / D2) ^ 2 = 1 + d * (A / D1) ^ 2 * (B / D2) ^ 2 := by
  field_simp
  linear_combination h

def addX (d x1 y1 x2 y2 : K) : K := (x1 * y2 + x2 * y1) / (1 + d * x1 * x2 * y1 * y2)

def addY (d x1 y1 x2 y2 : K) : K := (y1 * y2 + x1 * x2) / (1 - d * x1 * x2 * y1 * y2)

namespace EdCurve
variable (C : EdCurve K) {x1 y1 x2 y2 x3 y3 : K}

theorem on_add (e1 : C.On x1 y1) (e2 : C.On x2 y2) :
    C.On (addX C.d x1 y1 x2 y2) (addY C.d x1 y1 x2 y2) := by
  have h1 := C.one_add_t_ne e1 e2
  have h2 := C.one_sub_t_ne e1 e2
  unfold On at *
  unfold addX addY
  apply frac_on h1 h2
  apply closure_poly e1 e2

theorem on_zero : C.On 0 1 := by simp [On]

theorem on_neg (e1 : C.On x1 y1) : C.On (-x1) y1 := by
  unfold On at *; linear_combination e1

end EdCurve

section Frac
variable {d a b c e x y : K}

theorem addX_comm (d x1 y1 x2 y2 : K) : addX d x1 y1 x2 y2 = addX d x2 y2 x1 y1 := by
  unfold addX; ring

theorem addY_comm (d x1 y1 x2 y2 : K) : addY d x1 y1 x2 y2 = addY d x2 y2 x1 y1 := by
  unfold addY; ring

/-! The `x` coordinate of the sum of `(a / b, c / e)` and `(x, y)`, that is `addX d (a / b) (c / e) x y` unfolded, as
a single fraction. No hypothesis on the new denominator is needed: when it vanishes so does the old one, and both
sides are `0`. -/

theorem one_add_div (hb : b ≠ 0) (he : e ≠ 0) :
    1 + d * (a / b) * x * (c / e) * y = (b * e + d * a * c * x * y) / (b * e) := by
  field_simp

theorem addX_div (hb : b ≠ 0) (he : e ≠ 0) :
    (a / b * y + x * (c / e)) / (1 + d * (a / b) * x * (c / e) * y) =
      (a * y * e + x * c * b) / (b * e + d * a * c * x * y) := by
  have hn : a / b * y + x * (c / e) = (a * y * e + x * c * b) / (b * e) := by field_simp
  rw [hn, one_add_div hb he, div_div_div_cancel_right₀ (mul_ne_zero hb he)]

end Frac

namespace EdCurve
variable (C : EdCurve K) {x1 y1 x2 y2 x3 y3 : K}

/-- Associativity, `x` coordinate: both sides are brought to the form `(P + Q) + R` by commutativity,
written as single fractions and compared by `assoc_x_poly`. -/
theorem assoc_x (e1 : C.On x1 y1) (e2 : C.On x2 y2) (e3 : C.On x3 y3) :
    addX C.d (addX C.d x1 y1 x2 y2) (addY C.d x1 y1 x2 y2) x3 y3 =
      addX C.d x1 y1 (addX C.d x2 y2 x3 y3) (addY C.d x2 y2 x3 y3) := by
  have a1 := C.one_add_t_ne e1 e2
  have a2 := C.one_sub_t_ne e1 e2
  have b1 := C.one_add_t_ne e2 e3
  have b2 := C.one_sub_t_ne e2 e3
  have hL := C.one_add_t_ne (C.on_add e1 e2) e3
  have hR := C.one_add_t_ne (C.on_add e2 e3) e1
  rw [addX_comm C.d x1 y1 (addX ..)]
  unfold addX addY at hL hR ⊢
  rw [one_add_div a1 a2] at hL
  rw [one_add_div b1 b2] at hR
  rw [addX_div a1 a2, addX_div b1 b2,
    div_eq_div_iff (div_ne_zero_iff.mp hL).1 (div_ne_zero_iff.mp hR).1]
  -- `apply`, since `exact` compares the ring structure of `K` with its field structure at every node twice
  apply assoc_x_poly e1 e2 e3

/-! Translation by the point `(i, 0)` of order 4 is `(x, y) ↦ (i·y, i·x)`; it commutes with the addition formulas
and exchanges the two coordinates, so associativity in `y` is associativity in `x` for the translated point. -/

theorem on_rot (e1 : C.On x1 y1) : C.On (C.i * y1) (C.i * x1) := by
  unfold On at *
  linear_combination e1 + (x1 ^ 2 - y1 ^ 2 - C.d * x1 ^ 2 * y1 ^ 2 * (C.i * C.i - 1)) * C.i_sq

theorem addX_rot : addX C.d (C.i * y1) (C.i * x1) x2 y2 = C.i * addY C.d x1 y1 x2 y2 := by
  have hd : 1 + C.d * (C.i * y1) * x2 * (C.i * x1) * y2 = 1 - C.d * x1 * x2 * y1 * y2 := by
    linear_combination C.d * x1 * x2 * y1 * y2 * C.i_sq
  rw [addX, addY, hd, ← mul_div_assoc]
  congr 1
  ring

theorem addY_rot : addY C.d (C.i * y1) (C.i * x1) x2 y2 = C.i * addX C.d x1 y1 x2 y2 := by
  have hd : 1 - C.d * (C.i * y1) * x2 * (C.i * x1) * y2 = 1 + C.d * x1 * x2 * y1 * y2 := by
    linear_combination -(C.d * x1 * x2 * y1 * y2) * C.i_sq
  rw [addX, addY, hd, ← mul_div_assoc]
  congr 1
  ring

theorem assoc_y (e1 : C.On x1 y1) (e2 : C.On x2 y2) (e3 : C.On x3 y3) :
    addY C.d (addX C.d x1 y1 x2 y2) (addY C.d x1 y1 x2 y2) x3 y3 =
      addY C.d x1 y1 (addX C.d x2 y2 x3 y3) (addY C.d x2 y2 x3 y3) := by
  have hi : C.i ≠ 0 := fun h => by simpa [h] using C.i_sq
  apply mul_left_cancel₀ hi
  calc C.i * addY C.d (addX C.d x1 y1 x2 y2) (addY C.d x1 y1 x2 y2) x3 y3
      = addX C.d (addX C.d (C.i * y1) (C.i * x1) x2 y2) (addY C.d (C.i * y1) (C.i * x1) x2 y2) x3 y3 := by
        rw [C.addX_rot, C.addY_rot, C.addX_rot]
    _ = addX C.d (C.i * y1) (C.i * x1) (addX C.d x2 y2 x3 y3) (addY C.d x2 y2 x3 y3) :=
        C.assoc_x (C.on_rot e1) e2 e3
    _ = C.i * addY C.d x1 y1 (addX C.d x2 y2 x3 y3) (addY C.d x2 y2 x3 y3) := C.addX_rot

@[ext] structure Pt (C : EdCurve K) where
  x : K
  y : K
  on : C.On x y

namespace Pt

instance : Zero C.Pt := ⟨⟨0, 1, C.on_zero⟩⟩
instance : Neg C.Pt := ⟨fun P => ⟨-P.x, P.y, C.on_neg P.on⟩⟩
instance : Add C.Pt :=
  ⟨fun P Q => ⟨addX C.d P.x P.y Q.x Q.y, addY C.d P.x P.y Q.x Q.y, C.on_add P.on Q.on⟩⟩

variable {C}

@[simp] theorem zero_x : (0 : C.Pt).x = 0 := rfl
@[simp] theorem zero_y : (0 : C.Pt).y = 1 := rfl
@[simp] theorem neg_x (P : C.Pt) : (-P).x = -P.x := rfl
@[simp] theorem neg_y (P : C.Pt) : (-P).y = P.y := rfl
theorem add_x (P Q : C.Pt) : (P + Q).x = addX C.d P.x P.y Q.x Q.y := rfl
theorem add_y (P Q : C.Pt) : (P + Q).y = addY C.d P.x P.y Q.x Q.y := rfl

protected theorem add_comm (P Q : C.Pt) : P + Q = Q + P := by
  ext
  · exact addX_comm ..
  · exact addY_comm ..

protected theorem add_assoc (P Q R : C.Pt) : P + Q + R = P + (Q + R) := by
  ext
  · exact C.assoc_x P.on Q.on R.on
  · exact C.assoc_y P.on Q.on R.on

protected theorem zero_add (P : C.Pt) : 0 + P = P := by
  ext
  · rw [add_x]; simp [addX]
  · rw [add_y]; simp [addY]

protected theorem neg_add_cancel (P : C.Pt) : -P + P = 0 := by
  have h := P.on
  unfold On at h
  have h2 := C.one_sub_t_ne (C.on_neg P.on) P.on
  ext
  · rw [add_x]; simp only [addX, neg_x, neg_y, zero_x]
    rw [div_eq_zero_iff]; left; ring
  · rw [add_y]; simp only [addY, neg_x, neg_y, zero_y]
    rw [div_eq_one_iff_eq h2]
    linear_combination h

instance : AddCommGroup C.Pt where
  add_assoc := Pt.add_assoc
  zero_add := Pt.zero_add
  add_zero P := by rw [Pt.add_comm]; exact Pt.zero_add P
  neg_add_cancel := Pt.neg_add_cancel
  add_comm := Pt.add_comm
  nsmul := nsmulRec
  zsmul := zsmulRec

end Pt
end EdCurve

end BipVerif.EdGroup
