/-
The executable ed25519 arithmetic of `Prim/Edwards.lean` computes in the group `EdPt`: under the map `toE` from
`EdPoint` to `EdPt` the affine law `edAdd` is `+`, and `edMul k P` is `k • P`. For the latter `ERep` relates an
extended quadruple to the point it represents, the `hwcd` addition and doubling preserve it, and
`WGroup.doubleAdd_loop_log` gives the statement about the loop.
-/
import BipVerif.Lemmas.EdGroup.Field

namespace BipVerif.EdGroup
open BipVerif BipVerif.Prim BipVerif.WGroup EdCurve

theorem edOnCurveModP_iff (P : EdPoint) :
    edOnCurveModP P = true ↔ edC.On (P.x : F) (P.y : F) := by
  unfold edOnCurveModP EdCurve.On
  simp only [beq_iff_eq]
  rw [← natCast_inj_of_lt (p := edP) (subMod_lt _ _ edP_pos) (Nat.mod_lt _ edP_pos)]
  simp only [cast_subMod, cast_mod, Nat.cast_mul, Nat.cast_add, Nat.cast_one, edC_d, dF]
  constructor <;> intro h <;> linear_combination h

theorem edOnCurve_iff (P : EdPoint) :
    edOnCurve P = true ↔ P.x < edP ∧ P.y < edP ∧ edC.On (P.x : F) (P.y : F) := by
  unfold edOnCurve
  simp only [Bool.and_eq_true, decide_eq_true_eq, edOnCurveModP_iff, and_assoc]

open Classical in
/-- The group element of an `EdPoint`; pairs that are not on the curve are sent to `0`
(all lemmas are about on-curve points). -/
noncomputable def toE (P : EdPoint) : EdPt :=
  if h : edC.On (P.x : F) (P.y : F) then ⟨P.x, P.y, h⟩ else 0

/-- The canonical `EdPoint` of a group element (coordinates reduced). -/
def ofE (P : EdPt) : EdPoint := ⟨P.x.val, P.y.val⟩

theorem toE_of_cast {x y : ℕ} {P : EdPt} (hx : (x : F) = P.x) (hy : (y : F) = P.y) :
    toE ⟨x, y⟩ = P := by
  unfold toE
  have h : edC.On ((x : ℕ) : F) ((y : ℕ) : F) := by rw [hx, hy]; exact P.on
  rw [dif_pos h]
  ext <;> simp [hx, hy]

theorem edOnCurve_of_cast {x y : ℕ} {P : EdPt} (hx : x < edP) (hy : y < edP)
    (hX : (x : F) = P.x) (hY : (y : F) = P.y) : edOnCurve ⟨x, y⟩ = true := by
  rw [edOnCurve_iff]
  refine ⟨hx, hy, ?_⟩
  show edC.On ((x : ℕ) : F) ((y : ℕ) : F)
  rw [hX, hY]; exact P.on

theorem toE_x {P : EdPoint} (h : edOnCurve P = true) : (toE P).x = (P.x : F) := by
  unfold toE; rw [dif_pos ((edOnCurve_iff P).mp h).2.2]

theorem toE_y {P : EdPoint} (h : edOnCurve P = true) : (toE P).y = (P.y : F) := by
  unfold toE; rw [dif_pos ((edOnCurve_iff P).mp h).2.2]

theorem toE_injOn {P Q : EdPoint} (hP : edOnCurve P = true) (hQ : edOnCurve Q = true)
    (h : toE P = toE Q) : P = Q := by
  obtain ⟨hx, hy, -⟩ := (edOnCurve_iff P).mp hP
  obtain ⟨hx', hy', -⟩ := (edOnCurve_iff Q).mp hQ
  have h1 : (P.x : F) = Q.x := by rw [← toE_x hP, ← toE_x hQ, h]
  have h2 : (P.y : F) = Q.y := by rw [← toE_y hP, ← toE_y hQ, h]
  cases P; cases Q
  simp only [EdPoint.mk.injEq]
  exact ⟨(natCast_inj_of_lt hx hx').mp h1, (natCast_inj_of_lt hy hy').mp h2⟩

theorem ofE_onCurve (P : EdPt) : edOnCurve (ofE P) = true :=
  edOnCurve_of_cast (ZMod.val_lt _) (ZMod.val_lt _) (ZMod.natCast_zmod_val _)
    (ZMod.natCast_zmod_val _)

theorem toE_ofE (P : EdPt) : toE (ofE P) = P :=
  toE_of_cast (ZMod.natCast_zmod_val _) (ZMod.natCast_zmod_val _)

theorem ofE_toE {P : EdPoint} (h : edOnCurve P = true) : ofE (toE P) = P :=
  toE_injOn (ofE_onCurve _) h (toE_ofE _)

theorem ofE_injective : Function.Injective ofE := fun P Q h => by
  rw [← toE_ofE P, ← toE_ofE Q, h]

theorem edIdentity_onCurve : edOnCurve edIdentity = true := by decide +kernel

theorem toE_identity : toE edIdentity = 0 :=
  toE_of_cast (by simp) (by simp)

theorem ofE_zero : ofE 0 = edIdentity := by
  rw [← toE_identity, ofE_toE edIdentity_onCurve]

theorem toE_eq_zero_iff {P : EdPoint} (h : edOnCurve P = true) : toE P = 0 ↔ P = edIdentity := by
  rw [← toE_identity]
  exact ⟨toE_injOn h edIdentity_onCurve, fun h => by rw [h]⟩

theorem edAdd_correct {P Q : EdPoint} (hP : edOnCurve P = true) (hQ : edOnCurve Q = true) :
    edOnCurve (edAdd P Q) = true ∧ toE (edAdd P Q) = toE P + toE Q := by
  have hp := edP_pos
  have hp2 := edP_two_lt
  have hX : (((P.x * Q.y % edP + P.y * Q.x % edP) *
      invMod (1 + edD * (P.x * Q.y % edP * (P.y * Q.x % edP) % edP) % edP) edP % edP : ℕ) : F) =
      (toE P + toE Q).x := by
    rw [Pt.add_x, toE_x hP, toE_y hP, toE_x hQ, toE_y hQ]
    simp only [cast_mod, Nat.cast_mul, Nat.cast_add, Nat.cast_one, cast_invMod hp2, edC_d, dF]
    unfold addX
    ring
  have hY : (((P.y * Q.y + P.x * Q.x) % edP *
      invMod (subMod 1 (edD * (P.x * Q.y % edP * (P.y * Q.x % edP) % edP) % edP) edP) edP % edP : ℕ) :
        F) = (toE P + toE Q).y := by
    rw [Pt.add_y, toE_x hP, toE_y hP, toE_x hQ, toE_y hQ]
    simp only [cast_mod, cast_subMod, Nat.cast_mul, Nat.cast_add, Nat.cast_one, cast_invMod hp2,
      edC_d, dF]
    unfold addY
    ring
  exact ⟨edOnCurve_of_cast (Nat.mod_lt _ hp) (Nat.mod_lt _ hp) hX hY, toE_of_cast hX hY⟩

theorem edOnCurve_edAdd {P Q : EdPoint} (hP : edOnCurve P = true) (hQ : edOnCurve Q = true) :
    edOnCurve (edAdd P Q) = true := (edAdd_correct hP hQ).1

theorem toE_edAdd {P Q : EdPoint} (hP : edOnCurve P = true) (hQ : edOnCurve Q = true) :
    toE (edAdd P Q) = toE P + toE Q := (edAdd_correct hP hQ).2

theorem edNeg_correct {P : EdPoint} (hP : edOnCurve P = true) :
    edOnCurve (edNeg P) = true ∧ toE (edNeg P) = -toE P := by
  obtain ⟨-, hy, -⟩ := (edOnCurve_iff P).mp hP
  have hX : ((negMod P.x edP : ℕ) : F) = (-toE P).x := by
    rw [cast_negMod, Pt.neg_x, toE_x hP]
  have hY : (P.y : F) = (-toE P).y := by rw [Pt.neg_y, toE_y hP]
  exact ⟨edOnCurve_of_cast (negMod_lt _ edP_pos) hy hX hY, toE_of_cast hX hY⟩

/-- The extended quadruple `E` (reduced coordinates) represents the group element `P`:
`Z ≠ 0`, `X = x·Z`, `Y = y·Z`, `T = x·y·Z`. -/
def ERep (E : EdExt) (P : EdPt) : Prop :=
  E.X < edP ∧ E.Y < edP ∧ E.Z < edP ∧ E.T < edP ∧ (E.Z : F) ≠ 0 ∧
    (E.X : F) = P.x * E.Z ∧ (E.Y : F) = P.y * E.Z ∧ (E.T : F) = P.x * P.y * E.Z

theorem ERep.id : ERep edExtId 0 := by
  have := edP_two_lt
  refine ⟨by show 0 < edP; omega, by show 1 < edP; omega, by show 1 < edP; omega,
    by show 0 < edP; omega, ?_, ?_, ?_, ?_⟩ <;> simp [edExtId]

theorem ERep.ofAffine {P : EdPoint} (hP : edOnCurve P = true) :
    ERep (edExtOfAffine P) (toE P) := by
  obtain ⟨hx, hy, -⟩ := (edOnCurve_iff P).mp hP
  have := edP_two_lt
  unfold edExtOfAffine
  rw [Nat.mod_eq_of_lt hx, Nat.mod_eq_of_lt hy]
  refine ⟨hx, hy, by show 1 < edP; omega, Nat.mod_lt _ edP_pos, ?_, ?_, ?_, ?_⟩
  · simp
  · simp [toE_x hP]
  · simp [toE_y hP]
  · simp [toE_x hP, toE_y hP]

theorem ERep.toAffine {E : EdExt} {P : EdPt} (h : ERep E P) :
    edOnCurve (edExtToAffine E) = true ∧ toE (edExtToAffine E) = P := by
  obtain ⟨-, -, -, -, hz, eX, eY, -⟩ := h
  have hp := edP_pos
  have hX : ((E.X * invMod E.Z edP % edP : ℕ) : F) = P.x := by
    simp only [cast_mod, Nat.cast_mul, cast_invMod edP_two_lt, eX]
    rw [mul_assoc, mul_inv_cancel₀ hz, mul_one]
  have hY : ((E.Y * invMod E.Z edP % edP : ℕ) : F) = P.y := by
    simp only [cast_mod, Nat.cast_mul, cast_invMod edP_two_lt, eY]
    rw [mul_assoc, mul_inv_cancel₀ hz, mul_one]
  exact ⟨edOnCurve_of_cast (Nat.mod_lt _ hp) (Nat.mod_lt _ hp) hX hY, toE_of_cast hX hY⟩

/-- Both `hwcd` formulas end in `(X, Y, Z, T) = (E·F, G·H, F·G, E·H)`, which represents the point with
`x = E / G` and `y = H / F`. -/
theorem ERep.of_efgh {e f g h : ℕ} {P : EdPt} (hf : (f : F) ≠ 0) (hg : (g : F) ≠ 0)
    (hx : (e : F) = P.x * g) (hy : (h : F) = P.y * f) :
    ERep ⟨e * f % edP, g * h % edP, f * g % edP, e * h % edP⟩ P := by
  have hp := edP_pos
  refine ⟨Nat.mod_lt _ hp, Nat.mod_lt _ hp, Nat.mod_lt _ hp, Nat.mod_lt _ hp, ?_, ?_, ?_, ?_⟩
  · rw [cast_mod, Nat.cast_mul]
    exact mul_ne_zero hf hg
  · rw [cast_mod, cast_mod, Nat.cast_mul, Nat.cast_mul, hx]
    ring
  · rw [cast_mod, cast_mod, Nat.cast_mul, Nat.cast_mul, hy]
    ring
  · rw [cast_mod, cast_mod, Nat.cast_mul, Nat.cast_mul, hx, hy]
    ring

/-- Unified extended addition (`add-2008-hwcd-3`) computes `P + Q`: with `t = d·x₁x₂y₁y₂` its intermediate
values are `E = 2Z₁Z₂(x₁y₂ + y₁x₂)`, `F = 2Z₁Z₂(1 - t)`, `G = 2Z₁Z₂(1 + t)`, `H = 2Z₁Z₂(y₁y₂ + x₁x₂)`. -/
theorem edExtAdd_rep {E1 E2 : EdExt} {P Q : EdPt} (h1 : ERep E1 P) (h2 : ERep E2 Q) :
    ERep (edExtAdd E1 E2) (P + Q) := by
  obtain ⟨-, -, -, -, hz1, eX1, eY1, eT1⟩ := h1
  obtain ⟨-, -, -, -, hz2, eX2, eY2, eT2⟩ := h2
  have hD1 := edC.one_add_t_ne P.on Q.on
  have hD2 := edC.one_sub_t_ne P.on Q.on
  have hzz : 2 * (E1.Z : F) * E2.Z ≠ 0 := mul_ne_zero (mul_ne_zero two_ne_zero_F hz1) hz2
  unfold edExtAdd
  dsimp only
  refine ERep.of_efgh ?_ ?_ ?_ ?_
  · intro h0
    simp only [cast_subMod, cast_mod, Nat.cast_mul, Nat.cast_ofNat, eT1, eT2] at h0
    refine hD2 ((mul_eq_zero.mp ?_).resolve_left hzz)
    simp only [edC_d, dF]
    linear_combination h0
  · intro h0
    simp only [cast_mod, Nat.cast_mul, Nat.cast_add, Nat.cast_ofNat, eT1, eT2] at h0
    refine hD1 ((mul_eq_zero.mp ?_).resolve_left hzz)
    simp only [edC_d, dF]
    linear_combination h0
  · rw [Pt.add_x, addX, div_mul_eq_mul_div, eq_div_iff hD1]
    simp only [cast_subMod, cast_mod, Nat.cast_mul, Nat.cast_add, Nat.cast_ofNat, eX1, eY1, eT1,
      eX2, eY2, eT2, edC_d, dF]
    ring
  · rw [Pt.add_y, addY, div_mul_eq_mul_div, eq_div_iff hD2]
    simp only [cast_subMod, cast_mod, Nat.cast_mul, Nat.cast_add, Nat.cast_ofNat, eX1, eY1, eT1,
      eX2, eY2, eT2, edC_d, dF]
    ring

/-- Extended doubling (`dbl-2008-hwcd`, `a = -1`) computes `P + P`: by the curve equation its intermediate
values are `E = 2Z²xy`, `G = Z²(1 + t)`, `F = -Z²(1 - t)`, `H = -Z²(x² + y²)` with `t = d·x²y²`. -/
theorem edExtDouble_rep {E : EdExt} {P : EdPt} (h : ERep E P) :
    ERep (edExtDouble E) (P + P) := by
  obtain ⟨-, -, -, -, hz, eX, eY, -⟩ := h
  have hD1 := edC.one_add_t_ne P.on P.on
  have hD2 := edC.one_sub_t_ne P.on P.on
  have hzz : (E.Z : F) * E.Z ≠ 0 := mul_ne_zero hz hz
  have hon := P.on
  unfold EdCurve.On at hon
  unfold edExtDouble
  dsimp only
  refine ERep.of_efgh ?_ ?_ ?_ ?_
  · intro h0
    simp only [cast_subMod, cast_mod, Nat.cast_mul, Nat.cast_ofNat, eX, eY] at h0
    refine hD2 ((mul_eq_zero.mp ?_).resolve_left hzz)
    linear_combination -h0 + (E.Z : F) * E.Z * hon
  · intro h0
    simp only [cast_subMod, cast_mod, Nat.cast_mul, eX, eY] at h0
    refine hD1 ((mul_eq_zero.mp ?_).resolve_left hzz)
    linear_combination h0 - (E.Z : F) * E.Z * hon
  · rw [Pt.add_x, addX, div_mul_eq_mul_div, eq_div_iff hD1]
    simp only [cast_subMod, cast_mod, Nat.cast_mul, Nat.cast_add, eX, eY]
    linear_combination -(2 * P.x * P.y * (E.Z : F) ^ 2) * hon
  · rw [Pt.add_y, addY, div_mul_eq_mul_div, eq_div_iff hD2]
    simp only [cast_subMod, cast_negMod, cast_mod, Nat.cast_mul, Nat.cast_add, Nat.cast_ofNat, eX, eY]
    linear_combination -((P.x ^ 2 + P.y ^ 2) * (E.Z : F) ^ 2) * hon

theorem edMul_correct (k : ℕ) {P : EdPoint} (hP : edOnCurve P = true) :
    toE (edMul k P) = k • toE P ∧ edOnCurve (edMul k P) = true := by
  unfold edMul
  by_cases hk : k = 0
  · rw [if_pos hk, hk, zero_nsmul]; exact ⟨toE_identity, edIdentity_onCurve⟩
  · rw [if_neg hk]
    exact (doubleAdd_loop_log (Rep := ERep) (loop := edMulLoop k (edExtOfAffine P)) (k := k) edExtDouble_rep
      (edExtAdd_rep · (ERep.ofAffine hP)) (fun _ => rfl) (fun _ _ => rfl) ERep.id).toAffine.symm

theorem toE_edMul (k : ℕ) {P : EdPoint} (hP : edOnCurve P = true) :
    toE (edMul k P) = k • toE P := (edMul_correct k hP).1

theorem edOnCurve_edMul (k : ℕ) {P : EdPoint} (hP : edOnCurve P = true) :
    edOnCurve (edMul k P) = true := (edMul_correct k hP).2

theorem ofE_add (P Q : EdPt) : ofE (P + Q) = edAdd (ofE P) (ofE Q) := by
  have h := edAdd_correct (ofE_onCurve P) (ofE_onCurve Q)
  rw [← ofE_toE h.1, h.2, toE_ofE, toE_ofE]

theorem ofE_nsmul (k : ℕ) (P : EdPt) : ofE (k • P) = edMul k (ofE P) := by
  have h := edMul_correct k (ofE_onCurve P)
  rw [← ofE_toE h.2, h.1, toE_ofE]

end BipVerif.EdGroup
