/-
Concrete ed25519 facts by kernel evaluation: the base point is on the curve and `L·B = (0, 1)`;
with the primality of `L`, the base point has order exactly `L` in the group `EdPt`.
-/
import BipVerif.Lemmas.EdGroup.Exec
import BipVerif.Lemmas.GroupModel

namespace BipVerif.EdGroup
open BipVerif BipVerif.Prim

theorem edBase_onCurve : edOnCurve edBase = true := by decide +kernel

theorem edMul_edL_edBase : edMul edL edBase = edIdentity := by decide +kernel

noncomputable def edB : EdPt := toE edBase

theorem edB_ne_zero : edB ≠ 0 := by
  intro h
  have := (toE_eq_zero_iff edBase_onCurve).mp h
  revert this
  decide +kernel

theorem edL_nsmul_edB : edL • edB = 0 := by
  unfold edB
  rw [← toE_edMul _ edBase_onCurve, edMul_edL_edBase, toE_identity]

theorem edB_hasOrder : GroupModel.HasOrder edB edL :=
  GroupModel.hasOrder_of_prime Pratt.edL_prime edL_nsmul_edB edB_ne_zero

theorem toE_edMulBase (k : ℕ) : toE (edMulBase k) = k • edB := toE_edMul k edBase_onCurve

theorem edOnCurve_edMulBase (k : ℕ) : edOnCurve (edMulBase k) = true :=
  edOnCurve_edMul k edBase_onCurve

theorem ofE_nsmul_edB (k : ℕ) : ofE (k • edB) = edMulBase k := by
  rw [← toE_edMulBase, ofE_toE (edOnCurve_edMulBase k)]

end BipVerif.EdGroup
