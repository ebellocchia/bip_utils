/-
`KholawLaw` without hypotheses: the executable Edwards layer is a faithful model of the group
`EdPt` (`GroupModel.EdGroupModel edB ofE`).  The remaining ingredient is the decoder: the
`p ≡ 5 (mod 8)` square root `sqrtCand5mod8` finds a root of every square, hence
`edDecodeLenient (edEncode P) = some P` for every reduced on-curve point.
-/
import BipVerif.Lemmas.EdGroup.Concrete

namespace BipVerif.EdGroup
open BipVerif BipVerif.Prim BipVerif.Model BipVerif.WGroup EdCurve

theorem sqrtCand5mod8_lt (a : ℕ) : sqrtCand5mod8 a edP < edP := by
  unfold sqrtCand5mod8
  dsimp only
  split
  · exact powMod_lt _ _ edP_pos
  · exact Nat.mod_lt _ edP_pos

theorem pow_half_F {x : F} (hx : x ≠ 0) :
    x ^ ((edP - 1) / 2) = 1 ∨ x ^ ((edP - 1) / 2) = -1 := by
  have h1 : x ^ (edP - 1) = 1 := ZMod.pow_card_sub_one_eq_one hx
  have h2 : x ^ ((edP - 1) / 2) * x ^ ((edP - 1) / 2) = 1 := by
    rw [← pow_add, show (edP - 1) / 2 + (edP - 1) / 2 = edP - 1 by decide +kernel, h1]
  exact mul_self_eq_one_iff.mp h2

/-- The root candidate is a root of every square. -/
theorem sqrtCand5mod8_sq {a : ℕ} {x : F} (h : (a : F) = x * x) :
    ((sqrtCand5mod8 a edP : ℕ) : F) * (sqrtCand5mod8 a edP : ℕ) = x * x := by
  have hr : ((powMod (a % edP) ((edP + 3) / 8) edP : ℕ) : F) *
      (powMod (a % edP) ((edP + 3) / 8) edP : ℕ) = x * x * x ^ ((edP - 1) / 2) := by
    rw [cast_powMod, cast_mod, h, ← pow_add, ← pow_two, ← pow_mul, ← pow_add]
    congr 1
  unfold sqrtCand5mod8
  dsimp only
  have hcond : powMod (a % edP) ((edP + 3) / 8) edP * powMod (a % edP) ((edP + 3) / 8) edP % edP =
      a % edP ↔ ((powMod (a % edP) ((edP + 3) / 8) edP : ℕ) : F) *
        (powMod (a % edP) ((edP + 3) / 8) edP : ℕ) = x * x := by
    rw [← natCast_inj_of_lt (p := edP) (Nat.mod_lt _ edP_pos) (Nat.mod_lt _ edP_pos), cast_mod,
      cast_mod, Nat.cast_mul, h]
  by_cases hc : powMod (a % edP) ((edP + 3) / 8) edP * powMod (a % edP) ((edP + 3) / 8) edP % edP =
      a % edP
  · rw [if_pos hc]; exact hcond.mp hc
  · rw [if_neg hc]
    have hne : ((powMod (a % edP) ((edP + 3) / 8) edP : ℕ) : F) *
        (powMod (a % edP) ((edP + 3) / 8) edP : ℕ) ≠ x * x := fun h => hc (hcond.mpr h)
    have hx : x ≠ 0 := by
      rintro rfl
      apply hne
      rw [hr]; simp
    have hm1 : x ^ ((edP - 1) / 2) = -1 := by
      rcases pow_half_F hx with h1 | h1
      · exact absurd (by rw [hr, h1, mul_one]) hne
      · exact h1
    rw [hm1] at hr
    have hi : ((powMod 2 ((edP - 1) / 4) edP : ℕ) : F) = iF := rfl
    rw [cast_mod, Nat.cast_mul, hi]
    linear_combination iF * iF * hr + (x * x * -1) * iF_sq

theorem dy2_add_one_ne (y : F) : dF * (y * y) + 1 ≠ 0 := by
  intro h
  have hy : y ≠ 0 := by
    rintro rfl
    simp at h
  apply dF_nonsq (iF / y)
  rw [div_mul_div_comm, iF_sq, div_eq_iff (mul_ne_zero hy hy)]
  linear_combination -h

theorem edXSquared_cast {x y : F} (h : edC.On x y) {n : ℕ} (hn : (n : F) = y) :
    ((edXSquared n : ℕ) : F) = x * x := by
  unfold edXSquared
  dsimp only
  simp only [cast_mod, cast_subMod, Nat.cast_mul, Nat.cast_add, Nat.cast_one,
    cast_invMod edP_two_lt, hn]
  have hd := dy2_add_one_ne y
  change (y * y - 1) * (dF * (y * y) + 1)⁻¹ = x * x
  rw [← div_eq_mul_inv, div_eq_iff hd]
  unfold EdCurve.On at h
  rw [edC_d] at h
  linear_combination h

theorem edP_odd : edP % 2 = 1 := by decide +kernel

theorem edP_lt : edP < 2 ^ 255 := by decide +kernel

/-- `_x_recover` with the sign fix-up returns the `x` coordinate of an on-curve point. -/
theorem edXRecoverRaw_eq {P : EdPoint} (hP : edOnCurve P = true) :
    edXRecoverRaw P.y (P.x % 2) = P.x := by
  obtain ⟨hx, hy, hon⟩ := (edOnCurve_iff P).mp hP
  have hsq := sqrtCand5mod8_sq (edXSquared_cast hon rfl)
  have hlt := sqrtCand5mod8_lt (edXSquared P.y)
  unfold edXRecoverRaw
  dsimp only
  generalize sqrtCand5mod8 (edXSquared P.y) edP = r at hsq hlt
  have hr : (if r % 2 = P.x % 2 then r else edP - r) = P.x := by
    refine parity_select edP_odd hlt hx ?_
    have : ((r : F) - P.x) * ((r : F) + P.x) = 0 := by linear_combination hsq
    exact (mul_eq_zero.mp this).imp sub_eq_zero.mp eq_neg_of_add_eq_zero_left
  -- the library selects the even root first and negates it for an odd `x`
  by_cases h2 : P.x % 2 = 0
  · rw [if_pos h2, ← h2]
    exact hr
  · have h1 : P.x % 2 = 1 := (Nat.mod_two_eq_zero_or_one _).resolve_left h2
    rw [if_neg h2]
    rw [h1] at hr
    by_cases hr2 : r % 2 = 0
    · rw [if_pos hr2]
      rwa [if_neg (by rw [hr2]; decide)] at hr
    · rw [if_neg hr2, Nat.sub_sub_self hlt.le]
      rwa [if_pos ((Nat.mod_two_eq_zero_or_one _).resolve_left hr2)] at hr

theorem edDecodeNoCheck_edEncode {P : EdPoint} (hP : edOnCurve P = true) :
    edDecodeNoCheck (edEncode P) = some P := by
  obtain ⟨hx, hy, -⟩ := (edOnCurve_iff P).mp hP
  have ylt : P.y < 2 ^ 255 := hy.trans edP_lt
  unfold edDecodeNoCheck
  rw [if_neg (by rw [EccLemmas.edEncode_length]; decide)]
  dsimp only
  have hy' : P.y % 2 ^ 255 = P.y := Nat.mod_eq_of_lt ylt
  have hv : Bytes.toNatLE (edEncode P) = P.y + P.x % 2 * 2 ^ 255 := by
    have hs : P.x % 2 * 2 ^ 255 ≤ 1 * 2 ^ 255 :=
      Nat.mul_le_mul_right _ (Nat.lt_succ_iff.mp (Nat.mod_lt _ Nat.two_pos))
    unfold edEncode
    rw [hy', toNatLE_ofNatLE ((Nat.add_lt_add_of_lt_of_le ylt hs).trans_eq (by norm_num))]
  have h1 : (P.y + P.x % 2 * 2 ^ 255) % 2 ^ 255 = P.y := by
    rw [Nat.add_mul_mod_self_right]; exact hy'
  have h2 : (P.y + P.x % 2 * 2 ^ 255) / 2 ^ 255 = P.x % 2 := by
    rw [Nat.add_mul_div_right _ _ (Nat.two_pow_pos 255), Nat.div_eq_of_lt ylt, Nat.zero_add]
  rw [hv, h1, h2, edXRecoverRaw_eq hP]

theorem edDecodeLenient_edEncode {P : EdPoint} (hP : edOnCurve P = true) :
    edDecodeLenient (edEncode P) = some P := by
  obtain ⟨hx, hy, hon⟩ := (edOnCurve_iff P).mp hP
  unfold edDecodeLenient edDecodeLib
  rw [edDecodeNoCheck_edEncode hP]
  simp only [Option.bind_some, (edOnCurveModP_iff P).mpr hon, if_true, Option.map_some,
    Nat.mod_eq_of_lt hx, Nat.mod_eq_of_lt hy]

theorem edBytesOnCurve_edEncode {P : EdPoint} (hP : edOnCurve P = true) :
    edBytesOnCurve (edEncode P) = some true := by
  obtain ⟨-, -, hon⟩ := (edOnCurve_iff P).mp hP
  unfold edBytesOnCurve
  rw [if_neg (by rw [EccLemmas.edEncode_length]; decide), if_pos (EccLemmas.edEncode_length P),
    edDecodeNoCheck_edEncode hP, Option.map_some, (edOnCurveModP_iff P).mpr hon]

theorem edGroupModel : GroupModel.EdGroupModel edB ofE where
  order := edB_hasOrder
  pt_id k := by rw [← ofE_zero]; exact ofE_injective.eq_iff
  mul_base s _ := (ofE_nsmul_edB s).symm
  add a b := (ofE_add _ _).symm
  dec_enc k _ := edDecodeLenient_edEncode (ofE_onCurve _)
  on_curve k _ := edBytesOnCurve_edEncode (ofE_onCurve _)

theorem kholawLaw : KholawLaw := GroupModel.kholawLaw_of_group_model edGroupModel

end BipVerif.EdGroup
