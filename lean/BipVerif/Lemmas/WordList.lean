/-
Word lists as the mnemonic codecs use them: `pyIdx` (index → word), `wordIdx` (word → index), either
of them mapped over a sentence, and language detection (`findLanguage`).  Both look-ups are total
functions with one error each, so `mapM` of them has a closed form (`mapM_ite`), from which the
statements about accepted and refused sentences are read off.
-/
import BipVerif.Model.Bip39
import BipVerif.Lemmas.Except

namespace BipVerif.Model
open BipVerif

theorem getD_eq_getElem {wl : List Nat} {k : Nat} (h : k < wl.length) : wl.getD k 0 = wl[k] := by
  simp [List.getD_eq_getElem?_getD, h]

theorem getD_mem {wl : List Nat} {k : Nat} (h : k < wl.length) : wl.getD k 0 ∈ wl := by
  rw [getD_eq_getElem h]; exact List.getElem_mem h

theorem getD_idxOf_of_mem {wl : List Nat} {w : Nat} (h : w ∈ wl) : wl.getD (wl.idxOf w) 0 = w := by
  have hlt := List.idxOf_lt_length_of_mem h
  rw [getD_eq_getElem hlt]; exact List.getElem_idxOf hlt

theorem idxOf_getD_of_nodup {wl : List Nat} (hnd : wl.Nodup) {k : Nat} (h : k < wl.length) :
    wl.idxOf (wl.getD k 0) = k := by
  rw [getD_eq_getElem h]; exact hnd.idxOf_getElem k h

theorem map_getD_map_idxOf {wl ws : List Nat} (hall : ∀ w ∈ ws, w ∈ wl) :
    (ws.map (wl.idxOf ·)).map (fun i => wl.getD i 0) = ws := by
  rw [List.map_map]
  exact (List.map_congr_left fun w hw => getD_idxOf_of_mem (hall w hw)).trans (List.map_id ws)

theorem map_idxOf_map_getD {wl : List Nat} (hnd : wl.Nodup) {ds : List Nat}
    (h : ∀ d ∈ ds, d < wl.length) : (ds.map (fun d => wl.getD d 0)).map (wl.idxOf ·) = ds := by
  rw [List.map_map]
  exact (List.map_congr_left fun d hd => idxOf_getD_of_nodup hnd (h d hd)).trans (List.map_id ds)

theorem idxOf_lt_of_mem_map {wl ws : List Nat} (hall : ∀ w ∈ ws, w ∈ wl) :
    ∀ i ∈ ws.map (wl.idxOf ·), i < wl.length := by
  intro i hi
  obtain ⟨w, hw, rfl⟩ := List.mem_map.mp hi
  exact List.idxOf_lt_length_of_mem (hall w hw)

theorem getD_mem_of_mem_map {wl ds : List Nat} (h : ∀ d ∈ ds, d < wl.length) :
    ∀ w ∈ ds.map (fun d => wl.getD d 0), w ∈ wl := by
  intro w hw
  obtain ⟨d, hd, rfl⟩ := List.mem_map.mp hw
  exact getD_mem (h d hd)

theorem pyIdx_eq (wl : List Nat) (i : Nat) :
    pyIdx wl i = if i < wl.length then .ok (wl.getD i 0) else .error .index := by
  unfold pyIdx
  by_cases h : i < wl.length
  · rw [if_pos h, List.getElem?_eq_getElem h, getD_eq_getElem h]; rfl
  · rw [if_neg h, List.getElem?_eq_none (by omega)]; rfl

theorem pyIdx_getD (wl : List Nat) (i : Nat) (h : i < wl.length) : pyIdx wl i = .ok (wl.getD i 0) := by
  rw [pyIdx_eq, if_pos h]

theorem mapM_pyIdx_eq (wl idxs : List Nat) :
    idxs.mapM (pyIdx wl)
      = if ∀ i ∈ idxs, i < wl.length then .ok (idxs.map (fun i => wl.getD i 0)) else .error .index :=
  mapM_ite _ _ _ _ (pyIdx_eq wl) idxs

theorem mapM_pyIdx (wl : List Nat) (idxs : List Nat) (h : ∀ i ∈ idxs, i < wl.length) :
    idxs.mapM (pyIdx wl) = .ok (idxs.map (fun i => wl.getD i 0)) := by
  rw [mapM_pyIdx_eq, if_pos h]

theorem mapM_pyIdx_error (wl : List Nat) (idxs : List Nat) (e : Err)
    (h : idxs.mapM (pyIdx wl) = .error e) : e = .index ∧ ∃ i ∈ idxs, wl.length ≤ i := by
  rw [mapM_pyIdx_eq] at h
  split at h
  · cases h
  · rename_i hn
    cases h
    exact ⟨rfl, by simpa using hn⟩

theorem wordIdx_eq (wl : List Nat) (w : Nat) :
    wordIdx wl w = if w ∈ wl then .ok (wl.idxOf w) else .error .value := by
  unfold wordIdx
  by_cases h : w ∈ wl
  · have : wl.idxOf? w = some (wl.idxOf w) :=
      List.findIdx?_eq_some_iff_findIdx_eq.mpr ⟨List.idxOf_lt_length_of_mem h, rfl⟩
    rw [if_pos h, this]; rfl
  · rw [if_neg h, List.idxOf?_eq_none_iff.mpr h]; rfl

theorem wordIdx_of_mem {wl : List Nat} {w : Nat} (h : w ∈ wl) : wordIdx wl w = .ok (wl.idxOf w) := by
  rw [wordIdx_eq, if_pos h]

theorem wordIdx_of_not_mem {wl : List Nat} {w : Nat} (h : w ∉ wl) : wordIdx wl w = .error .value := by
  rw [wordIdx_eq, if_neg h]

theorem wordIdx_ok {wl : List Nat} {w i : Nat} (h : wordIdx wl w = .ok i) :
    i < wl.length ∧ wl.getD i 0 = w := by
  rw [wordIdx_eq] at h
  split at h
  · cases h; exact ⟨List.idxOf_lt_length_of_mem ‹_›, getD_idxOf_of_mem ‹_›⟩
  · cases h

theorem wordIdx_error {wl : List Nat} {w : Nat} {e : Err} (h : wordIdx wl w = .error e) :
    e = .value ∧ w ∉ wl := by
  rw [wordIdx_eq] at h
  split at h
  · cases h
  · cases h; exact ⟨rfl, ‹_›⟩

theorem wordIdx_getD (wl : List Nat) (hn : wl.Nodup) (d : Nat) (hd : d < wl.length) :
    wordIdx wl (wl.getD d 0) = .ok d := by
  rw [wordIdx_of_mem (getD_mem hd), idxOf_getD_of_nodup hn hd]

theorem mapM_wordIdx_eq (wl ws : List Nat) :
    ws.mapM (wordIdx wl)
      = if ∀ w ∈ ws, w ∈ wl then .ok (ws.map (wl.idxOf ·)) else .error .value :=
  mapM_ite _ _ _ _ (wordIdx_eq wl) ws

theorem mapM_wordIdx_of_mem {wl ws : List Nat} (h : ∀ w ∈ ws, w ∈ wl) :
    ws.mapM (wordIdx wl) = .ok (ws.map (wl.idxOf ·)) := by
  rw [mapM_wordIdx_eq, if_pos h]

theorem mapM_wordIdx_of_not_mem (wl ws : List Nat) (h : ∃ w ∈ ws, w ∉ wl) :
    ws.mapM (wordIdx wl) = .error .value := by
  obtain ⟨w, hw, hn⟩ := h
  rw [mapM_wordIdx_eq, if_neg (fun hall => hn (hall w hw))]

theorem mapM_wordIdx_ok (wl : List Nat) (ws idxs : List Nat) (h : ws.mapM (wordIdx wl) = .ok idxs) :
    idxs.length = ws.length ∧ (∀ i ∈ idxs, i < wl.length)
      ∧ ws = idxs.map (fun i => wl.getD i 0) := by
  rw [mapM_wordIdx_eq] at h
  split at h
  · cases h
    exact ⟨List.length_map _, idxOf_lt_of_mem_map ‹_›, (map_getD_map_idxOf ‹_›).symm⟩
  · cases h

theorem mapM_wordIdx_error (wl : List Nat) (ws : List Nat) (e : Err)
    (h : ws.mapM (wordIdx wl) = .error e) : e = .value ∧ ∃ w ∈ ws, w ∉ wl := by
  rw [mapM_wordIdx_eq] at h
  split at h
  · cases h
  · rename_i hn
    cases h
    exact ⟨rfl, by simpa using hn⟩

theorem mapM_wordIdx_map (wl : List Nat) (hn : wl.Nodup) (ds : List Nat)
    (h : ∀ d ∈ ds, d < wl.length) :
    (ds.map (fun d => wl.getD d 0)).mapM (wordIdx wl) = .ok ds := by
  rw [mapM_wordIdx_of_mem (getD_mem_of_mem_map h), map_idxOf_map_getD hn h]

theorem all_contains_iff (wl ws : List Nat) :
    ws.all (fun w => wl.contains w) = true ↔ ∀ w ∈ ws, w ∈ wl := by
  simp [List.all_eq_true]

theorem findLanguage_mem (langs : List (List Nat)) (ws L : List Nat)
    (h : findLanguage langs ws = .ok L) : L ∈ langs := by
  unfold findLanguage at h
  split at h
  · rename_i wl hf
    cases h
    exact List.mem_of_find?_eq_some hf
  · cases h

theorem findLanguage_error (langs : List (List Nat)) (ws : List Nat) (e : Err)
    (h : findLanguage langs ws = .error e) : e = .value := by
  unfold findLanguage at h
  split at h
  · cases h
  · cases h; rfl

end BipVerif.Model
