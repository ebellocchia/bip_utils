/-
`KeyCanon` (the key-layer hypothesis of the EOS / Ergo round trips of C09: the canonical compressed
key returned by `PublicKey.FromBytes` re-validates to itself) is a theorem for secp256k1 and
NIST P-256, since `decode ∘ compress = id` on curve points is proved (`WGroup.decode_of_compress`).
-/
import BipVerif.Lemmas.WGroup
import BipVerif.Lemmas.Addr

namespace BipVerif.KeyCanonProof
open BipVerif BipVerif.Prim BipVerif.Model BipVerif.WGroup

theorem decode_onCurve (c : WCurve) (hp : 0 < c.p) {b : Bytes} {P : WPoint} (h : c.decode b = some P) :
    c.onCurve P = true := by
  cases b with
  | nil => cases h
  | cons t rest =>
    by_cases h1 : (t = 2 ∨ t = 3) ∧ rest.length = c.coordLen
    · -- compressed: `y` or `p - y` for a root `y` of `rhs x`
      rw [WCurve.decode, if_pos h1] at h
      dsimp only at h
      obtain ⟨hx, h⟩ := Option.ite_none_right_eq_some.mp h
      cases hs : sqrtMod3mod4 (c.rhs (Bytes.toNatBE rest)) c.p with
      | none => rw [hs] at h; cases h
      | some y =>
        rw [hs] at h
        obtain ⟨hy', hP⟩ := Option.ite_none_right_eq_some.mp h
        obtain rfl := Option.some.inj hP
        obtain ⟨hroot, hylt⟩ := sqrtMod3mod4_eq_some hp hs
        rw [show c.rhs (Bytes.toNatBE rest) % c.p = c.rhs (Bytes.toNatBE rest) from Nat.mod_mod _ _] at hroot
        simp only [WCurve.onCurve, Bool.and_eq_true, decide_eq_true_eq, beq_iff_eq]
        refine ⟨⟨hx, hy'⟩, ?_⟩
        split
        · exact hroot
        · rw [sub_mul_self_mod hylt.le, hroot]
    · by_cases h2 : t = 4 ∧ rest.length = 2 * c.coordLen
      · obtain ⟨rfl, -⟩ := h2
        obtain ⟨-, hon, rfl⟩ := (EccLemmas.decode_04_eq_some c rest P).mp h
        exact hon
      · rw [WCurve.decode, if_neg h1, if_neg h2] at h
        cases h

theorem wDecodePub_onCurve (ct : CurveT) (hp : 0 < ct.wcurve.p) {b : Bytes} {P : WPoint}
    (h : wDecodePub ct b = some P) : ct.wcurve.onCurve P = true := by
  unfold wDecodePub at h
  cases hd : ct.wcurve.decode b with
  | some p => rw [hd] at h; cases h; exact decode_onCurve _ hp hd
  | none =>
    rw [hd] at h
    simp only at h
    split at h
    · cases b with
      | nil => cases h
      | cons pfx rest =>
        simp only at h
        split at h
        · cases hd4 : ct.wcurve.decode (4 :: rest) with
          | none => rw [hd4] at h; cases h
          | some q =>
            rw [hd4] at h
            cases q with
            | inf => cases h
            | aff x y =>
              simp only at h
              split at h
              · cases h; exact decode_onCurve _ hp hd4
              · cases h
        · cases h
    · split at h
      · exact decode_onCurve _ hp h
      · cases h

theorem keyCanon_of (ct : CurveT) (hct : ct = .secp256k1 ∨ ct = .nist256p1) [Valid ct.wcurve]
    (h34 : ct.wcurve.p % 4 = 3) : KeyCanon ct := by
  intro pub k h
  rw [EccLemmas.pubFromBytes_ecdsa_eq ct hct] at h
  obtain ⟨P, hd, hc⟩ := Option.bind_eq_some_iff.mp h
  exact pubFromBytes_of_compress hct h34 (wDecodePub_onCurve ct p_pos hd) hc

theorem keyCanon_secp256k1 : KeyCanon .secp256k1 :=
  @keyCanon_of .secp256k1 (Or.inl rfl) valid_secp256k1 (by decide +kernel)

theorem keyCanon_nist256p1 : KeyCanon .nist256p1 :=
  @keyCanon_of .nist256p1 (Or.inr rfl) valid_nist256p1 (by decide +kernel)

end BipVerif.KeyCanonProof
