/-
Monero wallet: scalar reduction, the wallet constructors and `MoneroSubaddress.ComputeKeys` as
decision trees, the layout of the sub-address message.
Hashes (`keccak256`) and curve arithmetic (`edMulBase`, `edAdd`, `edMul`) are never unfolded, except
for two representation facts (`edAdd` returns reduced coordinates, `edMul` reduces its operand) and
the point-by-point check that the eight small-order points are refused by `edMulNoclamp`.
-/
import BipVerif.Model.Monero
import BipVerif.Lemmas.IntBytes
import BipVerif.Lemmas.Base58Xmr
import BipVerif.Lemmas.Slip10
import BipVerif.Lemmas.Ecc

namespace BipVerif.Model.MoneroLemmas
open BipVerif BipVerif.Prim BipVerif.Model

theorem scReduce_length (b : Bytes) : (scReduce b).length = 32 := by
  unfold scReduce; exact length_ofNatLE 32 _

theorem scReduce_toNatLE (b : Bytes) : Bytes.toNatLE (scReduce b) = Bytes.toNatLE b % edL := by
  unfold scReduce
  exact toNatLE_ofNatLE (Nat.lt_trans (Nat.mod_lt _ EccLemmas.edL_pos) EccLemmas.edL_lt)

theorem scReduce_lt (b : Bytes) : Bytes.toNatLE (scReduce b) < edL := by
  rw [scReduce_toNatLE]; exact Nat.mod_lt _ EccLemmas.edL_pos

theorem privValid_monero_iff (k : Bytes) :
    privValid .ed25519Monero k = true ↔ k.length = 32 ∧ Bytes.toNatLE k < edL := by
  unfold privValid; simp

theorem scReduce_valid (b : Bytes) : privValid .ed25519Monero (scReduce b) = true :=
  (privValid_monero_iff _).mpr ⟨scReduce_length b, scReduce_lt b⟩

theorem scReduce_of_valid (k : Bytes) (h : privValid .ed25519Monero k = true) : scReduce k = k := by
  obtain ⟨hl, hlt⟩ := (privValid_monero_iff k).mp h
  unfold scReduce
  rw [Nat.mod_eq_of_lt hlt, ← hl]
  exact ofNatLE_toNatLE k

theorem scReduce_idem (b : Bytes) : scReduce (scReduce b) = scReduce b :=
  scReduce_of_valid _ (scReduce_valid b)

theorem xmrPubOfPriv_eq (k : Bytes) :
    xmrPubOfPriv k =
      if privValid .ed25519Monero k = true then
        (if edMulBase (edNoClampScalar k) = edIdentity then .error .value
         else .ok (edEncode (edMulBase (edNoClampScalar k))))
      else .error .key := by
  unfold xmrPubOfPriv pubOfPriv
  cases hv : privValid .ed25519Monero k
  · simp [throw, throwThe, MonadExceptOf.throw]
  · by_cases hp : edMulBase (edNoClampScalar k) = edIdentity
    · simp [hp, throw, throwThe, MonadExceptOf.throw]
    · simp [hp, pure, Except.pure]

theorem xmrPubOfPriv_ok {k p : Bytes} (h : xmrPubOfPriv k = .ok p) :
    privValid .ed25519Monero k = true ∧ edMulBase (edNoClampScalar k) ≠ edIdentity ∧
      p = edEncode (edMulBase (edNoClampScalar k)) := by
  rw [xmrPubOfPriv_eq] at h
  split at h
  · rename_i hv
    split at h
    · cases h
    · rename_i hp
      exact ⟨hv, hp, (Except.ok.inj h).symm⟩
  · cases h

theorem xmrPubOfPriv_length {k p : Bytes} (h : xmrPubOfPriv k = .ok p) : p.length = 32 := by
  rw [(xmrPubOfPriv_ok h).2.2]; exact EccLemmas.edEncode_length _

theorem xmrPubOfPriv_error {k : Bytes} {e : Err} (h : xmrPubOfPriv k = .error e) :
    e = .key ∨ e = .value := by
  rw [xmrPubOfPriv_eq] at h
  split at h
  · split at h
    · exact Or.inr (Except.error.inj h).symm
    · cases h
  · exact Or.inl (Except.error.inj h).symm

/-- after `sc_reduce` the key check cannot fail: only the zero scalar is refused -/
theorem xmrPubOfPriv_scReduce_error {b : Bytes} {e : Err} (h : xmrPubOfPriv (scReduce b) = .error e) :
    e = .value := by
  rw [xmrPubOfPriv_eq, if_pos (scReduce_valid b)] at h
  split at h
  · exact (Except.error.inj h).symm
  · cases h

/-- the constructor without its guards (the second one, on the view key, never fires) -/
theorem xmrFromSpend_eq (k : Bytes) :
    xmrFromSpend k =
      if privValid .ed25519Monero k = true then
        xmrPubOfPriv k >>= fun ps => xmrPubOfPriv (scReduce (keccak256 k)) >>= fun pv =>
          .ok { privSpend := some k, privView := scReduce (keccak256 k), pubSpend := ps, pubView := pv }
      else .error .key := by
  unfold xmrFromSpend
  dsimp only
  rw [guard_not, guard_not, if_pos (scReduce_valid _)]
  rfl

theorem xmrFromSpend_ok {k : Bytes} {w : XmrWallet} (h : xmrFromSpend k = .ok w) :
    privValid .ed25519Monero k = true ∧ w.privSpend = some k ∧
      w.privView = scReduce (keccak256 k) ∧ xmrPubOfPriv k = .ok w.pubSpend ∧
      xmrPubOfPriv w.privView = .ok w.pubView := by
  rw [xmrFromSpend_eq] at h
  split at h
  · rename_i hv
    obtain ⟨ps, hps, h⟩ := bind_ok_inv h
    obtain ⟨pv, hpv, h⟩ := bind_ok_inv h
    cases h
    exact ⟨hv, rfl, rfl, hps, hpv⟩
  · cases h

theorem bind2_error {P : Err → Prop} {α β γ} {x : R α} {y : R β} {mk : α → β → γ} {e : Err}
    (hx : ∀ e, x = .error e → P e) (hy : ∀ e, y = .error e → P e)
    (h : (x >>= fun a => y >>= fun b => .ok (mk a b)) = .error e) : P e := by
  rcases bind_error_inv h with h | ⟨a, _, h⟩
  · exact hx e h
  · rcases bind_error_inv h with h | ⟨b, _, h⟩
    · exact hy e h
    · cases h

theorem xmrFromSpend_error {k : Bytes} {e : Err} (h : xmrFromSpend k = .error e) :
    e = .key ∨ e = .value := by
  rw [xmrFromSpend_eq] at h
  split at h
  · exact bind2_error (P := fun e => e = .key ∨ e = .value) (fun _ => xmrPubOfPriv_error)
      (fun _ => xmrPubOfPriv_error) h
  · exact Or.inl (Except.error.inj h).symm

/-- a reduced spend key passes every key check, so only the `ValueError` of a zero scalar is left -/
theorem xmrFromSpend_scReduce_error {b : Bytes} {e : Err} (h : xmrFromSpend (scReduce b) = .error e) :
    e = .value := by
  rw [xmrFromSpend_eq, if_pos (scReduce_valid b)] at h
  exact bind2_error (P := fun e => e = .value) (fun _ => xmrPubOfPriv_scReduce_error)
    (fun _ => xmrPubOfPriv_scReduce_error) h

theorem pubFromBytes_monero_of_length {b k : Bytes} (hb : b.length = 32)
    (h : pubFromBytes .ed25519Monero b = some k) : k = b := by
  have := (EccLemmas.pubFromBytes_ed_ok _ (.inr (.inr (.inr rfl))) b k h).2.2
  rwa [if_pos rfl, EccLemmas.edStripPrefix_of_length_32 _ hb] at this

theorem xmrWatchOnly_eq (view pubSpend : Bytes) :
    xmrWatchOnly view pubSpend =
      if privValid .ed25519Monero view = true then
        match pubFromBytes .ed25519Monero pubSpend with
        | none => .error .key
        | some ps => xmrPubOfPriv view >>= fun pv =>
            .ok { privSpend := none, privView := view, pubSpend := ps, pubView := pv }
      else .error .key := by
  unfold xmrWatchOnly
  dsimp only
  rw [guard_not]
  cases pubFromBytes .ed25519Monero pubSpend <;> rfl

theorem xmrWatchOnly_ok {view pubSpend : Bytes} {w : XmrWallet}
    (h : xmrWatchOnly view pubSpend = .ok w) :
    privValid .ed25519Monero view = true ∧ w.privSpend = none ∧ w.privView = view ∧
      pubFromBytes .ed25519Monero pubSpend = some w.pubSpend ∧
      xmrPubOfPriv view = .ok w.pubView := by
  rw [xmrWatchOnly_eq] at h
  split at h
  · rename_i hv
    split at h
    · cases h
    · rename_i ps hps
      obtain ⟨pv, hpv, h⟩ := bind_ok_inv h
      cases h
      exact ⟨hv, rfl, rfl, hps, hpv⟩
  · cases h

/-- the message hashed by `MoneroSubaddress.ComputeKeys`:
`"SubAddr" ‖ 00 ‖ a ‖ le32(major) ‖ le32(minor)` -/
def subaddrMsg (a : Bytes) (major minor : Nat) : Bytes :=
  "SubAddr".toUTF8.toList ++ [0] ++ a ++ Bytes.ofNatLE 4 major ++ Bytes.ofNatLE 4 minor

theorem subaddrMsg_eq (a : Bytes) (major minor : Nat) :
    subaddrMsg a major minor =
      "SubAddr".toUTF8.toList ++ [0] ++ a ++ Bytes.ofNatLE 4 major ++ Bytes.ofNatLE 4 minor := rfl

theorem ofNatLE4_inj {m m' : Nat} (hm : m < 2 ^ 32) (hm' : m' < 2 ^ 32)
    (h : Bytes.ofNatLE 4 m = Bytes.ofNatLE 4 m') : m = m' := by
  have h1 := toNatLE_ofNatLE (n := 4) (v := m) (by omega)
  have h2 := toNatLE_ofNatLE (n := 4) (v := m') (by omega)
  rw [← h1, ← h2, h]

theorem subaddrMsg_inj {a a' : Bytes} {major minor major' minor' : Nat} (hl : a.length = a'.length)
    (hM : major < 2 ^ 32) (hm : minor < 2 ^ 32) (hM' : major' < 2 ^ 32) (hm' : minor' < 2 ^ 32)
    (h : subaddrMsg a major minor = subaddrMsg a' major' minor') :
    a = a' ∧ major = major' ∧ minor = minor' := by
  unfold subaddrMsg at h
  simp only [List.append_assoc] at h
  have h1 := List.append_cancel_left h
  have h2 := List.append_cancel_left h1
  obtain ⟨ha, h3⟩ := List.append_inj h2 hl
  obtain ⟨hA, hB⟩ := List.append_inj h3 (by simp)
  exact ⟨ha, ofNatLE4_inj hM hM' hA, ofNatLE4_inj hm hm' hB⟩

theorem edNorm_idem (P : EdPoint) : edNorm (edNorm P) = edNorm P := by
  simp [edNorm]

theorem edNorm_edAdd (P Q : EdPoint) : edNorm (edAdd P Q) = edAdd P Q := by
  simp [edNorm, edAdd]

theorem edMul_edNorm (k : Nat) (P : EdPoint) : edMul k (edNorm P) = edMul k P := by
  have h : edExtOfAffine (edNorm P) = edExtOfAffine P := by
    simp [edExtOfAffine, edNorm]
  unfold edMul
  rw [h]

/-- `edMulNoclamp` without the `let`s: the three refusals, in order -/
theorem edMulNoclamp_eq (k : Nat) (P : EdPoint) :
    edMulNoclamp k P =
      if edNorm P = edIdentity then none
      else if edMul edL P ≠ edIdentity then none
      else if edMul (k % 2 ^ 255) P = edIdentity then none
      else some (edMul (k % 2 ^ 255) P) := by
  unfold edMulNoclamp
  simp only [edMul_edNorm]

/-- success: the operand is a non-identity point of the prime-order subgroup and the product is
not the identity -/
theorem edMulNoclamp_eq_some_iff (k : Nat) (P r : EdPoint) :
    edMulNoclamp k P = some r ↔
      edNorm P ≠ edIdentity ∧ edMul edL P = edIdentity ∧
        edMul (k % 2 ^ 255) P ≠ edIdentity ∧ r = edMul (k % 2 ^ 255) P := by
  rw [edMulNoclamp_eq]
  by_cases h1 : edNorm P = edIdentity
  · simp [h1]
  by_cases h2 : edMul edL P = edIdentity
  · by_cases h3 : edMul (k % 2 ^ 255) P = edIdentity
    · rw [if_neg h1, if_neg (not_not.mpr h2), if_pos h3]
      constructor
      · intro h; cases h
      · intro h; exact absurd h3 h.2.2.1
    · rw [if_neg h1, if_neg (not_not.mpr h2), if_neg h3]
      constructor
      · intro h; exact ⟨h1, h2, h3, (Option.some.inj h).symm⟩
      · intro h; rw [h.2.2.2]
  · rw [if_neg h1, if_pos h2]
    constructor
    · intro h; cases h
    · intro h; exact absurd h.2.1 h2

theorem edMulNoclamp_eq_none_iff (k : Nat) (P : EdPoint) :
    edMulNoclamp k P = none ↔
      edNorm P = edIdentity ∨ edMul edL P ≠ edIdentity ∨ edMul (k % 2 ^ 255) P = edIdentity := by
  rw [edMulNoclamp_eq]
  by_cases h1 : edNorm P = edIdentity
  · simp [h1]
  by_cases h2 : edMul edL P = edIdentity
  · by_cases h3 : edMul (k % 2 ^ 255) P = edIdentity
    · rw [if_neg h1, if_neg (not_not.mpr h2), if_pos h3]
      exact ⟨fun _ => Or.inr (Or.inr h3), fun _ => rfl⟩
    · rw [if_neg h1, if_neg (not_not.mpr h2), if_neg h3]
      constructor
      · intro h; cases h
      · intro h
        rcases h with h | h | h
        · exact absurd h h1
        · exact absurd h2 h
        · exact absurd h h3
  · rw [if_neg h1, if_pos h2]
    exact ⟨fun _ => Or.inr (Or.inl h2), fun _ => rfl⟩

theorem edMulNoclamp_off_subgroup (k : Nat) {P : EdPoint}
    (h : edNorm P = edIdentity ∨ edMul edL P ≠ edIdentity) : edMulNoclamp k P = none := by
  rw [edMulNoclamp_eq_none_iff]
  rcases h with h | h
  · exact Or.inl h
  · exact Or.inr (Or.inl h)

/-- the eight points of small order (the multiples of the order-8 point with encoding
`c7176a70…ac037a`): identity, order 8, 4, 8, 2, 8, 4, 8 -/
def edSmallOrder : List EdPoint := [
  ⟨0, 1⟩,
  ⟨14399317868200118260347934320527232580618823971194345261214217575416788799818,
   55188659117513257062467267217118295137698188065244968500265048394206261417927⟩,
  ⟨38214883241950591754978413199355411911188925816896391856984770930832735035197, 0⟩,
  ⟨14399317868200118260347934320527232580618823971194345261214217575416788799818,
   2707385501144840649318225287225658788936804267575313519463743609750303402022⟩,
  ⟨0, 57896044618658097711785492504343953926634992332820282019728792003956564819948⟩,
  ⟨43496726750457979451437558183816721346016168361625936758514574428539776020131,
   2707385501144840649318225287225658788936804267575313519463743609750303402022⟩,
  ⟨19681161376707505956807079304988542015446066515923890162744021073123829784752, 0⟩,
  ⟨43496726750457979451437558183816721346016168361625936758514574428539776020131,
   55188659117513257062467267217118295137698188065244968500265048394206261417927⟩]

theorem edSmallOrder_spec :
    ∀ T ∈ edSmallOrder, edOnCurve T = true ∧ edMul 8 T = edIdentity := by decide +kernel

/-- `L` is odd, so `L·T ≠ (0,1)` for the seven non-identity small-order points: checked by
evaluation -/
theorem edSmallOrder_off_subgroup :
    ∀ T ∈ edSmallOrder, edNorm T = edIdentity ∨ edMul edL T ≠ edIdentity := by decide +kernel

theorem edMulNoclamp_small_order (k : Nat) {T : EdPoint} (h : T ∈ edSmallOrder) :
    edMulNoclamp k T = none :=
  edMulNoclamp_off_subgroup k (edSmallOrder_off_subgroup T h)

/-- `ComputeKeys` as a decision tree.  The last step `C = a·D` is libsodium's
`crypto_scalarmult_ed25519_noclamp` (`edMulNoclamp`). -/
theorem xmrSubaddrKeys_total (w : XmrWallet) (minor major : Nat) :
    xmrSubaddrKeys w minor major =
      if minor > 2 ^ 32 - 1 ∨ major > 2 ^ 32 - 1 then .error .value
      else if minor = 0 ∧ major = 0 then .ok (w.pubSpend, w.pubView)
      else match edDecodeLenient w.pubSpend with
      | none => .error .value
      | some b =>
        let mInt := Bytes.toNatLE (scReduce (keccak256 (subaddrMsg w.privView major minor)))
        if mInt = 0 then .error .value
        else
          let d := edAdd b (edMulBase mInt)
          match edMulNoclamp (Bytes.toNatLE w.privView % 2 ^ 255) d with
          | none => .error .value
          | some c => .ok (edEncode d, edEncode c) := by
  unfold xmrSubaddrKeys
  dsimp only
  rw [subaddrMsg_eq]
  conv_lhs => rw [natPow_eq_pow 2 255, natPow_eq_pow 2 32]
  -- only the shape matters from here on: keep the hash and the scalar out of the terms compared
  generalize Bytes.toNatLE (scReduce (keccak256 _)) = mInt
  generalize Bytes.toNatLE w.privView % 2 ^ 255 = a
  by_cases h1 : minor > 2 ^ 32 - 1
  · rw [if_pos h1, if_pos (Or.inl h1)]; rfl
  by_cases h2 : major > 2 ^ 32 - 1
  · rw [if_neg h1, if_pos h2, if_pos (Or.inr h2)]; rfl
  rw [if_neg h1, if_neg h2, if_neg (not_or.mpr ⟨h1, h2⟩)]
  by_cases h3 : minor = 0 ∧ major = 0
  · rw [if_pos (by simpa using h3), if_pos h3]; rfl
  rw [if_neg (by simpa using h3), if_neg h3]
  cases edDecodeLenient w.pubSpend with
  | none => rfl
  | some b =>
    dsimp only
    split
    · rfl
    · cases edMulNoclamp a (edAdd b (edMulBase mInt)) <;> rfl

theorem xmrSubaddrKeys_eq (w : XmrWallet) (minor major : Nat) (hm : minor ≤ 2 ^ 32 - 1)
    (hM : major ≤ 2 ^ 32 - 1) (hne : ¬ (minor = 0 ∧ major = 0)) :
    xmrSubaddrKeys w minor major =
      match edDecodeLenient w.pubSpend with
      | none => .error .value
      | some b =>
        let mInt := Bytes.toNatLE (scReduce (keccak256 (subaddrMsg w.privView major minor)))
        if mInt = 0 then .error .value
        else
          let d := edAdd b (edMulBase mInt)
          match edMulNoclamp (Bytes.toNatLE w.privView % 2 ^ 255) d with
          | none => .error .value
          | some c => .ok (edEncode d, edEncode c) := by
  rw [xmrSubaddrKeys_total, if_neg (by omega), if_neg hne]

theorem xmrSubaddrKeys_error {w : XmrWallet} {minor major : Nat} {e : Err}
    (h : xmrSubaddrKeys w minor major = .error e) : e = .value := by
  rw [xmrSubaddrKeys_total] at h
  split at h
  · exact (Except.error.inj h).symm
  split at h
  · cases h
  split at h
  · exact (Except.error.inj h).symm
  dsimp only at h
  split at h
  · exact (Except.error.inj h).symm
  split at h
  · exact (Except.error.inj h).symm
  · cases h

/-! ### the address functions read only `privView`, `pubSpend` and `pubView` -/

theorem xmrSubaddrKeys_congr {w w' : XmrWallet} (hv : w.privView = w'.privView)
    (hs : w.pubSpend = w'.pubSpend) (hp : w.pubView = w'.pubView) (minor major : Nat) :
    xmrSubaddrKeys w minor major = xmrSubaddrKeys w' minor major := by
  rw [xmrSubaddrKeys_total, xmrSubaddrKeys_total, hv, hs, hp]

theorem xmrPrimaryAddress_congr {w w' : XmrWallet} (hs : w.pubSpend = w'.pubSpend)
    (hp : w.pubView = w'.pubView) (nv : Bytes) : xmrPrimaryAddress w nv = xmrPrimaryAddress w' nv := by
  unfold xmrPrimaryAddress; rw [hs, hp]

theorem xmrSubaddress_congr {w w' : XmrWallet} (hv : w.privView = w'.privView)
    (hs : w.pubSpend = w'.pubSpend) (hp : w.pubView = w'.pubView) (nv snv : Bytes)
    (minor major : Nat) : xmrSubaddress w nv snv minor major = xmrSubaddress w' nv snv minor major := by
  unfold xmrSubaddress
  rw [xmrSubaddrKeys_congr hv hs hp, xmrPrimaryAddress_congr hs hp]

theorem xmrIntegratedAddress_congr {w w' : XmrWallet} (hs : w.pubSpend = w'.pubSpend)
    (hp : w.pubView = w'.pubView) (nv pid : Bytes) :
    xmrIntegratedAddress w nv pid = xmrIntegratedAddress w' nv pid := by
  unfold xmrIntegratedAddress; rw [hs, hp]

end BipVerif.Model.MoneroLemmas
