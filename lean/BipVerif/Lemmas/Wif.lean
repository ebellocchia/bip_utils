/- `wifDecode` is `b58CheckDecode` followed by `wifParse`; `wifParse` as a decision tree, its one
error kind, and what it accepts. -/
import BipVerif.Lemmas.Base58Check
import BipVerif.Lemmas.Except
import BipVerif.Model.Wif
import BipVerif.Lemmas.Ecc

namespace BipVerif.Model.XK
open BipVerif
open C14MoreLemmas (Only)

theorem privValid_secp_of_length_ne (k : Bytes) (h : k.length ≠ 32) :
    privValid .secp256k1 k = false := by
  cases hv : privValid .secp256k1 k
  · rfl
  · exact absurd (EccLemmas.privValid_secp_length hv) h

/-- `wifDecode` after `b58CheckDecode` (same text as the model). -/
def wifParse (netVer : UInt8) (dec : Bytes) : R (Bytes × Bool) :=
  match dec with
  | [] => throw .value
  | v :: rest => do
    if v ≠ netVer then throw .value
    if privValid .secp256k1 (dropLast rest 1) then
      if rest.getLast? ≠ some 1 then throw .value
      pure (dropLast rest 1, true)
    else
      if !privValid .secp256k1 rest then throw .value
      pure (rest, false)

theorem wifDecode_eq (H : Bytes → Bytes) (s : List Char) (netVer : UInt8) :
    wifDecode H s netVer = b58CheckDecode H btcAlphabet s >>= wifParse netVer := by
  unfold wifDecode
  cases b58CheckDecode H btcAlphabet s with
  | error e => rfl
  | ok dec => cases dec <;> rfl

theorem wifParse_cons (netVer v : UInt8) (rest : Bytes) :
    wifParse netVer (v :: rest) =
      if v ≠ netVer then .error .value
      else if privValid .secp256k1 (dropLast rest 1) = true then
        (if rest.getLast? = some 1 then .ok (dropLast rest 1, true) else .error .value)
      else if privValid .secp256k1 rest = true then .ok (rest, false) else .error .value := by
  unfold wifParse
  by_cases hv : v = netVer
  · cases h1 : privValid .secp256k1 (dropLast rest 1)
    · cases h2 : privValid .secp256k1 rest <;>
        simp [hv, h1, h2, bind, Except.bind, pure, Except.pure, throw, throwThe, MonadExceptOf.throw]
    · by_cases h3 : rest.getLast? = some 1 <;>
        simp [hv, h1, h3, bind, Except.bind, pure, Except.pure, throw, throwThe, MonadExceptOf.throw]
  · simp [hv, bind, Except.bind, throw, throwThe, MonadExceptOf.throw]

theorem wifParse_error (netVer : UInt8) (dec : Bytes) (e : Err) (h : wifParse netVer dec = .error e) :
    e = .value := by
  cases dec with
  | nil => exact (Except.error.inj h).symm
  | cons v rest =>
    refine Only.h (P := (· = .value)) ?_ e h
    rw [wifParse_cons]
    exact .ite (fun _ => .error rfl) fun _ => .ite (fun _ => .ite (fun _ => .ok _) fun _ => .error rfl)
      fun _ => .ite (fun _ => .ok _) fun _ => .error rfl

/-- what the payload parser accepts: `v ‖ k` or `v ‖ k ‖ 01` with `k` a valid key.  A valid key has
32 bytes, so `k` with its last byte dropped is never one: the two layouts cannot be confused. -/
theorem wifParse_ok_iff (v : UInt8) (dec k : Bytes) (c : Bool) :
    wifParse v dec = .ok (k, c) ↔
      privValid .secp256k1 k = true ∧ dec = [v] ++ k ++ (if c then [1] else []) := by
  constructor
  · intro h
    cases dec with
    | nil => cases h
    | cons v' rest =>
      rw [wifParse_cons] at h
      obtain ⟨hv, h'⟩ := (ite_error_eq_ok ..).mp h
      clear h
      obtain rfl : v' = v := not_not.mp hv
      by_cases h1 : privValid .secp256k1 (dropLast rest 1) = true
      · rw [if_pos h1, ite_else_error_eq_ok] at h'
        obtain ⟨h2, h'⟩ := h'
        cases h'
        exact ⟨h1, congrArg (v' :: ·) (dropLast_append_of_getLast? rest 1 h2).symm⟩
      · rw [if_neg h1, ite_else_error_eq_ok] at h'
        obtain ⟨h2, h'⟩ := h'
        cases h'
        exact ⟨h2, congrArg (v' :: ·) (List.append_nil _).symm⟩
  · rintro ⟨hk, rfl⟩
    have hlen := EccLemmas.privValid_secp_length hk
    rw [List.append_assoc, List.singleton_append, wifParse_cons, if_neg (not_not.mpr rfl)]
    cases c
    · rw [if_neg Bool.false_ne_true, List.append_nil, if_pos hk, if_neg]
      rw [privValid_secp_of_length_ne _ (by unfold dropLast; rw [List.length_take]; omega)]
      exact Bool.false_ne_true
    · rw [if_pos rfl, dropLast_append_singleton, if_pos hk, if_pos (List.getLast?_concat ..)]

end BipVerif.Model.XK
