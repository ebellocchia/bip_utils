/-
The BIP-44 hierarchy model (`b44Admit`, `b44Child`, `b44Step`, `b44Run`). The depth test of
`Bip44Base.__init__` is the decidable invariant `Inv`; a single-level derivation op is a type check, a
level check, then `childKey` followed by the `Inv` test (`b44Step_child`); along a level-consistent
sequence of ops the `Inv` tests never fire and the run is plain `childKey` derivation
(`b44Run_levelSeq`). Of `childKey` only `childKey_ok` and the refusal lemmas of
`Lemmas/Bip32Nodes.lean` are used, nothing of the cryptography.
-/
import BipVerif.Lemmas.Bip32Nodes
import BipVerif.Model.Bip44

namespace BipVerif.Model
open BipVerif

theorem R.ok_bind {α β} (a : α) (f : α → R β) : (Except.ok a >>= f) = f a := Model.ok_bind a f

theorem R.error_bind {α β} (e : Err) (f : α → R β) : ((Except.error e : R α) >>= f) = .error e := Model.error_bind e f

theorem R.bind_congr_ok {α β} (x : R α) (f g : α → R β) (h : ∀ a, x = .ok a → f a = g a) :
    (x >>= f) = (x >>= g) := by
  cases x with
  | error e => rfl
  | ok a => exact h a rfl

theorem Node.isPublicOnly_iff (n : Node) : n.isPublicOnly = true ↔ n.priv = none :=
  Option.isNone_iff_eq_none

theorem Node.isPublicOnly_false_iff (n : Node) : n.isPublicOnly = false ↔ n.priv.isSome = true := by
  unfold Node.isPublicOnly; cases n.priv <;> simp

theorem isPublicOnly_false_of_hardened_child {nd idx c} (h : childKey nd idx = .ok c)
    (hh : isHardened idx = true) : nd.isPublicOnly ≠ true := fun hp => by
  rw [childKey_pub_hardened nd idx ((Node.isPublicOnly_iff nd).1 hp) (childKey_ok h).idx_lt hh] at h
  cases h

theorem pubDerivationSupported_congr {a b : Node} (hc : a.curve = b.curve)
    (hs : a.scheme = b.scheme) : pubDerivationSupported a = pubDerivationSupported b := by
  unfold pubDerivationSupported; rw [hc, hs]

theorem pubDerivationSupported_child {nd idx c} (h : IsChildOf nd idx c) :
    pubDerivationSupported c = pubDerivationSupported nd :=
  pubDerivationSupported_congr h.curve h.scheme

theorem pubDerivationSupported_false_iff (nd : Node) :
    pubDerivationSupported nd = false ↔ nd.scheme = .slip10 ∧ nd.curve.isEcdsa = false := by
  unfold pubDerivationSupported
  cases nd.scheme <;> simp

/-- the invariant of a wrapped object: depth at most 5 (address index level), and a public-only
object sits at the account level or below it -/
def Inv (nd : Node) : Prop := nd.depth ≤ 5 ∧ (nd.isPublicOnly = true → 3 ≤ nd.depth)

instance (nd : Node) : Decidable (Inv nd) := by unfold Inv; infer_instance

theorem b44Admit_of_inv {nd : Node} (h : Inv nd) : b44Admit nd = .ok nd := by
  have h5 := h.1
  unfold b44Admit
  cases hp : nd.isPublicOnly
  · exact if_neg (Nat.not_lt.2 h5)
  · rw [if_pos rfl, if_neg]
    · rfl
    · rw [Bool.or_eq_true, decide_eq_true_iff, decide_eq_true_iff]
      exact fun hd => hd.elim (Nat.not_lt.2 (h.2 hp)) (Nat.not_lt.2 h5)

theorem b44Admit_of_not_inv {nd : Node} (h : ¬ Inv nd) : b44Admit nd = .error .depth := by
  unfold Inv at h
  unfold b44Admit
  cases hp : nd.isPublicOnly
  · exact if_pos (Nat.lt_of_not_le fun h5 => h ⟨h5, fun h' => by rw [hp] at h'; cases h'⟩)
  · rw [if_pos rfl, if_pos]
    · rfl
    · rw [Bool.or_eq_true, decide_eq_true_iff, decide_eq_true_iff]
      by_cases h5 : nd.depth ≤ 5
      · exact Or.inl (Nat.lt_of_not_le fun h3 => h ⟨h5, fun _ => h3⟩)
      · exact Or.inr (Nat.lt_of_not_le h5)

theorem b44Admit_eq (nd : Node) : b44Admit nd = if Inv nd then .ok nd else .error .depth := by
  split
  · exact b44Admit_of_inv ‹_›
  · exact b44Admit_of_not_inv ‹_›

theorem b44Admit_ok_iff (nd nd' : Node) : b44Admit nd = .ok nd' ↔ nd' = nd ∧ Inv nd := by
  rw [b44Admit_eq]
  split
  · exact ⟨fun h => ⟨(Except.ok.inj h).symm, ‹_›⟩, fun h => by rw [h.1]⟩
  · exact ⟨fun h => (nomatch h), fun h => absurd h.2 ‹_›⟩

/-- `Inv` spelled as the two-branch test of `Bip44Base.__init__` -/
theorem inv_iff_ctor (nd : Node) :
    Inv nd ↔ (if nd.isPublicOnly then 3 ≤ nd.depth ∧ nd.depth ≤ 5 else nd.depth ≤ 5) := by
  unfold Inv
  cases nd.isPublicOnly
  · exact ⟨fun h => h.1, fun h => ⟨h, fun hp => nomatch hp⟩⟩
  · exact ⟨fun h => ⟨h.2 rfl, h.1⟩, fun h => ⟨h.2, fun _ => h.1⟩⟩

theorem b44Child_eq (nd : Node) (idx : Nat) : b44Child nd idx = (childKey nd idx >>= b44Admit) := rfl

theorem b44Child_ok_iff {nd idx c} : b44Child nd idx = .ok c ↔ childKey nd idx = .ok c ∧ Inv c := by
  rw [b44Child_eq, bind_eq_ok_iff]
  constructor
  · rintro ⟨a, ha, hc⟩
    obtain ⟨rfl, hi⟩ := (b44Admit_ok_iff a c).1 hc
    exact ⟨ha, hi⟩
  · rintro ⟨hc, hi⟩
    exact ⟨c, hc, b44Admit_of_inv hi⟩

/-- a child of a node above the address-index level is admissible unless it is a public-only node
above the account level; the latter cannot arise from a hardened index -/
theorem inv_of_child {nd idx c} (h : childKey nd idx = .ok c) (hd : nd.depth ≤ 4)
    (hp : nd.isPublicOnly = true → 2 ≤ nd.depth ∨ isHardened idx = true) : Inv c := by
  have hc := childKey_ok h
  refine ⟨hc.depth ▸ Nat.succ_le_succ hd, fun hpc => ?_⟩
  rw [hc.isPublicOnly] at hpc
  rcases hp hpc with h2 | hh
  · exact hc.depth ▸ Nat.succ_le_succ h2
  · exact absurd hpc (isPublicOnly_false_of_hardened_child h hh)

theorem b44Child_eq_childKey (nd : Node) (idx : Nat) (hd : nd.depth ≤ 4)
    (hp : nd.isPublicOnly = true → 2 ≤ nd.depth ∨ isHardened idx = true) :
    b44Child nd idx = childKey nd idx := by
  rw [b44Child_eq]
  cases h : childKey nd idx with
  | error e => rfl
  | ok c => exact b44Admit_of_inv (inv_of_child h hd hp)

/-! ### one derivation op = type check, level check, `b44Child` -/

/-- the level (depth of the wrapped object) a derivation op expects -/
def B44Op.level : B44Op → Option Nat
  | .purpose => some 0
  | .coin => some 1
  | .account _ => some 2
  | .change _ => some 3
  | .addrIdx _ => some 4
  | .deriveDefault => some 0
  | _ => none

/-- the `Bip44Changes` enum check -/
def B44Op.typeOk : B44Op → Bool
  | .change c => decide (c ≤ 1)
  | _ => true

/-- the child number a single-level derivation op asks `ChildKey` for (`psup`: whether the
derivator supports public derivation); `none` for the other ops -/
def b44ChildIdx (purpose coinIdx : Nat) (psup : Bool) : B44Op → Option Nat
  | .purpose => some (harden purpose)
  | .coin => some (harden coinIdx)
  | .account i => some (harden i)
  | .change c => some (if psup then c else harden c)
  | .addrIdx i => some (if psup then i else harden i)
  | _ => none

variable {purpose coinIdx : Nat} {defPath : Path}

theorem b44ChildIdx_level {psup op idx d}
    (hi : b44ChildIdx purpose coinIdx psup op = some idx) (hl : op.level = some d) :
    d ≤ 4 ∧ (2 ≤ d ∨ isHardened idx = true) := by
  cases op with
  | purpose | coin | account _ =>
    cases hi; cases hl
    exact ⟨by decide, Or.inr (isHardened_harden _)⟩
  | change _ | addrIdx _ =>
    cases hl
    exact ⟨by decide, Or.inl (by decide)⟩
  | deriveDefault | neuter | reimportX | reimportRaw _ => cases hi

/-- the level check of a derivation method that has no type check, in the form of `b44Step_child` -/
theorem levelCheck_eq (L d : Nat) (x : R Node) :
    (if d ≠ L then throw .depth else x) =
      if true = false then .error .type else if some L ≠ some d then .error .depth else x := by
  rw [if_neg (Bool.noConfusion : ¬ true = false)]
  by_cases h : d = L
  · rw [if_neg (not_not_intro h), if_neg (not_not_intro (congrArg some h.symm))]
  · rw [if_pos h, if_pos fun e => h (Option.some.inj e).symm]
    rfl

theorem b44Step_child (nd : Node) (op : B44Op) (idx : Nat)
    (hi : b44ChildIdx purpose coinIdx (pubDerivationSupported nd) op = some idx) :
    b44Step purpose coinIdx defPath nd op =
      if op.typeOk = false then .error .type
      else if op.level ≠ some nd.depth then .error .depth
      else b44Child nd idx := by
  cases op with
  | purpose | coin | account _ | addrIdx _ =>
    cases hi
    exact levelCheck_eq _ nd.depth _
  | change c =>
    cases hi
    show (if c > 1 then throw .type else if nd.depth ≠ 3 then throw .depth else b44Child nd _) = _
    by_cases hc : c ≤ 1
    · rw [if_neg (Nat.not_lt.2 hc), show B44Op.typeOk (.change c) = true from decide_eq_true hc]
      exact levelCheck_eq 3 nd.depth _
    · rw [if_pos (Nat.lt_of_not_le hc), show B44Op.typeOk (.change c) = false from decide_eq_false hc,
        if_pos rfl]
      rfl
  | deriveDefault | neuter | reimportX | reimportRaw _ => cases hi

theorem b44Step_child_ok {nd op idx nd'}
    (hi : b44ChildIdx purpose coinIdx (pubDerivationSupported nd) op = some idx)
    (h : b44Step purpose coinIdx defPath nd op = .ok nd') :
    op.typeOk = true ∧ op.level = some nd.depth ∧ childKey nd idx = .ok nd' ∧ Inv nd' := by
  rw [b44Step_child nd op idx hi] at h
  cases ht : op.typeOk
  · rw [ht, if_pos rfl] at h
    cases h
  · rw [ht, if_neg Bool.noConfusion] at h
    by_cases hl : op.level = some nd.depth
    · rw [if_neg (not_not_intro hl)] at h
      exact ⟨rfl, hl, b44Child_ok_iff.1 h⟩
    · rw [if_pos hl] at h
      cases h

theorem b44Step_eq_b44Child {nd op idx}
    (hi : b44ChildIdx purpose coinIdx (pubDerivationSupported nd) op = some idx)
    (ht : op.typeOk = true) (hl : op.level = some nd.depth) :
    b44Step purpose coinIdx defPath nd op = b44Child nd idx := by
  rw [b44Step_child nd op idx hi, if_neg (ne_false_of_eq_true ht),
    if_neg (not_not_intro hl)]

/-- at its own level a well-typed single-level derivation op *is* `ChildKey` — the admissibility
check after it never fires, whatever the node (a public-only node above the account level is
refused by `ChildKey` itself, because the index is hardened) -/
theorem b44Step_eq_childKey (nd : Node) (op : B44Op) (idx : Nat)
    (hi : b44ChildIdx purpose coinIdx (pubDerivationSupported nd) op = some idx)
    (ht : op.typeOk = true) (hl : op.level = some nd.depth) :
    b44Step purpose coinIdx defPath nd op = childKey nd idx := by
  obtain ⟨h4, hh⟩ := b44ChildIdx_level hi hl
  exact (b44Step_eq_b44Child hi ht hl).trans (b44Child_eq_childKey nd idx h4 fun _ => hh)

theorem b44Step_public_hardened {nd op j} (hp : nd.priv = none)
    (hi : b44ChildIdx purpose coinIdx (pubDerivationSupported nd) op = some (harden j))
    (ht : op.typeOk = true) (hl : op.level = some nd.depth) (hj : j < 2 ^ 32) :
    b44Step purpose coinIdx defPath nd op = .error .key := by
  rw [b44Step_eq_childKey nd op _ hi ht hl]
  exact childKey_pub_hardened nd _ hp (harden_lt j hj) (isHardened_harden j)

theorem b44Run_nil (purpose coinIdx : Nat) (defPath : Path) (nd : Node) :
    b44Run purpose coinIdx defPath nd [] = .ok nd := rfl

theorem b44Run_cons (nd : Node) (op : B44Op) (ops : List B44Op) :
    b44Run purpose coinIdx defPath nd (op :: ops) =
      (b44Step purpose coinIdx defPath nd op >>= fun x => b44Run purpose coinIdx defPath x ops) :=
  List.foldlM_cons

theorem b44Run_append (purpose coinIdx : Nat) (defPath : Path) (nd : Node) (ops ops' : List B44Op) :
    b44Run purpose coinIdx defPath nd (ops ++ ops') =
      (b44Run purpose coinIdx defPath nd ops >>= fun x => b44Run purpose coinIdx defPath x ops') :=
  List.foldlM_append

/-- `ops` is a level-consistent sequence of well-typed single-level derivation ops starting at
depth `d`, and `idxs` are the child numbers they ask for -/
def LevelSeq (purpose coinIdx : Nat) (psup : Bool) : Nat → List B44Op → List Nat → Prop
  | _, [], [] => True
  | d, op :: ops, i :: is =>
    b44ChildIdx purpose coinIdx psup op = some i ∧ op.typeOk = true ∧ op.level = some d ∧
      LevelSeq purpose coinIdx psup (d + 1) ops is
  | _, _, _ => False

theorem LevelSeq.take {psup d ops idxs} (k : Nat)
    (h : LevelSeq purpose coinIdx psup d ops idxs) :
    LevelSeq purpose coinIdx psup d (ops.take k) (idxs.take k) := by
  induction k generalizing d ops idxs with
  | zero => trivial
  | succ k ih =>
    cases ops <;> cases idxs
    · trivial
    · exact h.elim
    · exact h.elim
    · exact ⟨h.1, h.2.1, h.2.2.1, ih h.2.2.2⟩

theorem LevelSeq.take_of_le {psup d n k} {ops : List B44Op} {idxs : List Nat} (hk : k ≤ n)
    (h : LevelSeq purpose coinIdx psup d (ops.take n) (idxs.take n)) :
    LevelSeq purpose coinIdx psup d (ops.take k) (idxs.take k) := by
  rw [← Nat.min_eq_left hk, ← List.take_take, ← List.take_take]
  exact h.take k

theorem b44Run_levelSeq (ops : List B44Op) (idxs : List Nat) (nd : Node)
    (h : LevelSeq purpose coinIdx (pubDerivationSupported nd) nd.depth ops idxs) :
    b44Run purpose coinIdx defPath nd ops = idxs.foldlM childKey nd := by
  induction ops generalizing idxs nd with
  | nil =>
    cases idxs with
    | nil => rfl
    | cons _ _ => exact h.elim
  | cons op ops ih =>
    cases idxs with
    | nil => exact h.elim
    | cons i is =>
      obtain ⟨hi, ht, hl, hrest⟩ := h
      rw [b44Run_cons, List.foldlM_cons, b44Step_eq_childKey nd op i hi ht hl]
      apply R.bind_congr_ok
      intro a ha
      have hc := childKey_ok ha
      apply ih is a
      rw [pubDerivationSupported_child hc, hc.depth]
      exact hrest

theorem b44Run_ok_plain (ops : List B44Op) (idxs : List Nat) (nd nd' : Node)
    (h : ops.map (b44ChildIdx purpose coinIdx (pubDerivationSupported nd)) = idxs.map some)
    (hr : b44Run purpose coinIdx defPath nd ops = .ok nd') : idxs.foldlM childKey nd = .ok nd' := by
  induction ops generalizing idxs nd with
  | nil =>
    cases idxs with
    | nil => exact hr
    | cons _ _ => cases h
  | cons op ops ih =>
    cases idxs with
    | nil => cases h
    | cons i is =>
      obtain ⟨hi, hrest⟩ := List.cons.inj h
      rw [b44Run_cons, bind_eq_ok_iff] at hr
      obtain ⟨a, ha, hr⟩ := hr
      have hck := (b44Step_child_ok hi ha).2.2.1
      rw [List.foldlM_cons, hck]
      rw [← pubDerivationSupported_child (childKey_ok hck)] at hrest
      exact ih is a hrest hr

theorem foldlM_childKey_ok (l : List Nat) (nd nd' : Node) (h : l.foldlM childKey nd = .ok nd') :
    nd'.depth = nd.depth + l.length ∧ nd'.curve = nd.curve ∧ nd'.scheme = nd.scheme ∧
      nd'.isPublicOnly = nd.isPublicOnly ∧ nd'.index = l.getLast?.getD nd.index := by
  induction l generalizing nd with
  | nil =>
    cases h
    exact ⟨rfl, rfl, rfl, rfl, rfl⟩
  | cons i l ih =>
    rw [List.foldlM_cons, bind_eq_ok_iff] at h
    obtain ⟨a, ha, h⟩ := h
    have hc := childKey_ok ha
    obtain ⟨h1, h2, h3, h4, h5⟩ := ih a h
    refine ⟨by rw [h1, hc.depth, List.length_cons, Nat.add_right_comm, Nat.add_assoc],
      h2.trans hc.curve, h3.trans hc.scheme, h4.trans hc.isPublicOnly, ?_⟩
    rw [h5, hc.index]
    cases l with
    | nil => rfl
    | cons j l => rw [List.getLast?_cons_cons, List.getLast?_cons]; rfl

theorem derivePathWith_of_relative (child : Node → Nat → R Node) (nd : Node) (p : Path)
    (h : p.absolute = false) : derivePathWith child nd p = p.elems.foldlM child nd := by
  unfold derivePathWith
  rw [h, Bool.and_false, if_neg Bool.noConfusion]

theorem b44Step_deriveDefault (nd : Node) :
    b44Step purpose coinIdx defPath nd .deriveDefault =
      if nd.depth ≠ 0 then .error .depth
      else b44Child nd (harden purpose) >>= fun a => b44Child a (harden coinIdx) >>= fun b =>
        derivePathWith childKey b defPath >>= b44Admit := by
  by_cases h : nd.depth ≠ 0
  · rw [if_pos h]
    exact if_pos h
  · rw [if_neg h]
    exact if_neg h

theorem b44Step_deriveDefault_ok {nd nd'}
    (h : b44Step purpose coinIdx defPath nd .deriveDefault = .ok nd') :
    nd.depth = 0 ∧ ∃ a b, childKey nd (harden purpose) = .ok a ∧
      childKey a (harden coinIdx) = .ok b ∧ derivePathWith childKey b defPath = .ok nd' ∧ Inv nd' := by
  rw [b44Step_deriveDefault] at h
  by_cases h0 : nd.depth = 0
  · rw [if_neg (not_not_intro h0)] at h
    obtain ⟨a, ha, h⟩ := bind_eq_ok_iff.1 h
    obtain ⟨b, hb, h⟩ := bind_eq_ok_iff.1 h
    obtain ⟨r, hr, h⟩ := bind_eq_ok_iff.1 h
    obtain ⟨rfl, hi⟩ := (b44Admit_ok_iff r nd').1 h
    exact ⟨h0, a, b, (b44Child_ok_iff.1 ha).1, (b44Child_ok_iff.1 hb).1, hr, hi⟩
  · rw [if_pos h0] at h
    cases h

theorem b44Step_deriveDefault_eq_plain (nd : Node)
    (h0 : nd.depth = 0) (hrel : defPath.absolute = false) (hlen : defPath.elems.length ≤ 3) :
    b44Step purpose coinIdx defPath nd .deriveDefault =
      (harden purpose :: harden coinIdx :: defPath.elems).foldlM childKey nd := by
  rw [List.foldlM_cons, b44Step_deriveDefault, if_neg (not_not_intro h0),
    b44Child_eq_childKey nd _ (by rw [h0]; decide) (fun _ => Or.inr (isHardened_harden _))]
  apply R.bind_congr_ok
  intro a ha
  have hca := childKey_ok ha
  rw [List.foldlM_cons,
    b44Child_eq_childKey a _ (by rw [hca.depth, h0]; decide)
      (fun _ => Or.inr (isHardened_harden _))]
  apply R.bind_congr_ok
  intro b hb
  have hcb := childKey_ok hb
  rw [derivePathWith_of_relative _ _ _ hrel]
  cases hr : defPath.elems.foldlM childKey b with
  | error e => rfl
  | ok r =>
    obtain ⟨hd, _, _, hp, _⟩ := foldlM_childKey_ok _ _ _ hr
    refine b44Admit_of_inv
      ⟨by rw [hd, hcb.depth, hca.depth, h0]; exact Nat.add_le_add_left hlen 2, fun hpr => ?_⟩
    rw [hp, hcb.isPublicOnly, hca.isPublicOnly] at hpr
    exact absurd hpr (isPublicOnly_false_of_hardened_child ha (isHardened_harden _))

/-- side condition of the run invariant: whenever the run reaches a `.neuter`, the object is at the
account level or below (`ConvertToPublic` on the wrapped BIP-32 object bypasses the constructor) -/
def NeuterSafe (purpose coinIdx : Nat) (defPath : Path) : Node → List B44Op → Prop
  | _, [] => True
  | nd, op :: ops => (op = .neuter → 3 ≤ nd.depth) ∧
      ∀ nd1, b44Step purpose coinIdx defPath nd op = .ok nd1 → NeuterSafe purpose coinIdx defPath nd1 ops

theorem inv_neuter_iff (nd : Node) : Inv nd.neuter ↔ 3 ≤ nd.depth ∧ nd.depth ≤ 5 :=
  ⟨fun h => ⟨h.2 rfl, h.1⟩, fun h => ⟨h.2, fun _ => h.1⟩⟩

/-- every successful op other than `.neuter` ends in the constructor's admissibility check -/
theorem b44Step_inv {nd op nd'} (hn : op ≠ .neuter)
    (h : b44Step purpose coinIdx defPath nd op = .ok nd') : Inv nd' := by
  cases op with
  | purpose | coin | account _ | change _ | addrIdx _ => exact (b44Step_child_ok rfl h).2.2.2
  | deriveDefault =>
    obtain ⟨_, _, _, _, _, _, hi⟩ := b44Step_deriveDefault_ok h
    exact hi
  | neuter => exact absurd rfl hn
  | reimportX | reimportRaw _ =>
    obtain ⟨rfl, hi⟩ := (b44Admit_ok_iff _ nd').1 h
    exact hi

theorem b44Run_inv (ops : List B44Op) (nd nd' : Node) (hi : Inv nd)
    (hs : NeuterSafe purpose coinIdx defPath nd ops)
    (h : b44Run purpose coinIdx defPath nd ops = .ok nd') : Inv nd' := by
  induction ops generalizing nd with
  | nil =>
    cases h
    exact hi
  | cons op ops ih =>
    rw [b44Run_cons, bind_eq_ok_iff] at h
    obtain ⟨a, ha, h⟩ := h
    refine ih a ?_ (hs.2 a ha) h
    by_cases hn : op = .neuter
    · subst hn
      cases ha
      exact (inv_neuter_iff nd).2 ⟨hs.1 rfl, hi.1⟩
    · exact b44Step_inv hn ha

theorem neuterSafe_of_not_mem (ops : List B44Op) (nd : Node) (h : B44Op.neuter ∉ ops) :
    NeuterSafe purpose coinIdx defPath nd ops := by
  induction ops generalizing nd with
  | nil => trivial
  | cons op ops ih =>
    exact ⟨fun e => absurd (e ▸ List.mem_cons_self) h,
      fun nd1 _ => ih nd1 fun e => h (List.mem_cons_of_mem op e)⟩

end BipVerif.Model
