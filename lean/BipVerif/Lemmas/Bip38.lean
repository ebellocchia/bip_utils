/-
BIP-38 (C13): XOR masks, payload slicing, the no-EC mode.
`scrypt`, `sha256d`, AES and secp256k1 arithmetic are never unfolded; the AES inverse property and
the group law enter the property theorems as explicit hypotheses.

Several sub-terms have the shape `secpPubOfPriv (… scrypt …)` or `secpMulG (toNatBE (scrypt …))`.
Neither the elaborator nor the kernel must ever be asked to *evaluate* such a term (weak-head
normalising `secpMulG x` forces `x % n`, hence a symbolic scrypt run).  Therefore the monadic
plumbing is never unfolded with `match`: `>>=` is inverted through the generic lemmas
`bind_ok_inv` / `bind_error_inv`, and computed forward with `ok_bind`.
-/
import BipVerif.Model.Bip38
import BipVerif.Lemmas.IntBytes
import BipVerif.Lemmas.Base58Check
import BipVerif.Lemmas.Except
import BipVerif.Lemmas.Ecc
import BipVerif.Lemmas.AddrBase58

namespace BipVerif.Model.Bip38Lemmas
open BipVerif BipVerif.Prim BipVerif.Model

theorem error_bind {α β} (e : Err) (f : α → R β) : ((Except.error e : R α) >>= f) = .error e :=
  Model.error_bind e f

theorem xorBytes_cons (x y : UInt8) (a b : Bytes) :
    xorBytes (x :: a) (y :: b) = (x ^^^ y) :: xorBytes a b := rfl

theorem xorBytes_length (a b : Bytes) : (xorBytes a b).length = min a.length b.length := by
  unfold xorBytes; simp

theorem xorBytes_xorBytes : ∀ (a b : Bytes), a.length ≤ b.length → xorBytes (xorBytes a b) b = a
  | [], _, _ => rfl
  | x :: a, [], h => by simp at h
  | x :: a, y :: b, h => by
    rw [xorBytes_cons, xorBytes_cons, xorBytes_xorBytes a b (by simpa using h)]
    congr 1
    rw [UInt8.xor_assoc, UInt8.xor_self, UInt8.xor_zero]

theorem xorBytes_append : ∀ (a1 a2 b1 b2 : Bytes), a1.length = b1.length →
    xorBytes (a1 ++ a2) (b1 ++ b2) = xorBytes a1 b1 ++ xorBytes a2 b2
  | [], _, [], _, _ => rfl
  | [], _, _ :: _, _, h => by simp at h
  | _ :: _, _, [], _, h => by simp at h
  | x :: a1, a2, y :: b1, b2, h => by
    simp only [List.cons_append, xorBytes_cons]
    rw [xorBytes_append a1 a2 b1 b2 (by simpa using h)]

theorem take_append_len {α} {n : Nat} (a b : List α) (h : a.length = n) : (a ++ b).take n = a := by
  subst h; simp

theorem drop_append_len {α} {n : Nat} (a b : List α) (h : a.length = n) : (a ++ b).drop n = b := by
  subst h; simp

theorem drop_take_mid {α} {n k : Nat} (a m c : List α) (ha : a.length = n) (hm : m.length = k) :
    ((a ++ (m ++ c)).drop n).take k = m := by
  rw [drop_append_len a _ ha, take_append_len m c hm]

/-- the layout both modes share: three header bytes, the 4-byte address hash, 32 more bytes -/
theorem payload_fields (x0 x1 x2 : UInt8) (ah r : Bytes) (hah : ah.length = 4) (hr : r.length = 32) :
    ([x0, x1, x2] ++ (ah ++ r)).length = 39 ∧ ([x0, x1, x2] ++ (ah ++ r))[2]? = some x2 ∧
    ([x0, x1, x2] ++ (ah ++ r)).take 2 = [x0, x1] ∧
    (([x0, x1, x2] ++ (ah ++ r)).drop 3).take 4 = ah ∧
    ∀ n, ([x0, x1, x2] ++ (ah ++ r)).drop (7 + n) = r.drop n := by
  refine ⟨?_, rfl, rfl, drop_take_mid _ _ _ rfl hah, fun n => ?_⟩
  · simp only [List.length_append, List.length_cons, List.length_nil]; omega
  · rw [← List.drop_drop, ← List.append_assoc, drop_append_len _ _ (by simp [hah])]

@[ov] theorem secpPubOfPriv_ov (k : Bytes) : OnlyValue (secpPubOfPriv k) := by
  unfold secpPubOfPriv
  repeat' split
  all_goals simp only [ov]

theorem secpPubOfPriv_ok {k p : Bytes} (h : secpPubOfPriv k = .ok p) :
    privValid .secp256k1 k = true ∧ pubOfPriv .secp256k1 k = some p := by
  unfold secpPubOfPriv at h
  split at h
  · cases h
  · rename_i hv
    split at h
    · rename_i p' hp
      cases Except.ok.inj h
      exact ⟨by simpa using hv, hp⟩
    · cases h

@[ov] theorem secpMulG_ov (s : Nat) : OnlyValue (secpMulG s) := by
  unfold secpMulG
  dsimp only
  repeat' split
  all_goals simp only [ov]

@[ov] theorem secpMul_ov (p : Bytes) (s : Nat) : OnlyValue (secpMul p s) := by
  unfold secpMul
  dsimp only
  repeat' split
  all_goals simp only [ov]

theorem pubOfPriv_secp (k : Bytes) :
    pubOfPriv .secp256k1 k = Prim.secp256k1.compress (Prim.secp256k1.mulG (Bytes.toNatBE k)) := rfl

theorem secpPubOfPriv_ofNatBE {x : Nat} (hx : x < Prim.secp256k1.n) :
    secpPubOfPriv (Bytes.ofNatBE 32 x) = secpMulG x := by
  unfold secpPubOfPriv secpMulG
  dsimp only
  rw [EccLemmas.privValid_secp_ofNatBE hx, Nat.mod_eq_of_lt hx, pubOfPriv_secp,
    toNatBE_ofNatBE (Nat.lt_trans hx EccLemmas.secp_n_lt)]
  by_cases h0 : x = 0
  · rw [if_pos (by simp [h0]), if_pos h0]
  · rw [if_neg (by simp [h0]), if_neg h0]

theorem bip38AddrHash_eq (pub : Bytes) (c : Bool) :
    bip38AddrHash pub c = match p2pkhEncode [0] btcAlphabet c pub with
      | .error e => .error e
      | .ok addr => .ok ((sha256d (String.ofList addr).toUTF8.toList).take 4) := by
  unfold bip38AddrHash
  cases p2pkhEncode [0] btcAlphabet c pub <;> rfl

@[ov] theorem bip38AddrHash_ov (pub : Bytes) (c : Bool) : OnlyValue (bip38AddrHash pub c) := by
  unfold bip38AddrHash
  simp only [ov]

theorem bip38AddrHash_length {pub : Bytes} {c : Bool} {ah : Bytes} (h : bip38AddrHash pub c = .ok ah) :
    ah.length = 4 := by
  rw [bip38AddrHash_eq] at h
  split at h
  · cases h
  · cases Except.ok.inj h
    rw [List.length_take, sha256d_length]; rfl

theorem b58c_decode_encode (data : Bytes) :
    b58CheckDecode sha256d btcAlphabet (b58CheckEncode sha256d btcAlphabet data) = .ok data :=
  b58CheckDecode_btc_encode sha256d sha256d_ge4 data

theorem b58c_error {s : List Char} {e : Err} (h : b58CheckDecode sha256d btcAlphabet s = .error e) :
    e = .value ∨ e = .checksum := b58CheckDecode_error sha256d btcAlphabet s e h

/-- the scrypt-derived 64-byte key of the no-EC mode -/
def noEcKey (pass ah : Bytes) : Bytes := scrypt pass ah 16384 8 8 64

theorem noEcKey_length (pass ah : Bytes) : (noEcKey pass ah).length = 64 := scrypt_length _ _ _ _ _ _

/-- the 39-byte payload written by `Bip38NoEcEncrypter` -/
def noEcPayload (priv pass : Bytes) (c : Bool) (ah : Bytes) : Bytes :=
  [0x01, 0x42, (if c then 0xe0 else 0xc0)] ++ ah
    ++ aes256EncryptBlock ((noEcKey pass ah).drop 32)
        (xorBytes (priv.take 16) (((noEcKey pass ah).take 32).take 16))
    ++ aes256EncryptBlock ((noEcKey pass ah).drop 32)
        (xorBytes (priv.drop 16) (((noEcKey pass ah).take 32).drop 16))

theorem bip38NoEcEncrypt_ok {priv pass : Bytes} {c : Bool} {s : List Char}
    (h : bip38NoEcEncrypt priv pass c = .ok s) :
    ∃ pub ah, secpPubOfPriv priv = .ok pub ∧ bip38AddrHash pub c = .ok ah ∧
      s = b58CheckEncode sha256d btcAlphabet (noEcPayload priv pass c ah) := by
  unfold bip38NoEcEncrypt at h
  obtain ⟨pub, hpub, h⟩ := bind_ok_inv h
  obtain ⟨ah, hah, h⟩ := bind_ok_inv h
  exact ⟨pub, ah, hpub, hah, (Except.ok.inj h).symm⟩

theorem bip38NoEcEncrypt_error {priv pass : Bytes} {c : Bool} {e : Err}
    (h : bip38NoEcEncrypt priv pass c = .error e) : e = .value := by
  have : OnlyValue (bip38NoEcEncrypt priv pass c) := by
    unfold bip38NoEcEncrypt
    simp only [ov]
  exact this.h e h

/-- the key recovered by `Bip38NoEcDecrypter` from a 39-byte payload -/
def noEcPriv (b pass : Bytes) : Bytes :=
  xorBytes
    (aes256DecryptBlock ((noEcKey pass ((b.drop 3).take 4)).drop 32) ((b.drop 7).take 16)
      ++ aes256DecryptBlock ((noEcKey pass ((b.drop 3).take 4)).drop 32) (b.drop 23))
    ((noEcKey pass ((b.drop 3).take 4)).take 32)

theorem bip38NoEcDecrypt_ok {s : List Char} {pass k : Bytes} {c : Bool}
    (h : bip38NoEcDecrypt s pass = .ok (k, c)) :
    ∃ b pub, b58CheckDecode sha256d btcAlphabet s = .ok b ∧ b.length = 39 ∧
      b.take 2 = [0x01, 0x42] ∧ b[2]? = some (if c then 0xe0 else 0xc0) ∧ k = noEcPriv b pass ∧
      secpPubOfPriv k = .ok pub ∧ bip38AddrHash pub c = .ok ((b.drop 3).take 4) := by
  unfold bip38NoEcDecrypt at h
  obtain ⟨b, hb, h⟩ := bind_ok_inv h
  obtain ⟨hl, h⟩ := guard_ok_inv h
  obtain ⟨flag, hflag, h⟩ := bind_ok_inv h
  obtain ⟨hp, h⟩ := guard_ok_inv h
  obtain ⟨hf, h⟩ := guard_ok_inv h
  obtain ⟨pub, hpub, h⟩ := bind_ok_inv h
  obtain ⟨ah', hah, h⟩ := bind_ok_inv h
  obtain ⟨ha, h⟩ := guard_ok_inv h
  have hk := Except.ok.inj h
  simp only [Prod.mk.injEq] at hk
  obtain ⟨rfl, rfl⟩ := hk
  refine ⟨b, pub, hb, by omega, by simpa using hp, ?_, rfl, hpub, ?_⟩
  · rw [pyIdx_ok hflag]
    by_cases h1 : flag = 0xe0
    · simp [h1]
    · have h2 : flag = 0xc0 := by simpa [h1] using hf
      simp [h2]
  · rw [hah]; simp only [ne_eq, Decidable.not_not] at ha; rw [ha]

/-- the decrypter fails with the error of the Base58Check layer or with `ValueError`: the index
access `b[2]` is dominated by the length-39 check -/
theorem bip38NoEcDecrypt_error {s : List Char} {pass : Bytes} {e : Err}
    (h : bip38NoEcDecrypt s pass = .error e) :
    b58CheckDecode sha256d btcAlphabet s = .error e ∨ e = .value := by
  refine (C14MoreLemmas.Only.bind (P := fun e => b58CheckDecode sha256d btcAlphabet s = .error e ∨ e = .value)
    ⟨fun _ => .inl⟩ fun b _ => .of_ov ?_ (.inr rfl)).h e h
  simp only [ov]
  intro hl
  rw [pyIdx_of_lt b 2 (by omega)]
  simp only [ov]

theorem bip38NoEcDecrypt_badflag {s : List Char} {pass b : Bytes} {flag : UInt8}
    (hb : b58CheckDecode sha256d btcAlphabet s = .ok b) (hflag : b[2]? = some flag)
    (hbad : flag ≠ 0xe0 ∧ flag ≠ 0xc0) : bip38NoEcDecrypt s pass = .error .value := by
  unfold bip38NoEcDecrypt
  rw [hb, ok_bind]
  by_cases hl : b.length ≠ 39
  · rw [guard_pos hl]
  · rw [guard_neg hl, pyIdx_eq_ok hflag, ok_bind]
    dsimp only
    by_cases hp : b.take 2 ≠ [0x01, 0x42]
    · rw [guard_pos hp]
    · rw [guard_neg hp, guard_pos (by simp [hbad.1, hbad.2])]

/-- first AES block of the no-EC payload -/
def noEcE1 (priv pass ah : Bytes) : Bytes :=
  aes256EncryptBlock ((noEcKey pass ah).drop 32)
    (xorBytes (priv.take 16) (((noEcKey pass ah).take 32).take 16))

/-- second AES block of the no-EC payload -/
def noEcE2 (priv pass ah : Bytes) : Bytes :=
  aes256EncryptBlock ((noEcKey pass ah).drop 32)
    (xorBytes (priv.drop 16) (((noEcKey pass ah).take 32).drop 16))

theorem noEcPayload_def (priv pass : Bytes) (c : Bool) (ah : Bytes) :
    noEcPayload priv pass c ah =
      [0x01, 0x42, (if c then 0xe0 else 0xc0)] ++ (ah ++ (noEcE1 priv pass ah ++ noEcE2 priv pass ah)) := by
  unfold noEcPayload noEcE1 noEcE2; simp only [List.append_assoc]

theorem noEcPayload_fields (priv pass : Bytes) (c : Bool) (ah : Bytes) (hah : ah.length = 4) :
    (noEcPayload priv pass c ah).length = 39 ∧
    (noEcPayload priv pass c ah)[2]? = some (if c then 0xe0 else 0xc0) ∧
    (noEcPayload priv pass c ah).take 2 = [0x01, 0x42] ∧
    ((noEcPayload priv pass c ah).drop 3).take 4 = ah ∧
    ((noEcPayload priv pass c ah).drop 7).take 16 = noEcE1 priv pass ah ∧
    (noEcPayload priv pass c ah).drop 23 = noEcE2 priv pass ah := by
  have l1 : (noEcE1 priv pass ah).length = 16 := aes256EncryptBlock_length _ _
  have l2 : (noEcE2 priv pass ah).length = 16 := aes256EncryptBlock_length _ _
  rw [noEcPayload_def]
  obtain ⟨f0, f1, f2, f3, f4⟩ := payload_fields 0x01 0x42 (if c then 0xe0 else 0xc0) ah
    (noEcE1 priv pass ah ++ noEcE2 priv pass ah) hah (by rw [List.length_append, l1, l2])
  exact ⟨f0, f1, f2, f3, by rw [f4 0]; exact take_append_len _ _ l1,
    by rw [f4 16]; exact drop_append_len _ _ l1⟩

theorem xor_split_roundtrip (p m : Bytes) (hp : p.length = 32) (hm : m.length = 32) :
    xorBytes (xorBytes (p.take 16) (m.take 16) ++ xorBytes (p.drop 16) (m.drop 16)) m = p := by
  have hm' : m = m.take 16 ++ m.drop 16 := (List.take_append_drop 16 m).symm
  conv_lhs => arg 2; rw [hm']
  rw [xorBytes_append _ _ _ _ (by rw [xorBytes_length, List.length_take, List.length_take, hp, hm]; rfl),
    xorBytes_xorBytes _ _ (by rw [List.length_take, List.length_take, hp, hm]),
    xorBytes_xorBytes _ _ (by rw [List.length_drop, List.length_drop, hp, hm]),
    List.take_append_drop]

theorem noEcPriv_payload (AesInv : ∀ k b : Bytes, k.length = 32 → b.length = 16 →
      aes256DecryptBlock k (aes256EncryptBlock k b) = b)
    (priv pass : Bytes) (c : Bool) (ah : Bytes) (hah : ah.length = 4) (hp : priv.length = 32) :
    noEcPriv (noEcPayload priv pass c ah) pass = priv := by
  obtain ⟨_, _, _, f1, f2, f3⟩ := noEcPayload_fields priv pass c ah hah
  unfold noEcPriv
  rw [f1, f2, f3]
  unfold noEcE1 noEcE2
  have hk := noEcKey_length pass ah
  have hdh2 : ((noEcKey pass ah).drop 32).length = 32 := by rw [List.length_drop, hk]
  have hdh1 : ((noEcKey pass ah).take 32).length = 32 := by rw [List.length_take, hk]; rfl
  have hx1 : (xorBytes (priv.take 16) (((noEcKey pass ah).take 32).take 16)).length = 16 := by
    rw [xorBytes_length, List.length_take, List.length_take, hp, hdh1]; rfl
  have hx2 : (xorBytes (priv.drop 16) (((noEcKey pass ah).take 32).drop 16)).length = 16 := by
    rw [xorBytes_length, List.length_drop, List.length_drop, hp, hdh1]; rfl
  rw [AesInv _ _ hdh2 hx1, AesInv _ _ hdh2 hx2]
  exact xor_split_roundtrip priv _ hp hdh1

/-- stated on the payload so that nothing heavy is evaluated -/
theorem noEcDecrypt_payload (AesInv : ∀ k b : Bytes, k.length = 32 → b.length = 16 →
      aes256DecryptBlock k (aes256EncryptBlock k b) = b)
    (priv pass : Bytes) (c : Bool) (pub ah : Bytes) (hpub : secpPubOfPriv priv = .ok pub)
    (hah : bip38AddrHash pub c = .ok ah) :
    bip38NoEcDecrypt (b58CheckEncode sha256d btcAlphabet (noEcPayload priv pass c ah)) pass
      = .ok (priv, c) := by
  have hl4 := bip38AddrHash_length hah
  have hp32 := EccLemmas.privValid_secp_length (secpPubOfPriv_ok hpub).1
  obtain ⟨f0, fflag, fpre, f1, _, _⟩ := noEcPayload_fields priv pass c ah hl4
  have hrec := noEcPriv_payload AesInv priv pass c ah hl4 hp32
  unfold noEcPriv noEcKey at hrec
  unfold bip38NoEcDecrypt
  rw [b58c_decode_encode, ok_bind]
  generalize noEcPayload priv pass c ah = P at *
  rw [guard_neg (by rw [f0]; decide), pyIdx_eq_ok fflag, ok_bind]
  dsimp only
  rw [guard_neg (by rw [fpre]; decide), guard_neg (by cases c <;> decide), hrec, hpub, ok_bind]
  have hc : decide ((if c = true then (0xe0 : UInt8) else 0xc0) = 0xe0) = c := by cases c <;> decide
  rw [hc, hah, ok_bind, guard_neg (by rw [f1]; simp)]
  rfl

end BipVerif.Model.Bip38Lemmas
