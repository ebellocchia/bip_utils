/-
Checkers for the coin and constant tables of C05 / C07 / C08 / C09 (rows with `String` fields, whose
comparison is dear in the kernel): pinned registry ⊆ regenerated table, a property of all pairs of rows
with one `Nat` key, a property of a field with few distinct values.
-/
namespace BipVerif.Table

/-- The translators list rows in the library's own order, so the pinned rows normally form a subsequence
of the regenerated ones and a linear scan confirms the inclusion; membership row by row (quadratic,
and a full comparison of two rows is dear in the kernel) is evaluated only if that scan fails, e.g.
after the library reorders an enumeration (`||` is lazy in its second argument). -/
theorem subset_of_check {α} [DecidableEq α] {a b : List α}
    (h : (a.isSublist b || a.all (b.contains ·)) = true) : ∀ x ∈ a, x ∈ b := by
  intro x hx
  rcases Bool.or_eq_true_iff.mp h with h | h
  · exact (List.isSublist_iff_sublist.mp h).subset hx
  · exact List.contains_iff_mem.mp (List.all_eq_true.mp h x hx)

/-- As long as the library's tables are the pinned ones the regenerated table is the pinned one literally,
and the kernel sees `a = b` by comparing the two terms, without evaluating anything.  The table theorems
try this first and evaluate `subset_of_check` when the tables differ (a member was added, or a constant
outside the projection changed). -/
theorem subset_of_eq {α} {a b : List α} (h : a = b) : ∀ x ∈ a, x ∈ b := fun _ hx => h ▸ hx

/-- `p` on all pairs `i < j` of rows whose `Nat` keys agree.  The key test comes first and `||` is lazy, so
`p` (which on coin rows compares strings, dear in the kernel) is only evaluated on the few pairs that share
a key. -/
def allPairsOn {α} (key : α → Nat) (p : α → α → Bool) : List α → Bool
  | [] => true
  | a :: t => t.all (fun b => !Nat.beq (key a) (key b) || p a b) && allPairsOn key p t

/-- For a reflexive and symmetric relation the pairs `i < j` are all pairs. -/
theorem forall_pairs_of_check {α} {key : α → Nat} {R : α → α → Prop} [∀ a b, Decidable (R a b)]
    {l : List α} (refl : ∀ a, R a a) (symm : ∀ a b, R a b → R b a)
    (h : allPairsOn key (fun a b => decide (R a b)) l = true) :
    ∀ a ∈ l, ∀ b ∈ l, key a = key b → R a b := by
  induction l with
  | nil => intro a ha; cases ha
  | cons x t ih =>
    rw [allPairsOn, Bool.and_eq_true, List.all_eq_true] at h
    have head : ∀ y ∈ t, key x = key y → R x y := fun y hy hxy => by
      have hy := h.1 y hy
      rw [hxy, Nat.beq_refl, Bool.not_true, Bool.false_or] at hy
      exact of_decide_eq_true hy
    intro a ha b hb hk
    rcases List.mem_cons.mp ha with hax | hat <;> rcases List.mem_cons.mp hb with hbx | hbt
    · rw [hax, hbx]; exact refl x
    · rw [hax] at hk ⊢; exact head b hbt hk
    · rw [hbx] at hk ⊢; exact symm x a (head a hat hk.symm)
    · exact ih h.2 a hat b hbt hk

/-- A test `q` that reads a row only through `f` is evaluated once per distinct value of `f`: worth it
when `q` is dear and the rows share a handful of values (the default paths of the coin table). -/
theorem all_of_dedup_check {α β} [BEq β] [LawfulBEq β] {f : α → β} {q : β → Bool} {l : List α}
    (h : (l.map f).eraseDups.all q = true) : ∀ r ∈ l, q (f r) = true :=
  fun _ hr => List.all_eq_true.mp h _ (List.mem_eraseDups.mpr (List.mem_map_of_mem hr))

end BipVerif.Table
