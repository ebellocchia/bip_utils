/-
`WCurve.mul k P` is `k • P` in Mathlib's group of points: `JRep` relates a Jacobian triple to the point it
represents, Jacobian doubling and mixed addition act on representatives as `A ↦ A + A` and `A ↦ A + P`, and
`doubleAdd_loop_log` turns that into the statement about the loop.
-/
import BipVerif.Lemmas.WGroup.Basic

namespace BipVerif.WGroup
open BipVerif BipVerif.Prim WeierstrassCurve WeierstrassCurve.Affine
open BipVerif.Prim.WCurve (JPoint jInf)

variable {c : WCurve}

/-- The Jacobian triple `J` (reduced coordinates) represents the Mathlib point `P`:
`Z = 0 ↦ 0`, `Z ≠ 0 ↦ (X/Z², Y/Z³)`. -/
def JRep [Valid c] (J : JPoint) (P : (W c).Point) : Prop :=
  J.X < c.p ∧ J.Y < c.p ∧ J.Z < c.p ∧
    ((J.Z = 0 ∧ P = 0) ∨
      ∃ (x y : ZMod c.p) (h : (W c).Nonsingular x y), (J.Z : ZMod c.p) ≠ 0 ∧ P = Point.some x y h ∧
        (J.X : ZMod c.p) = x * (J.Z : ZMod c.p) ^ 2 ∧ (J.Y : ZMod c.p) = y * (J.Z : ZMod c.p) ^ 3)

theorem JRep.inf [Valid c] : JRep (c := c) jInf 0 := by
  have := Valid.two_lt (c := c)
  exact ⟨by show 1 < c.p; omega, by show 1 < c.p; omega, by show 0 < c.p; omega, Or.inl ⟨rfl, rfl⟩⟩

theorem JRep.some [Valid c] {J : JPoint} {x y : ZMod c.p} (h : (W c).Nonsingular x y)
    (hX : J.X < c.p) (hY : J.Y < c.p) (hZ : J.Z < c.p) (hz : (J.Z : ZMod c.p) ≠ 0)
    (eX : (J.X : ZMod c.p) = x * (J.Z : ZMod c.p) ^ 2)
    (eY : (J.Y : ZMod c.p) = y * (J.Z : ZMod c.p) ^ 3) : JRep J (Point.some x y h) :=
  ⟨hX, hY, hZ, Or.inr ⟨x, y, h, hz, rfl, eX, eY⟩⟩

theorem jDouble_rep [Valid c] {J : JPoint} {P : (W c).Point} (h : JRep J P) :
    JRep (c.jDouble J) (P + P) := by
  obtain ⟨hX, hY, hZ, h⟩ := h
  have hp := p_pos (c := c)
  have h2 := two_ne_zero' (c := c)
  unfold WCurve.jDouble
  dsimp only
  rcases h with ⟨hz, rfl⟩ | ⟨x, y, hn, hz, rfl, eX, eY⟩
  · rw [if_pos (Or.inl hz), add_zero]; exact JRep.inf
  · by_cases hy0 : J.Y = 0
    · rw [if_pos (Or.inr hy0)]
      have hy : y = 0 := by
        have : y * (J.Z : ZMod c.p) ^ 3 = 0 := by rw [← eY, hy0, Nat.cast_zero]
        exact (mul_eq_zero.mp this).resolve_right (pow_ne_zero _ hz)
      rw [Point.add_self_of_Y_eq (by rw [W_negY, hy, neg_zero])]
      exact JRep.inf
    · have hzn : J.Z ≠ 0 := fun h => hz (by rw [h, Nat.cast_zero])
      rw [if_neg (by rintro (h | h); exacts [hzn h, hy0 h])]
      have hy : y ≠ 0 := by
        intro hy
        apply hy0
        rw [← natCast_eq_zero_of_lt hY, eY, hy, zero_mul]
      have hyn : y ≠ (W c).negY x y := by
        rw [W_negY]
        intro h
        have : (2 : ZMod c.p) * y = 0 := by linear_combination h
        rcases mul_eq_zero.mp this with h | h
        exacts [h2 h, hy h]
      rw [Point.add_self_of_Y_ne hyn]
      -- the tangent slope `l` enters only through `l * (2 * y) = 3 * x ^ 2 + a`
      have hl : (W c).slope x x y y * (2 * y) = 3 * x ^ 2 + c.a := by
        rw [slope_of_Y_ne rfl hyn, W_negY, sub_neg_eq_add, ← two_mul,
          div_mul_cancel₀ _ (mul_ne_zero h2 hy)]
        simp only [W_a₁, W_a₂, W_a₄]
        ring
      refine JRep.some _ (subMod_lt _ _ hp) (subMod_lt _ _ hp) (Nat.mod_lt _ hp) ?_ ?_ ?_
      · simp only [cast_mod, Nat.cast_mul, Nat.cast_ofNat, eY]
        exact mul_ne_zero (mul_ne_zero h2 (mul_ne_zero hy (pow_ne_zero _ hz))) hz
      · generalize (W c).slope x x y y = l at hl ⊢
        simp only [cast_subMod, cast_mod, Nat.cast_mul, Nat.cast_add, Nat.cast_ofNat, eX, eY, addX, W_a₁, W_a₂]
        linear_combination -((J.Z : ZMod c.p) ^ 8 * (3 * x ^ 2 + c.a + 2 * y * l)) * hl
      · generalize (W c).slope x x y y = l at hl ⊢
        simp only [cast_subMod, cast_mod, Nat.cast_mul, Nat.cast_add, Nat.cast_ofNat, eX, eY, addY, negAddY,
          addX, negY, W_a₁, W_a₂, W_a₃]
        linear_combination (J.Z : ZMod c.p) ^ 12 * ((3 * x ^ 2 + c.a) ^ 2 + (3 * x ^ 2 + c.a) * (2 * y * l) +
          (2 * y * l) ^ 2 - 12 * x * y ^ 2) * hl

theorem jAddAff_rep [Valid c] {J : JPoint} {P : (W c).Point} (h : JRep J P) {x2 y2 : ℕ}
    (hQ : c.onCurve (.aff x2 y2) = true) :
    JRep (c.jAddAff J x2 y2) (P + toM (.aff x2 y2)) := by
  obtain ⟨hx2, hy2, e2⟩ := (onCurve_aff_iff x2 y2).mp hQ
  have n2 := W_nonsingular e2
  have hJ := h
  obtain ⟨hX, hY, hZ, h⟩ := h
  have hp := p_pos (c := c)
  have hp2 := Valid.two_lt (c := c)
  unfold WCurve.jAddAff
  dsimp only
  rw [toM_aff hQ]
  rcases h with ⟨hz, rfl⟩ | ⟨x1, y1, n1, hz, rfl, eX, eY⟩
  · rw [if_pos hz, zero_add]
    refine JRep.some _ hx2 hy2 (by show 1 < c.p; omega) ?_ ?_ ?_ <;> simp
  · have hzn : J.Z ≠ 0 := fun h => hz (by rw [h, Nat.cast_zero])
    rw [if_neg hzn]
    have hu : x2 * (J.Z * J.Z % c.p) % c.p = J.X ↔ (x2 : ZMod c.p) = x1 := by
      rw [← natCast_inj_of_lt (Nat.mod_lt _ hp) hX, eX]
      simp only [cast_mod, Nat.cast_mul]
      rw [← pow_two]
      exact mul_left_inj' (pow_ne_zero _ hz)
    have hs : y2 * (J.Z * J.Z % c.p * J.Z % c.p) % c.p = J.Y ↔ (y2 : ZMod c.p) = y1 := by
      rw [← natCast_inj_of_lt (Nat.mod_lt _ hp) hY, eY]
      simp only [cast_mod, Nat.cast_mul]
      rw [show (J.Z : ZMod c.p) * J.Z * J.Z = (J.Z : ZMod c.p) ^ 3 by ring]
      exact mul_left_inj' (pow_ne_zero _ hz)
    by_cases hxe : (x2 : ZMod c.p) = x1
    · rw [if_pos (hu.mpr hxe)]
      by_cases hye : (y2 : ZMod c.p) = y1
      · rw [if_pos (hs.mpr hye)]
        subst hxe hye
        exact jDouble_rep hJ
      · rw [if_neg (fun h => hye (hs.mp h))]
        have hy : y1 = (W c).negY x2 y2 := by
          rcases Y_eq_of_X_eq n1.1 n2.1 hxe.symm with h | h
          · exact absurd h.symm hye
          · exact h
        rw [Point.add_of_Y_eq hxe.symm hy]
        exact JRep.inf
    · rw [if_neg (fun h => hxe (hu.mp h))]
      have hxne : x1 ≠ (x2 : ZMod c.p) := fun h => hxe h.symm
      have hd : x1 - (x2 : ZMod c.p) ≠ 0 := sub_ne_zero.mpr hxne
      rw [Point.add_of_X_ne hxne]
      -- the chord slope `l` enters only through `l * (x₁ - x₂) = y₁ - y₂`
      obtain ⟨l, hl0⟩ : ∃ l, (W c).slope x1 x2 y1 y2 = l := ⟨_, rfl⟩
      have hl : l * (x1 - x2) = y1 - y2 := by
        rw [← hl0, slope_of_X_ne hxne, div_mul_cancel₀ _ hd]
      -- the intermediate values `h = Z²(x₂ - x₁)` and `r = Z³(y₂ - y₁)` stay atoms, so that the identities
      -- below have a handful of monomials; in them the chord condition reads `l * (Z * h) = r`
      generalize hH : subMod (x2 * (J.Z * J.Z % c.p) % c.p) J.X c.p = H
      generalize hR : subMod (y2 * (J.Z * J.Z % c.p * J.Z % c.p) % c.p) J.Y c.p = R
      have eH : (H : ZMod c.p) = (x2 - x1) * (J.Z : ZMod c.p) ^ 2 := by
        rw [← hH]
        simp only [cast_subMod, cast_mod, Nat.cast_mul, eX]
        ring
      have eR : (R : ZMod c.p) = (y2 - y1) * (J.Z : ZMod c.p) ^ 3 := by
        rw [← hR]
        simp only [cast_subMod, cast_mod, Nat.cast_mul, eY]
        ring
      have hl' : l * ((J.Z : ZMod c.p) * H) = R := by
        linear_combination -(J.Z : ZMod c.p) ^ 3 * hl + l * J.Z * eH - eR
      generalize hX3 : subMod (R * R) (H * H % c.p * H % c.p + 2 * (J.X * (H * H % c.p) % c.p)) c.p = X3
      have eX3 : (X3 : ZMod c.p) = (l ^ 2 - x1 - x2) * ((J.Z : ZMod c.p) * H) ^ 2 := by
        rw [← hX3]
        simp only [cast_subMod, cast_mod, Nat.cast_mul, Nat.cast_add, Nat.cast_ofNat, eX]
        linear_combination -(l * (J.Z * H) + R) * hl' - (H : ZMod c.p) ^ 2 * eH
      refine JRep.some _ (hX3 ▸ subMod_lt _ _ hp) (subMod_lt _ _ hp) (Nat.mod_lt _ hp) ?_ ?_ ?_
      · simp only [cast_mod, Nat.cast_mul, eH]
        exact mul_ne_zero hz (mul_ne_zero (sub_ne_zero.mpr hxe) (pow_ne_zero _ hz))
      · simp only [cast_mod, Nat.cast_mul, eX3, hl0, addX, W_a₁, W_a₂]
        ring
      · simp only [cast_subMod, cast_mod, Nat.cast_mul, eX3, eX, eY, hl0, addY, negAddY, addX, negY, W_a₁, W_a₂, W_a₃]
        linear_combination -((J.Z : ZMod c.p) ^ 2 * H ^ 2 * (x1 - (l ^ 2 - x1 - x2))) * hl'

theorem jToAffine_rep [Valid c] {J : JPoint} {P : (W c).Point} (h : JRep J P) :
    c.onCurve (c.jToAffine J) = true ∧ toM (c.jToAffine J) = P := by
  obtain ⟨hX, hY, hZ, h⟩ := h
  have hp := p_pos (c := c)
  have hp2 := Valid.two_lt (c := c)
  unfold WCurve.jToAffine
  rcases h with ⟨hz, rfl⟩ | ⟨x, y, hn, hz, rfl, eX, eY⟩
  · rw [if_pos hz]; exact ⟨rfl, rfl⟩
  · have hzn : J.Z ≠ 0 := fun h => hz (by rw [h, Nat.cast_zero])
    rw [if_neg hzn]
    dsimp only
    have hx' : ((J.X * (invMod J.Z c.p * invMod J.Z c.p % c.p) % c.p : ℕ) : ZMod c.p) = x := by
      simp only [cast_mod, Nat.cast_mul, cast_invMod hp2, eX]
      rw [← pow_two, mul_assoc, ← mul_pow, mul_inv_cancel₀ hz, one_pow, mul_one]
    have hy' : ((J.Y * (invMod J.Z c.p * invMod J.Z c.p % c.p * invMod J.Z c.p % c.p) % c.p : ℕ) :
        ZMod c.p) = y := by
      simp only [cast_mod, Nat.cast_mul, cast_invMod hp2, eY]
      rw [← pow_three', mul_assoc, ← mul_pow, mul_inv_cancel₀ hz, one_pow, mul_one]
    exact ⟨onCurve_of_cast (Nat.mod_lt _ hp) (Nat.mod_lt _ hp) hx' hy' hn.1,
      toM_eq_some hx' hy' hn⟩

theorem mul_correct [Valid c] (k : ℕ) {P : WPoint} (hP : c.onCurve P = true) :
    c.onCurve (c.mul k P) = true ∧ toM (c.mul k P) = k • toM (c := c) P := by
  cases P with
  | inf => exact ⟨rfl, by simp [WCurve.mul]⟩
  | aff x y =>
    unfold WCurve.mul
    dsimp only
    by_cases hk : k = 0
    · rw [if_pos hk, hk]; exact ⟨rfl, by simp⟩
    · rw [if_neg hk]
      obtain ⟨hx, hy, -⟩ := (onCurve_aff_iff x y).mp hP
      rw [Nat.mod_eq_of_lt hx, Nat.mod_eq_of_lt hy]
      exact jToAffine_rep (doubleAdd_loop_log (Rep := JRep (c := c)) (loop := c.mulLoop k x y) (k := k)
        jDouble_rep (jAddAff_rep · hP) (fun _ => rfl) (fun _ _ => rfl) JRep.inf)

theorem onCurve_mul [Valid c] (k : ℕ) {P : WPoint} (hP : c.onCurve P = true) :
    c.onCurve (c.mul k P) = true := (mul_correct k hP).1

theorem toM_mul [Valid c] (k : ℕ) {P : WPoint} (hP : c.onCurve P = true) :
    toM (c.mul k P) = k • toM (c := c) P := (mul_correct k hP).2

theorem onCurve_mulG [Valid c] (k : ℕ) (hG : c.onCurve c.G = true) :
    c.onCurve (c.mulG k) = true := onCurve_mul k hG

theorem toM_mulG [Valid c] (k : ℕ) (hG : c.onCurve c.G = true) :
    toM (c.mulG k) = k • toM (c := c) c.G := toM_mul k hG

end BipVerif.WGroup
