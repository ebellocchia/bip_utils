/-
secp256k1 and NIST P-256 are elliptic curves over their prime fields, the base point lies on the curve, and it has
order exactly `n` in Mathlib's group of points: `n` is prime (`Pratt`), the kernel evaluates `mulG n` to the point
at infinity, and `G` is not the neutral element.
-/
import BipVerif.Lemmas.Pratt
import BipVerif.Lemmas.WGroup.Jacobian
import BipVerif.Lemmas.GroupModel

namespace BipVerif.WGroup
open BipVerif BipVerif.Prim WeierstrassCurve WeierstrassCurve.Affine

theorem hasOrder_of_prime {c : WCurve} [Valid c] (hG : c.onCurve c.G = true) (hn : c.n.Prime)
    (hnG : c.mulG c.n = .inf) : GroupModel.HasOrder (toM (c := c) c.G) c.n :=
  GroupModel.hasOrder_of_prime hn (by rw [← toM_mulG _ hG, hnG, toM_inf])
    (toM_aff_ne_zero (x := c.gx) (y := c.gy) hG)

theorem mulG_inf_iff {c : WCurve} [Valid c] (hG : c.onCurve c.G = true) {n : ℕ}
    (hord : GroupModel.HasOrder (toM (c := c) c.G) n) (k : ℕ) : c.mulG k = .inf ↔ n ∣ k := by
  rw [← hord k, ← toM_mulG k hG, toM_eq_zero_iff (onCurve_mulG k hG)]

/-- `Valid` from conditions on the numbers, each decidable by evaluation -/
theorem Valid.of_nat {c : WCurve} (hp : c.p.Prime) (h2 : 2 < c.p)
    (hd : ¬c.p ∣ 4 * c.a ^ 3 + 27 * c.b ^ 2) : Valid c where
  prime := hp
  two_lt := h2
  disc := by
    rw [← ZMod.natCast_eq_zero_iff] at hd
    push_cast at hd
    exact hd

instance valid_secp256k1 : Valid secp256k1 :=
  .of_nat Pratt.secp256k1_p_prime (by decide +kernel) (by decide +kernel)

theorem secp256k1_G_onCurve : secp256k1.onCurve secp256k1.G = true := by decide +kernel

theorem secp256k1_mulG_n : secp256k1.mulG secp256k1.n = .inf := by decide +kernel

noncomputable def secp256k1G : (W secp256k1).Point := toM secp256k1.G

theorem secp256k1_hasOrder : GroupModel.HasOrder secp256k1G secp256k1.n :=
  hasOrder_of_prime secp256k1_G_onCurve Pratt.secp256k1_n_prime secp256k1_mulG_n

theorem secp256k1_n_nsmul_G : secp256k1.n • secp256k1G = 0 := (secp256k1_hasOrder _).mpr dvd_rfl

instance valid_nist256p1 : Valid nist256p1 :=
  .of_nat Pratt.nist256p1_p_prime (by decide +kernel) (by decide +kernel)

theorem nist256p1_G_onCurve : nist256p1.onCurve nist256p1.G = true := by decide +kernel

theorem nist256p1_mulG_n : nist256p1.mulG nist256p1.n = .inf := by decide +kernel

noncomputable def nist256p1G : (W nist256p1).Point := toM nist256p1.G

theorem nist256p1_hasOrder : GroupModel.HasOrder nist256p1G nist256p1.n :=
  hasOrder_of_prime nist256p1_G_onCurve Pratt.nist256p1_n_prime nist256p1_mulG_n

theorem nist256p1_n_nsmul_G : nist256p1.n • nist256p1G = 0 := (nist256p1_hasOrder _).mpr dvd_rfl

end BipVerif.WGroup
