/-
The executable short-Weierstrass arithmetic of `Prim/Weierstrass.lean` is tied to Mathlib's elliptic-curve group
law (`WeierstrassCurve.Affine.Point`, an `AddCommGroup`) by a map `toM` from `WPoint` to the points of the Mathlib
curve `W c` over `ZMod c.p`, under which `WCurve.add` is `+`. The double-and-add loop invariant and the casts of
the modular primitives to `ZMod p` come first and are stated without reference to the curve: `EdGroup` uses them
too.
-/
import Mathlib.AlgebraicGeometry.EllipticCurve.Affine.Point
import Mathlib.FieldTheory.Finite.Basic
import Mathlib.Tactic.LinearCombination
import BipVerif.Prim.Weierstrass

namespace BipVerif.WGroup
open BipVerif BipVerif.Prim WeierstrassCurve WeierstrassCurve.Affine

/-- MSB-first double-and-add through a representation `Rep` of an additive monoid by machine values: if `dbl` and
`addP` act as `A ↦ A + A` and `A ↦ A + P` on represented elements, a loop that consumes bit `i` of `k` in step
`i + 1` takes a representative of `A` to one of `2 ^ i • A + (k % 2 ^ i) • P`. -/
theorem doubleAdd_loop {G J : Type*} [AddCommMonoid G] {Rep : J → G → Prop} {dbl addP : J → J} {P : G}
    (hd : ∀ {a A}, Rep a A → Rep (dbl a) (A + A)) (ha : ∀ {a A}, Rep a A → Rep (addP a) (A + P))
    {loop : ℕ → J → J} {k : ℕ} (h0 : ∀ acc, loop 0 acc = acc)
    (hs : ∀ i acc, loop (i + 1) acc = loop i (if k / 2 ^ i % 2 = 1 then addP (dbl acc) else dbl acc))
    (i : ℕ) {acc : J} {A : G} (h : Rep acc A) : Rep (loop i acc) (2 ^ i • A + (k % 2 ^ i) • P) := by
  induction i generalizing acc A with
  | zero => rwa [h0, pow_zero, one_nsmul, Nat.mod_one, zero_nsmul, add_zero]
  | succ i ih =>
    -- split off bit `i`: `2 ^ (i + 1) • A + (k % 2 ^ (i + 1)) • P = 2 ^ i • (A + A) + 2 ^ i • bit • P + (k % 2 ^ i) • P`
    rw [hs, Nat.mod_pow_succ, pow_succ, mul_nsmul', two_nsmul, add_comm (k % 2 ^ i), add_nsmul, mul_nsmul',
      ← add_assoc]
    by_cases hb : k / 2 ^ i % 2 = 1
    · rw [if_pos hb, hb, one_nsmul, ← nsmul_add]
      exact ih (ha (hd h))
    · rw [if_neg hb, (Nat.mod_two_eq_zero_or_one _).resolve_right hb, zero_nsmul, nsmul_zero, add_zero]
      exact ih (hd h)

/-- `Nat.log2 k + 1` steps consume every bit of `k`, so from a representative of `0` the loop reaches `k • P`. -/
theorem doubleAdd_loop_log {G J : Type*} [AddCommMonoid G] {Rep : J → G → Prop} {dbl addP : J → J} {P : G}
    (hd : ∀ {a A}, Rep a A → Rep (dbl a) (A + A)) (ha : ∀ {a A}, Rep a A → Rep (addP a) (A + P))
    {loop : ℕ → J → J} {k : ℕ} (h0 : ∀ acc, loop 0 acc = acc)
    (hs : ∀ i acc, loop (i + 1) acc = loop i (if k / 2 ^ i % 2 = 1 then addP (dbl acc) else dbl acc))
    {acc : J} (h : Rep acc 0) : Rep (loop (Nat.log2 k + 1) acc) (k • P) := by
  have := doubleAdd_loop hd ha h0 hs (Nat.log2 k + 1) h
  rwa [nsmul_zero, zero_add, Nat.mod_eq_of_lt Nat.lt_log2_self] at this

section Casts
variable {p : ℕ}

theorem subMod_lt (a b : ℕ) (hp : 0 < p) : subMod a b p < p := Nat.mod_lt _ hp

theorem negMod_lt (a : ℕ) (hp : 0 < p) : negMod a p < p := Nat.mod_lt _ hp

theorem cast_mod (a : ℕ) : ((a % p : ℕ) : ZMod p) = a := ZMod.natCast_mod a p

theorem cast_subMod [NeZero p] (a b : ℕ) : ((subMod a b p : ℕ) : ZMod p) = a - b := by
  unfold subMod
  have hb : b % p ≤ p := (Nat.mod_lt _ (NeZero.pos p)).le
  rw [ZMod.natCast_mod, Nat.cast_add, ZMod.natCast_mod, Nat.cast_sub hb, ZMod.natCast_self,
    ZMod.natCast_mod]
  ring

theorem cast_negMod [NeZero p] (a : ℕ) : ((negMod a p : ℕ) : ZMod p) = -a := by
  unfold negMod
  have hb : a % p ≤ p := (Nat.mod_lt _ (NeZero.pos p)).le
  rw [ZMod.natCast_mod, Nat.cast_sub hb, ZMod.natCast_self, ZMod.natCast_mod]
  ring

theorem powModAux_modEq (m : ℕ) : ∀ (fuel b e acc : ℕ), e < 2 ^ fuel →
    powModAux m fuel b e acc ≡ acc * b ^ e [MOD m]
  | 0, b, e, acc, h => by
    obtain rfl : e = 0 := by simpa using h
    simpa [powModAux] using Nat.ModEq.refl acc
  | fuel + 1, b, e, acc, h => by
    unfold powModAux
    split
    · next he => simpa [he] using Nat.ModEq.refl acc
    · have h2 : e / 2 < 2 ^ fuel := by
        rw [Nat.div_lt_iff_lt_mul (by norm_num)]
        rwa [pow_succ] at h
      have hacc : (if e % 2 = 1 then acc * b % m else acc) ≡ acc * b ^ (e % 2) [MOD m] := by
        rcases Nat.mod_two_eq_zero_or_one e with h | h
        · simpa [h] using Nat.ModEq.refl acc
        · simpa [h] using Nat.mod_modEq (acc * b) m
      refine (powModAux_modEq m fuel _ _ _ h2).trans ?_
      calc (if e % 2 = 1 then acc * b % m else acc) * (b * b % m) ^ (e / 2)
          ≡ acc * b ^ (e % 2) * (b * b) ^ (e / 2) [MOD m] := hacc.mul ((Nat.mod_modEq _ _).pow _)
        _ = acc * b ^ (2 * (e / 2) + e % 2) := by ring
        _ = acc * b ^ e := by rw [Nat.div_add_mod]

theorem powMod_modEq (b e m : ℕ) : powMod b e m ≡ b ^ e [MOD m] := by
  have h := powModAux_modEq m (Nat.log2 e + 1) (b % m) e (1 % m) Nat.lt_log2_self
  refine h.trans ?_
  calc 1 % m * (b % m) ^ e ≡ 1 * b ^ e [MOD m] := (Nat.mod_modEq _ _).mul ((Nat.mod_modEq _ _).pow _)
    _ = b ^ e := one_mul _

theorem cast_powMod (b e : ℕ) : ((powMod b e p : ℕ) : ZMod p) = (b : ZMod p) ^ e := by
  have := (ZMod.natCast_eq_natCast_iff _ _ _).mpr (powMod_modEq b e p)
  simpa using this

theorem powMod_lt (b e : ℕ) (hp : 0 < p) : powMod b e p < p := by
  unfold powMod
  suffices h : ∀ fuel b e acc, acc < p → powModAux p fuel b e acc < p from
    h _ _ _ _ (Nat.mod_lt _ hp)
  intro fuel
  induction fuel with
  | zero => intro b e acc h; simpa [powModAux] using h
  | succ n ih =>
    intro b e acc h
    unfold powModAux
    split
    · exact h
    · apply ih
      split
      · exact Nat.mod_lt _ hp
      · exact h

theorem invMod_lt (a : ℕ) (hp : 0 < p) : invMod a p < p := powMod_lt _ _ hp

/-- Fermat inverse: `a^(p-2) = a⁻¹` in `ZMod p` (`0⁻¹ = 0`), for an odd prime `p`. -/
theorem cast_invMod [Fact p.Prime] (hp2 : 2 < p) (a : ℕ) :
    ((invMod a p : ℕ) : ZMod p) = (a : ZMod p)⁻¹ := by
  unfold invMod
  rw [cast_powMod]
  by_cases ha : (a : ZMod p) = 0
  · rw [ha, inv_zero, zero_pow (Nat.sub_ne_zero_of_lt hp2)]
  · refine eq_inv_of_mul_eq_one_left ?_
    have hp1 : p - 2 + 1 = p - 1 := Nat.succ_pred_eq_of_pos (Nat.sub_pos_of_lt (Nat.lt_of_succ_lt hp2))
    rw [← pow_succ, hp1]
    exact ZMod.pow_card_sub_one_eq_one ha

theorem natCast_inj_of_lt {a b : ℕ} (ha : a < p) (hb : b < p) :
    (a : ZMod p) = (b : ZMod p) ↔ a = b := by
  rw [ZMod.natCast_eq_natCast_iff', Nat.mod_eq_of_lt ha, Nat.mod_eq_of_lt hb]

theorem natCast_eq_zero_of_lt {a : ℕ} (ha : a < p) : (a : ZMod p) = 0 ↔ a = 0 := by
  rw [ZMod.natCast_eq_zero_iff]
  constructor
  · intro h
    exact Nat.eq_zero_of_dvd_of_lt h ha
  · rintro rfl; exact dvd_zero _

theorem sqrtMod3mod4_eq_some {a r : ℕ} (hp : 0 < p) (h : sqrtMod3mod4 a p = some r) :
    r * r % p = a % p ∧ r < p := by
  unfold sqrtMod3mod4 at h
  obtain ⟨hr, hr'⟩ := Option.ite_none_right_eq_some.mp h
  obtain rfl := Option.some.inj hr'
  exact ⟨hr, powMod_lt _ _ hp⟩

theorem sub_mul_self_mod {y : ℕ} (hy : y ≤ p) : (p - y) * (p - y) % p = y * y % p := by
  apply (ZMod.natCast_eq_natCast_iff' _ _ _).mp
  rw [Nat.cast_mul, Nat.cast_sub hy, ZMod.natCast_self, zero_sub, neg_mul_neg, Nat.cast_mul]

/-- Of the two reduced square roots `r`, `p - r` of a residue modulo an odd `p`, the one with the parity of `y`
is `y`: `r = ±y` in `ZMod p` means `r = y` or `r = p - y`, and `p - y` has the other parity. -/
theorem parity_select {r y : ℕ} (hp : p % 2 = 1) (hr : r < p) (hy : y < p)
    (h : (r : ZMod p) = y ∨ (r : ZMod p) = -y) : (if r % 2 = y % 2 then r else p - r) = y := by
  rcases h with h | h
  · rw [(natCast_inj_of_lt hr hy).mp h, if_pos rfl]
  · by_cases h0 : y = 0
    · rw [h0, Nat.cast_zero, neg_zero] at h
      rw [h0, (natCast_eq_zero_of_lt hr).mp h, if_pos rfl]
    · have hry : r = p - y :=
        (natCast_inj_of_lt hr (Nat.sub_lt (Nat.zero_lt_of_lt hy) (Nat.pos_of_ne_zero h0))).mp
          (by rw [Nat.cast_sub hy.le, ZMod.natCast_self, zero_sub, h])
      have hpar : (p - y) % 2 ≠ y % 2 := by omega
      rw [hry, if_neg hpar, Nat.sub_sub_self hy.le]

end Casts

/-- Hypotheses under which `c` is an elliptic curve over the prime field `F_p`. -/
class Valid (c : WCurve) : Prop where
  prime : c.p.Prime
  two_lt : 2 < c.p
  disc : (4 * (c.a : ZMod c.p) ^ 3 + 27 * (c.b : ZMod c.p) ^ 2) ≠ 0

instance (c : WCurve) [h : Valid c] : Fact c.p.Prime := ⟨h.prime⟩

/-- `y² = x³ + a·x + b` over `ZMod p` as a Mathlib Weierstrass curve. -/
def W (c : WCurve) : Affine (ZMod c.p) := ⟨0, 0, 0, (c.a : ZMod c.p), (c.b : ZMod c.p)⟩

variable {c : WCurve}

@[simp] theorem W_a₁ : (W c).a₁ = 0 := rfl
@[simp] theorem W_a₂ : (W c).a₂ = 0 := rfl
@[simp] theorem W_a₃ : (W c).a₃ = 0 := rfl
@[simp] theorem W_a₄ : (W c).a₄ = (c.a : ZMod c.p) := rfl
@[simp] theorem W_a₆ : (W c).a₆ = (c.b : ZMod c.p) := rfl

theorem p_pos [Valid c] : 0 < c.p := by have := Valid.two_lt (c := c); omega

theorem two_ne_zero' [Valid c] : (2 : ZMod c.p) ≠ 0 := by
  have h2 := Valid.two_lt (c := c)
  have : ((2 : ℕ) : ZMod c.p) ≠ 0 := by
    rw [Ne, ZMod.natCast_eq_zero_iff]
    intro h
    have := Nat.le_of_dvd (by norm_num) h
    omega
  simpa using this

theorem W_Δ : (W c).Δ = -16 * (4 * (c.a : ZMod c.p) ^ 3 + 27 * (c.b : ZMod c.p) ^ 2) := by
  simp only [WeierstrassCurve.Δ, WeierstrassCurve.b₂, WeierstrassCurve.b₄, WeierstrassCurve.b₆,
    WeierstrassCurve.b₈, W_a₁, W_a₂, W_a₃, W_a₄, W_a₆]
  ring

theorem W_Δ_ne_zero [Valid c] : (W c).Δ ≠ 0 := by
  rw [W_Δ]
  have h2 := two_ne_zero' (c := c)
  have h16 : (-16 : ZMod c.p) ≠ 0 := by
    have : (-16 : ZMod c.p) = -(2 ^ 4) := by norm_num
    rw [this]
    exact neg_ne_zero.mpr (pow_ne_zero _ h2)
  exact mul_ne_zero h16 Valid.disc

theorem W_equation_iff (x y : ZMod c.p) :
    (W c).Equation x y ↔ y ^ 2 = x ^ 3 + (c.a : ZMod c.p) * x + (c.b : ZMod c.p) := by
  rw [equation_iff]
  simp only [W_a₁, W_a₂, W_a₃, W_a₄, W_a₆]
  constructor <;> intro h <;> linear_combination h

theorem W_nonsingular [Valid c] {x y : ZMod c.p} (h : (W c).Equation x y) :
    (W c).Nonsingular x y :=
  (equation_iff_nonsingular_of_Δ_ne_zero W_Δ_ne_zero).mp h

@[simp] theorem W_negY (x y : ZMod c.p) : (W c).negY x y = -y := by
  simp [negY]

open Classical in
/-- The Mathlib point of a `WPoint`; points whose (cast) coordinates do not satisfy the curve
equation are sent to `0` (all lemmas are about on-curve points). -/
noncomputable def toM [Valid c] : WPoint → (W c).Point
  | .inf => 0
  | .aff x y =>
    if h : (W c).Equation (x : ZMod c.p) (y : ZMod c.p) then .some _ _ (W_nonsingular h) else 0

@[simp] theorem toM_inf [Valid c] : toM (c := c) .inf = 0 := rfl

theorem toM_eq_some [Valid c] {x y : ℕ} {X Y : ZMod c.p} (hx : (x : ZMod c.p) = X)
    (hy : (y : ZMod c.p) = Y) (h : (W c).Nonsingular X Y) :
    toM (.aff x y) = Point.some X Y h := by
  subst hx hy
  simp only [toM]
  rw [dif_pos h.1]

theorem onCurve_aff_iff [Valid c] (x y : ℕ) :
    c.onCurve (.aff x y) = true ↔
      x < c.p ∧ y < c.p ∧ (W c).Equation (x : ZMod c.p) (y : ZMod c.p) := by
  simp only [WCurve.onCurve, WCurve.rhs, Bool.and_eq_true, decide_eq_true_eq, beq_iff_eq,
    and_assoc]
  refine and_congr_right fun _ => and_congr_right fun _ => ?_
  rw [W_equation_iff, ← ZMod.natCast_eq_natCast_iff']
  push_cast
  constructor <;> intro h <;> linear_combination h

theorem onCurve_of_cast [Valid c] {x y : ℕ} {X Y : ZMod c.p} (hx : x < c.p) (hy : y < c.p)
    (hX : (x : ZMod c.p) = X) (hY : (y : ZMod c.p) = Y) (h : (W c).Equation X Y) :
    c.onCurve (.aff x y) = true := by
  subst hX hY
  exact (onCurve_aff_iff x y).mpr ⟨hx, hy, h⟩

theorem toM_aff [Valid c] {x y : ℕ} (h : c.onCurve (.aff x y) = true) :
    toM (.aff x y) = Point.some (x : ZMod c.p) (y : ZMod c.p)
      (W_nonsingular ((onCurve_aff_iff x y).mp h).2.2) :=
  toM_eq_some rfl rfl _

theorem toM_aff_ne_zero [Valid c] {x y : ℕ} (h : c.onCurve (.aff x y) = true) :
    toM (c := c) (.aff x y) ≠ 0 := by
  rw [toM_aff h]; exact Point.some_ne_zero _

theorem toM_eq_zero_iff [Valid c] {P : WPoint} (h : c.onCurve P = true) :
    toM (c := c) P = 0 ↔ P = .inf := by
  cases P with
  | inf => simp
  | aff x y => simp [toM_aff_ne_zero h]

theorem toM_injOn [Valid c] {P Q : WPoint} (hP : c.onCurve P = true) (hQ : c.onCurve Q = true)
    (h : toM (c := c) P = toM Q) : P = Q := by
  cases P with
  | inf =>
    cases Q with
    | inf => rfl
    | aff x y => exact absurd h.symm (toM_aff_ne_zero hQ)
  | aff x y =>
    cases Q with
    | inf => exact absurd h (toM_aff_ne_zero hP)
    | aff x' y' =>
      rw [toM_aff hP, toM_aff hQ] at h
      obtain ⟨hx, hy, -⟩ := (onCurve_aff_iff x y).mp hP
      obtain ⟨hx', hy', -⟩ := (onCurve_aff_iff x' y').mp hQ
      injection h with h1 h2
      rw [(natCast_inj_of_lt hx hx').mp h1, (natCast_inj_of_lt hy hy').mp h2]

theorem add_inf_left (Q : WPoint) : c.add .inf Q = Q := by
  cases Q <;> rfl

theorem add_inf_right (P : WPoint) : c.add P .inf = P := by
  cases P <;> rfl

/-- The slope computed by `WCurve.add`. -/
def addSlope (c : WCurve) (x1 y1 x2 y2 : ℕ) : ℕ :=
  if x1 = x2 then (3 * x1 * x1 + c.a) % c.p * invMod (2 * y1) c.p % c.p
  else subMod y2 y1 c.p * invMod (subMod x2 x1 c.p) c.p % c.p

theorem add_aff_aff (x1 y1 x2 y2 : ℕ) :
    c.add (.aff x1 y1) (.aff x2 y2) =
      if x1 = x2 ∧ (y1 + y2) % c.p = 0 then .inf
      else
        let l := addSlope c x1 y1 x2 y2
        let x3 := subMod (l * l) (x1 + x2) c.p
        .aff x3 (subMod (l * subMod x1 x3 c.p) y1 c.p) := rfl

theorem add_correct_aff [Valid c] {x1 y1 x2 y2 : ℕ} (hP : c.onCurve (.aff x1 y1) = true)
    (hQ : c.onCurve (.aff x2 y2) = true) :
    c.onCurve (c.add (.aff x1 y1) (.aff x2 y2)) = true ∧
      toM (c.add (.aff x1 y1) (.aff x2 y2)) = toM (c := c) (.aff x1 y1) + toM (.aff x2 y2) := by
  obtain ⟨hx1, hy1, h1⟩ := (onCurve_aff_iff x1 y1).mp hP
  obtain ⟨hx2, hy2, h2⟩ := (onCurve_aff_iff x2 y2).mp hQ
  have hp := p_pos (c := c)
  have hp2 := Valid.two_lt (c := c)
  have hcond : (x1 = x2 ∧ (y1 + y2) % c.p = 0) ↔
      ((x1 : ZMod c.p) = x2 ∧ (y1 : ZMod c.p) = (W c).negY x2 y2) := by
    rw [natCast_inj_of_lt hx1 hx2, W_negY, ← Nat.dvd_iff_mod_eq_zero,
      ← ZMod.natCast_eq_zero_iff, Nat.cast_add, eq_neg_iff_add_eq_zero]
  rw [toM_aff hP, toM_aff hQ, add_aff_aff]
  by_cases hc : x1 = x2 ∧ (y1 + y2) % c.p = 0
  · rw [if_pos hc]
    have hc' := hcond.mp hc
    exact ⟨rfl, by rw [toM_inf, Point.add_of_Y_eq hc'.1 hc'.2]⟩
  · rw [if_neg hc]
    have hc' : ¬((x1 : ZMod c.p) = x2 ∧ (y1 : ZMod c.p) = (W c).negY x2 y2) := fun h => hc (hcond.mpr h)
    have hl : ((addSlope c x1 y1 x2 y2 : ℕ) : ZMod c.p) = (W c).slope x1 x2 y1 y2 := by
      unfold addSlope
      by_cases hx : x1 = x2
      · have hy : (y1 : ZMod c.p) ≠ (W c).negY x2 y2 := fun h =>
          hc' ⟨by rw [hx], h⟩
        rw [if_pos hx, slope_of_Y_ne (by rw [hx]) hy]
        simp only [cast_mod, Nat.cast_mul, cast_invMod hp2, Nat.cast_add, W_negY, W_a₁, W_a₂,
          W_a₄, Nat.cast_ofNat]
        rw [div_eq_mul_inv]
        congr 1
        · ring
        · congr 1; ring
      · have hx' : (x1 : ZMod c.p) ≠ x2 := fun h => hx ((natCast_inj_of_lt hx1 hx2).mp h)
        rw [if_neg hx, slope_of_X_ne hx']
        simp only [cast_mod, Nat.cast_mul, cast_invMod hp2, cast_subMod]
        rw [← neg_sub (y1 : ZMod c.p), ← neg_sub (x1 : ZMod c.p), inv_neg, neg_mul_neg,
          div_eq_mul_inv]
    have n1 := W_nonsingular h1
    have n2 := W_nonsingular h2
    have hns := nonsingular_add n1 n2 hc'
    have hX : ((subMod (addSlope c x1 y1 x2 y2 * addSlope c x1 y1 x2 y2) (x1 + x2) c.p : ℕ) :
        ZMod c.p) = (W c).addX x1 x2 ((W c).slope x1 x2 y1 y2) := by
      rw [cast_subMod, Nat.cast_mul, Nat.cast_add, hl]
      simp only [addX, W_a₁, W_a₂]
      ring
    have hY : ((subMod (addSlope c x1 y1 x2 y2 *
        subMod x1 (subMod (addSlope c x1 y1 x2 y2 * addSlope c x1 y1 x2 y2) (x1 + x2) c.p) c.p)
          y1 c.p : ℕ) : ZMod c.p) =
        (W c).addY x1 x2 y1 ((W c).slope x1 x2 y1 y2) := by
      rw [cast_subMod, Nat.cast_mul, cast_subMod, hX, hl]
      simp only [addY, negAddY, W_negY]
      ring
    rw [Point.add_some hc']
    refine ⟨?_, toM_eq_some hX hY hns⟩
    exact onCurve_of_cast (subMod_lt _ _ hp) (subMod_lt _ _ hp) hX hY hns.1

theorem add_correct [Valid c] {P Q : WPoint} (hP : c.onCurve P = true)
    (hQ : c.onCurve Q = true) :
    c.onCurve (c.add P Q) = true ∧ toM (c.add P Q) = toM (c := c) P + toM Q := by
  cases P with
  | inf => rw [add_inf_left]; exact ⟨hQ, by simp⟩
  | aff x1 y1 =>
    cases Q with
    | inf => rw [add_inf_right]; exact ⟨hP, by simp⟩
    | aff x2 y2 => exact add_correct_aff hP hQ

theorem onCurve_add [Valid c] {P Q : WPoint} (hP : c.onCurve P = true)
    (hQ : c.onCurve Q = true) : c.onCurve (c.add P Q) = true := (add_correct hP hQ).1

theorem toM_add [Valid c] {P Q : WPoint} (hP : c.onCurve P = true) (hQ : c.onCurve Q = true) :
    toM (c.add P Q) = toM (c := c) P + toM Q := (add_correct hP hQ).2

end BipVerif.WGroup
