/-
The ECDSA key layer of the model (`pubOfPriv`, `pubAddMulG`, `pubFromBytes`) is a faithful group
encoding of Mathlib's group of points of secp256k1 / NIST P-256: `EcdsaGroupModel` is instantiated, so that
`EcdsaLaw` / `EcdsaInfLaw` hold without hypotheses (`Props/C12Group.lean`). What remains to be shown here is that
SEC1 decoding undoes compression: for `p % 4 = 3` the square root is the power `(p + 1) / 4`, and the parity byte
selects `y` among the two roots.
-/
import BipVerif.Lemmas.WGroup.Concrete
import BipVerif.Lemmas.Ecc

namespace BipVerif.WGroup
open BipVerif BipVerif.Prim BipVerif.Model WeierstrassCurve WeierstrassCurve.Affine

variable {c : WCurve}

/-- The `WPoint` with canonical (reduced) coordinates of a Mathlib point. -/
def ofM : (W c).Point → WPoint
  | .zero => .inf
  | .some x y _ => .aff x.val y.val

theorem ofM_toM [Valid c] {P : WPoint} (hP : c.onCurve P = true) : ofM (toM (c := c) P) = P := by
  cases P with
  | inf => rfl
  | aff x y =>
    obtain ⟨hx, hy, -⟩ := (onCurve_aff_iff x y).mp hP
    rw [toM_aff hP]
    show WPoint.aff (x : ZMod c.p).val (y : ZMod c.p).val = _
    rw [ZMod.val_natCast, ZMod.val_natCast, Nat.mod_eq_of_lt hx, Nat.mod_eq_of_lt hy]

/-- compressed SEC1 encoding of a Mathlib point (`none` at the neutral element) -/
def enc (c : WCurve) (P : (W c).Point) : Option Bytes := c.compress (ofM P)

theorem compress_eq_none_iff (P : WPoint) : c.compress P = none ↔ P = .inf := by
  cases P <;> simp [WCurve.compress]

theorem sqrt_spec [Valid c] (h34 : c.p % 4 = 3) {x y : ℕ} (h : c.onCurve (.aff x y) = true) :
    ∃ r, sqrtMod3mod4 (c.rhs x) c.p = some r ∧ r < c.p ∧
      ((r : ZMod c.p) = y ∨ (r : ZMod c.p) = -y) := by
  have hexp : 2 * ((c.p + 1) / 4 * 2) = c.p + 1 :=
    (Nat.mul_left_comm 2 _ 2).trans (Nat.div_mul_cancel (Nat.dvd_of_mod_eq_zero (by rw [Nat.add_mod, h34])))
  have hp := p_pos (c := c)
  have hrhs : c.rhs x = y * y % c.p := by
    simp only [WCurve.onCurve, Bool.and_eq_true, beq_iff_eq] at h
    exact h.2.symm
  have hrr : c.rhs x % c.p = c.rhs x := by rw [hrhs, Nat.mod_mod]
  have hcast : ((powMod (c.rhs x) ((c.p + 1) / 4) c.p : ℕ) : ZMod c.p) ^ 2 = (y : ZMod c.p) ^ 2 := by
    rw [cast_powMod, hrhs, cast_mod, Nat.cast_mul, ← pow_two, ← pow_mul, ← pow_mul]
    rw [hexp, pow_succ, ZMod.pow_card, pow_two]
  refine ⟨powMod (c.rhs x) ((c.p + 1) / 4) c.p, ?_, powMod_lt _ _ hp, ?_⟩
  · unfold sqrtMod3mod4
    dsimp only
    rw [hrr, if_pos]
    have hlt : c.rhs x < c.p := by rw [hrhs]; exact Nat.mod_lt _ hp
    have hcr : ((c.rhs x : ℕ) : ZMod c.p) = (y : ZMod c.p) ^ 2 := by
      rw [hrhs, cast_mod, Nat.cast_mul, pow_two]
    rw [← natCast_inj_of_lt (Nat.mod_lt _ hp) hlt, cast_mod, Nat.cast_mul, ← pow_two, hcast, hcr]
  · have : ((powMod (c.rhs x) ((c.p + 1) / 4) c.p : ℕ) : ZMod c.p) ^ 2 - (y : ZMod c.p) ^ 2 = 0 :=
      sub_eq_zero.mpr hcast
    rw [sq_sub_sq] at this
    rcases mul_eq_zero.mp this with h | h
    · exact Or.inr (eq_neg_of_add_eq_zero_left h)
    · exact Or.inl (sub_eq_zero.mp h)

theorem uint8_parity (y : ℕ) :
    (UInt8.ofNat (2 + y % 2) = 2 ∨ UInt8.ofNat (2 + y % 2) = 3) ∧
      (UInt8.ofNat (2 + y % 2)).toNat % 2 = y % 2 := by
  rcases Nat.mod_two_eq_zero_or_one y with h | h <;> rw [h]
  · exact ⟨Or.inl rfl, rfl⟩
  · exact ⟨Or.inr rfl, rfl⟩

theorem decode_compress_aff [Valid c] (h34 : c.p % 4 = 3) {x y : ℕ}
    (h : c.onCurve (.aff x y) = true) :
    c.decode (UInt8.ofNat (2 + y % 2) :: Bytes.ofNatBE c.coordLen x) = some (.aff x y) := by
  obtain ⟨hx, hy, -⟩ := (onCurve_aff_iff x y).mp h
  have hpl := EccLemmas.p_lt_pow_coordLen c
  have hxb : Bytes.toNatBE (Bytes.ofNatBE c.coordLen x) = x := toNatBE_ofNatBE (by omega)
  obtain ⟨r, hr, hrlt, hry⟩ := sqrt_spec h34 h
  obtain ⟨ht, hpar⟩ := uint8_parity y
  unfold WCurve.decode
  dsimp only
  rw [if_pos ⟨ht, length_ofNatBE _ _⟩, hxb, if_pos hx, hr]
  dsimp only
  rw [hpar]
  rw [parity_select (Nat.odd_of_mod_four_eq_three h34) hrlt hy hry, if_pos hy]

theorem decode_of_compress [Valid c] (h34 : c.p % 4 = 3) {Q : WPoint} {P : Bytes}
    (hQ : c.onCurve Q = true) (h : c.compress Q = some P) : c.decode P = some Q := by
  cases Q with
  | inf => cases h
  | aff x y =>
    simp only [WCurve.compress, Option.some.injEq] at h
    rw [← h]
    exact decode_compress_aff h34 hQ

theorem ofM_nsmul_G [Valid c] (hG : c.onCurve c.G = true) (k : ℕ) :
    ofM (k • toM (c := c) c.G) = c.mulG k := by
  rw [← toM_mulG k hG, ofM_toM (onCurve_mulG k hG)]

theorem ofM_add_nsmul_G [Valid c] (hG : c.onCurve c.G = true) (k il : ℕ) :
    ofM (k • toM (c := c) c.G + il • toM (c := c) c.G) = c.add (c.mulG k) (c.mulG il) := by
  rw [← toM_mulG k hG, ← toM_mulG il hG, ← toM_add (onCurve_mulG k hG) (onCurve_mulG il hG),
    ofM_toM (onCurve_add (onCurve_mulG k hG) (onCurve_mulG il hG))]

theorem mulG_mod [Valid c] (hG : c.onCurve c.G = true) {n : ℕ}
    (hord : GroupModel.HasOrder (toM (c := c) c.G) n) (k : ℕ) : c.mulG (k % n) = c.mulG k := by
  rw [← ofM_nsmul_G hG, ← ofM_nsmul_G hG, GroupModel.mod_nsmul hord]

theorem pubFromBytes_of_compress {ct : CurveT} (hct : ct = .secp256k1 ∨ ct = .nist256p1) [Valid ct.wcurve]
    (h34 : ct.wcurve.p % 4 = 3) {Q : WPoint} {P : Bytes} (hQ : ct.wcurve.onCurve Q = true)
    (h : ct.wcurve.compress Q = some P) : pubFromBytes ct P = some P := by
  rw [EccLemmas.pubFromBytes_ecdsa_eq ct hct,
    EccLemmas.wDecodePub_of_decode (decode_of_compress h34 hQ h)]
  exact h

theorem ecdsaGroupModel_of (ct : CurveT) (hct : ct = .secp256k1 ∨ ct = .nist256p1) [Valid ct.wcurve]
    (h34 : ct.wcurve.p % 4 = 3) (hG : ct.wcurve.onCurve ct.wcurve.G = true)
    (hord : GroupModel.HasOrder (toM (c := ct.wcurve) ct.wcurve.G) ct.order) :
    GroupModel.EcdsaGroupModel ct (toM (c := ct.wcurve) ct.wcurve.G) (enc ct.wcurve) where
  order := hord
  enc_none k := by
    rw [enc, ofM_nsmul_G hG, compress_eq_none_iff, ← toM_eq_zero_iff (onCurve_mulG k hG), toM_mulG k hG]
  pub_of_priv k _ := by
    rw [enc, ofM_nsmul_G hG]
    rcases hct with rfl | rfl <;> rfl
  add_mul_g k P il h := by
    rw [enc, ofM_nsmul_G hG] at h
    rw [enc, ofM_add_nsmul_G hG, pubAddMulG, decode_of_compress h34 (onCurve_mulG k hG) h]
  canon k P h := by
    rw [enc, ofM_nsmul_G hG] at h
    exact pubFromBytes_of_compress hct h34 (onCurve_mulG k hG) h

theorem ecdsaGroupModel_secp256k1 :
    GroupModel.EcdsaGroupModel .secp256k1 secp256k1G (enc secp256k1) :=
  @ecdsaGroupModel_of .secp256k1 (Or.inl rfl) valid_secp256k1 (by decide +kernel) secp256k1_G_onCurve
    secp256k1_hasOrder

theorem ecdsaGroupModel_nist256p1 :
    GroupModel.EcdsaGroupModel .nist256p1 nist256p1G (enc nist256p1) :=
  @ecdsaGroupModel_of .nist256p1 (Or.inr rfl) valid_nist256p1 (by decide +kernel) nist256p1_G_onCurve
    nist256p1_hasOrder

end BipVerif.WGroup
