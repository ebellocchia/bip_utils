/-
Error kinds for C14 ("only documented exceptions escape") of the entry points below the address
layer that `Lemmas/Addr*.lean` does not already bound: SCALE, the CBOR indefinite-length array
loop (fuel exhaustion unreachable), Substrate paths and chain codes, the WIF and BIP-39 encoders.
-/
import BipVerif.Lemmas.AddrBech32
import BipVerif.Lemmas.AddrBase32
import BipVerif.Lemmas.AddrMisc
import BipVerif.Lemmas.Scale
import BipVerif.Lemmas.Bip39
import BipVerif.Model.Substrate
import BipVerif.Model.Wif

namespace BipVerif.Model.EscapeLemmas
open BipVerif BipVerif.Model C14MoreLemmas

/-- none of the four `int.to_bytes` calls of the compact encoder can overflow -/
@[ov] theorem scaleCompact_ov (v : Nat) : OnlyValue (scaleCompact v) := by
  by_cases hv : v < 2 ^ 536
  · obtain ⟨b, hb⟩ := (scaleCompact_ok_iff v).2 hv
    rw [hb]; exact .ok b
  · rw [scaleCompact_error (by omega)]; exact .error

@[ov] theorem scaleUint_ov (v n : Nat) : OnlyValue (scaleUint v n) := by
  by_cases hv : v < 256 ^ n
  · obtain ⟨b, hb, _⟩ := scaleUint_roundtrip hv
    rw [hb]; exact .ok b
  · rw [scaleUint_error (by omega)]; exact .error

@[ov] theorem scaleBytes_ov (b : Bytes) : OnlyValue (scaleBytes b) := by
  unfold scaleBytes
  simp only [ov]

@[ov] theorem cborLoadsUint_ov (b : Bytes) : OnlyValue (cborLoadsUint b) := by
  unfold cborLoadsUint
  split <;> simp only [ov]

theorem cborItemLen_pos (c : UInt8) : 1 ≤ cborItemLen c := by
  unfold cborItemLen
  repeat' split
  all_goals omega

/-- the loop never runs out of fuel: the index strictly increases and the fuel covers every index -/
theorem cborGo_ov (loads : Bytes → R CborItem) (hl : ∀ b, OnlyValue (loads b)) (enc : Bytes) :
    ∀ (fuel i : Nat) (acc : List CborItem), 1 ≤ fuel → enc.length + 1 ≤ fuel + i →
      OnlyValue (cborIndefDecode.go loads enc fuel i acc)
  | 0, _, _, h1, _ => by omega
  | fuel + 1, i, acc, _, hinv => by
    rw [cborGo_succ]
    simp only [ov]
    intro hi _
    have := cborItemLen_pos (enc.getD i 0)
    cases hld : loads ((enc.drop i).take (cborItemLen (enc.getD i 0))) with
    | error e => exact OnlyValue.throw_iff.mpr ((hl _).h e hld)
    | ok item => exact cborGo_ov loads hl enc fuel _ _ (by omega) (by omega)

theorem cborIndefDecode_ov (loads : Bytes → R CborItem) (hl : ∀ b, OnlyValue (loads b)) (enc : Bytes) :
    OnlyValue (cborIndefDecode loads enc) := by
  unfold cborIndefDecode
  simp only [ov]
  exact fun h _ _ => cborGo_ov loads hl enc _ _ _ (by omega) (by omega)

variable {P : Err → Prop}

theorem subElemOf_only (t : List Char) (hp : P .path := by decide) : Only P (subElemOf t) := by
  unfold subElemOf
  simp only [ov, hp]

theorem subParsePath_only (s : List Char) (hp : P .path := by decide) : Only P (subParsePath s) := by
  unfold subParsePath
  simp only [ov, hp, Only.mapM (subElemOf_only · hp)]

/-- `SubstratePathError` for a number wider than 256 bits, else the SCALE encoders' `ValueError` -/
theorem subChainCode_only (el : SubElem) (hp : P .path := by decide) (hv : P .value := by decide) :
    Only P (subChainCode el) := by
  unfold subChainCode
  split <;> simp only [ov, hp, hv]

@[ov] theorem wifEncode_ov (H : Bytes → Bytes) (priv netVer : Bytes) (c : Bool) :
    OnlyValue (wifEncode H priv netVer c) := by
  unfold wifEncode
  simp only [ov]

/-- the word index `wl[g]` is in range for a 2048-word list: no `IndexError` -/
theorem bip39Encode_ov (H : Bytes → Bytes) (hH : ∀ x, (H x).length = 32) (wl : List Nat)
    (hwl : wl.length = 2048) (ent : Bytes) : OnlyValue (bip39Encode H wl ent) := by
  cases hlen : bip39EntLens.contains ent.length with
  | true =>
    obtain ⟨ws, hws, _⟩ := bip39Encode_ok H hH wl hwl ent hlen
    rw [hws]; exact .ok ws
  | false => rw [bip39Encode_error H wl ent hlen]; exact .error

end BipVerif.Model.EscapeLemmas
