/-
BIP32-Ed25519 (Khovratovich-Law) child key derivation, about `BipVerif/Model/Kholaw.lean`.
Public/private commutation for scheme `.kholaw` under an explicit law about the Edwards point
layer (`KholawLaw`), for sums of scalars below `2^255` — which is every case where the private side
succeeds (`kholaw_ckdPub_comm_of_ok`).  The Byron-legacy scheme is excluded: there the two sides use
incongruent scalars (`byron_scalar_mismatch`, finding F-byron-pubder).
-/
import BipVerif.Model.Kholaw
import BipVerif.Lemmas.Slip10
import BipVerif.Lemmas.Ecc

namespace BipVerif.Model
open BipVerif BipVerif.Prim

/-! ## the public-side scalar -/

theorem kholawPubScalar_kholaw (zl : Bytes) :
    kholawPubScalar .kholaw zl = Bytes.toNatLE (zl.take 28) * 8 := by
  unfold kholawPubScalar; rw [if_neg (by decide)]

theorem kholaw_scalar_lt (zl : Bytes) : kholawPubScalar .kholaw zl < 2 ^ 227 := by
  rw [kholawPubScalar_kholaw]
  have h1 := toNatLE_lt (zl.take 28)
  have h2 : 256 ^ (zl.take 28).length ≤ 256 ^ 28 :=
    Nat.pow_le_pow_right (by decide) (List.length_take_le 28 zl)
  -- `256^28 · 8 = 2^227`
  omega

/-- clearing bit 255 (libsodium's no-clamp multiplication) does not change the `.kholaw` scalar -/
theorem kholaw_scalar_mod (zl : Bytes) :
    kholawPubScalar .kholaw zl % 2 ^ 255 = kholawPubScalar .kholaw zl :=
  Nat.mod_eq_of_lt (Nat.lt_trans (kholaw_scalar_lt zl) (by decide))

theorem byron_scalar_reaches_bit255 :
    ∃ zl : Bytes, zl.length = 32 ∧ 2 ^ 255 ≤ kholawPubScalar .byronLegacy zl :=
  ⟨List.replicate 31 0 ++ [16], by decide, by decide⟩

/-- For Byron-legacy the byte-wise scalar reaches bit 255, and the scalar the public side then
multiplies by (bit 255 cleared) is *not* congruent mod `L` to the scalar the private side adds: in
any group where the base point has order `L` the two sides produce different points.  (Arithmetic
core of F-byron-pubder; no commutation theorem is claimed for `.byronLegacy`.) -/
theorem byron_scalar_mismatch :
    ∃ zl : Bytes, zl.length = 32 ∧
      (kholawPubScalar .byronLegacy zl % 2 ^ 255) % edL ≠ kholawPubScalar .byronLegacy zl % edL :=
  ⟨List.replicate 31 0 ++ [16], by decide, by decide⟩

/-! ## `kholawChildKey`: an instance of the `ChildKey` frame -/

theorem kholawChildKey_range (nd : Node) (idx : Nat) (h : 2 ^ 32 ≤ idx) :
    kholawChildKey nd idx = .error .value := by
  rw [kholawChildKey_eq_via]; exact childKeyVia_idx_ge nd idx h

theorem kholawChildKey_priv (nd : Node) (idx : Nat) (priv : Bytes) (hi : idx < 2 ^ 32)
    (hp : nd.priv = some priv) :
    kholawChildKey nd idx =
      (kholawCkdPriv nd priv idx >>= fun x =>
        if nd.depth ≥ 255 then .error .value
        else nodeOfPriv nd.curve nd.scheme x.1 (nd.depth + 1) idx x.2 nd.fingerprint) := by
  rw [kholawChildKey_eq_via]; exact childKeyVia_priv hi hp

theorem kholawChildKey_pub (nd : Node) (idx : Nat) (hi : idx < 2 ^ 32)
    (hp : nd.priv = none) (hh : isHardened idx = false) :
    kholawChildKey nd idx =
      (kholawCkdPub nd idx >>= fun x =>
        if nd.depth ≥ 255 then .error .value
        else nodeOfPub nd.curve nd.scheme x.1 (nd.depth + 1) idx x.2 nd.fingerprint) := by
  rw [kholawChildKey_eq_via, childKeyVia_pub hi hp, hh, if_neg Bool.noConfusion]

theorem kholawChildKey_priv_of_depth_lt (nd : Node) (idx : Nat) (priv : Bytes) (hi : idx < 2 ^ 32)
    (hp : nd.priv = some priv) (hd : nd.depth < 255) :
    kholawChildKey nd idx =
      (kholawCkdPriv nd priv idx >>= fun x =>
        nodeOfPriv nd.curve nd.scheme x.1 (nd.depth + 1) idx x.2 nd.fingerprint) := by
  rw [kholawChildKey_priv nd idx priv hi hp]
  simp only [ge_iff_le, Nat.not_le.mpr hd, if_false]

theorem kholawChildKey_pub_of_depth_lt (nd : Node) (idx : Nat) (hi : idx < 2 ^ 32)
    (hp : nd.priv = none) (hh : isHardened idx = false) (hd : nd.depth < 255) :
    kholawChildKey nd idx =
      (kholawCkdPub nd idx >>= fun x =>
        nodeOfPub nd.curve nd.scheme x.1 (nd.depth + 1) idx x.2 nd.fingerprint) := by
  rw [kholawChildKey_pub nd idx hi hp hh]
  simp only [ge_iff_le, Nat.not_le.mpr hd, if_false]

theorem kholawChildKey_pub_hard (nd : Node) (idx : Nat) (hi : idx < 2 ^ 32)
    (hp : nd.priv = none) (hh : isHardened idx = true) :
    kholawChildKey nd idx = .error .key := by
  rw [kholawChildKey_eq_via]; exact childKeyVia_pub_hardened nd idx hp hi hh

theorem kholaw_child_metadata (nd : Node) (idx : Nat) (c : Node) (h : kholawChildKey nd idx = .ok c) :
    c.depth = nd.depth + 1 ∧ c.index = idx ∧ idx < 2 ^ 32 ∧ c.parentFp = nd.fingerprint.take 4 ∧
      c.curve = nd.curve ∧ c.scheme = nd.scheme ∧ c.priv.isSome = nd.priv.isSome := by
  have f := childKeyVia_ok (kholawChildKey_eq_via ▸ h)
  exact ⟨f.depth, f.index, f.idx_lt, f.parentFp, f.curve, f.scheme, Bool.eq_iff_iff.mpr f.priv⟩

theorem kholawChildKey_idx_lt (nd : Node) (idx : Nat) (c : Node) (h : kholawChildKey nd idx = .ok c) :
    idx < 2 ^ 32 :=
  (kholaw_child_metadata nd idx c h).2.2.1

theorem kholawChildKey_depth (nd : Node) (idx : Nat) (c : Node) (h : kholawChildKey nd idx = .ok c) :
    nd.depth < 255 ∧ c.depth = nd.depth + 1 := by
  refine ⟨?_, (kholaw_child_metadata nd idx c h).1⟩
  rw [kholawChildKey_eq_via] at h; exact (childKeyVia_cases nd idx c h).1

theorem childKey_depth (nd : Node) (idx : Nat) (c : Node) (h : childKey nd idx = .ok c) :
    nd.depth < 255 ∧ c.depth = nd.depth + 1 := by
  unfold childKey at h
  split at h
  · exact ⟨slip10ChildKey_depth_lt nd idx c h, (child_metadata nd idx c h).1⟩
  · exact kholawChildKey_depth nd idx c h

theorem childKey_depth_le (nd : Node) (idx : Nat) (c : Node) (h : childKey nd idx = .ok c) :
    c.depth ≤ 255 := by
  have := childKey_depth nd idx c h; omega

/-! ## the non-hardened derivations as binds -/

/-- `Z = HMAC-SHA512(cc, 0x02 ‖ A ‖ i)` -/
def kholawZ (nd : Node) (idx : Nat) : Bytes :=
  hmacSha512 nd.chainCode ([2] ++ nd.pub.drop 1 ++ kholawIndexBytes nd.scheme idx)

/-- child chain code of a non-hardened derivation: right half of `HMAC(cc, 0x03 ‖ A ‖ i)` -/
def kholawCC (nd : Node) (idx : Nat) : Bytes :=
  (hmacSha512Halves nd.chainCode ([3] ++ nd.pub.drop 1 ++ kholawIndexBytes nd.scheme idx)).2

theorem kholawCkdPriv_soft (nd : Node) (priv : Bytes) (idx : Nat) (hh : isHardened idx = false) :
    kholawCkdPriv nd priv idx =
      (kholawNewLeft nd.scheme ((kholawZ nd idx).take 32) (priv.take 32) >>= fun kl =>
       kholawNewRight nd.scheme ((kholawZ nd idx).drop 32) (priv.drop 32) >>= fun kr =>
       .ok (kl ++ kr, kholawCC nd idx)) := by
  unfold kholawCkdPriv kholawZ kholawCC
  simp only [hh, Bool.false_eq_true, if_false, bind, Except.bind, pure, Except.pure]

theorem kholawCkdPub_eq (nd : Node) (idx : Nat) :
    kholawCkdPub nd idx =
      match edDecodeLenient (nd.pub.drop 1) with
      | none => .error .key
      | some p =>
        if edAdd p (edMulBase (kholawPubScalar nd.scheme ((kholawZ nd idx).take 32) % 2 ^ 255)) = edIdentity
        then .error .key
        else .ok (0 :: edEncode (edAdd p (edMulBase
                (kholawPubScalar nd.scheme ((kholawZ nd idx).take 32) % 2 ^ 255))), kholawCC nd idx) := by
  unfold kholawCkdPub kholawZ kholawCC
  simp only [bind, Except.bind, pure, Except.pure, throw, throwThe, MonadExceptOf.throw]
  cases edDecodeLenient (nd.pub.drop 1) with
  | none => rfl
  | some p => rfl

/-- the public derivation does not look at the private key -/
theorem kholawCkdPub_neuter (nd : Node) (idx : Nat) :
    kholawCkdPub nd.neuter idx = kholawCkdPub nd idx := rfl

/-! ## the point-layer law -/

/-- What the BIP32-Ed25519 commutation proof needs to know about the Edwards point layer
(`edMulBase`, `edAdd`, `edEncode`, `edDecodeLenient`, `edBytesOnCurve` — the functions
`pubOfPriv .ed25519Kholaw`, `kholawCkdPub` and `pubFromBytes .ed25519Kholaw` are built from).
All scalars are below `2^255` (bit 255 clear), the only range in which the library's no-clamp
multiplication is the mathematical one.  Every field follows from "the base point generates a
cyclic group of order `L`, `edMulBase s = s·B` in canonical affine form, `edAdd` is the group
law on such points, `decode ∘ encode = id`" — see `kholawLaw_of_group_model`. -/
structure KholawLaw : Prop where
  /-- `a·B + b·B = (a+b)·B` -/
  add_mul : ∀ a b, a + b < 2 ^ 255 → edAdd (edMulBase a) (edMulBase b) = edMulBase (a + b)
  /-- `B` has order `L` -/
  mul_id : ∀ s, s < 2 ^ 255 → (edMulBase s = edIdentity ↔ s % edL = 0)
  /-- the (lenient) decoder inverts the encoder on non-identity multiples of `B` -/
  dec_enc : ∀ s, s < 2 ^ 255 → edMulBase s ≠ edIdentity →
    edDecodeLenient (edEncode (edMulBase s)) = some (edMulBase s)
  /-- `point_is_on_curve` accepts the encodings of non-identity multiples of `B` -/
  on_curve : ∀ s, s < 2 ^ 255 → edMulBase s ≠ edIdentity →
    edBytesOnCurve (edEncode (edMulBase s)) = some true

theorem pubOfPriv_kholaw_eq (k : Bytes) (hk : Bytes.toNatLE (k.take 32) < 2 ^ 255) :
    pubOfPriv .ed25519Kholaw k =
      if edMulBase (Bytes.toNatLE (k.take 32)) = edIdentity then none
      else some (0 :: edEncode (edMulBase (Bytes.toNatLE (k.take 32)))) := by
  unfold pubOfPriv edNoClampScalar
  simp only [Nat.mod_eq_of_lt hk]

theorem pubOfPriv_kholaw (k : Bytes) (P : Bytes) (hk : Bytes.toNatLE (k.take 32) < 2 ^ 255)
    (h : pubOfPriv .ed25519Kholaw k = some P) :
    edMulBase (Bytes.toNatLE (k.take 32)) ≠ edIdentity ∧
      P = 0 :: edEncode (edMulBase (Bytes.toNatLE (k.take 32))) := by
  rw [pubOfPriv_kholaw_eq k hk] at h
  split at h
  · cases h
  · next hne => cases h; exact ⟨hne, rfl⟩

theorem pubFromBytes_kholaw_enc (law : KholawLaw) (s : Nat) (hs : s < 2 ^ 255)
    (hne : edMulBase s ≠ edIdentity) :
    pubFromBytes .ed25519Kholaw (0 :: edEncode (edMulBase s)) = some (0 :: edEncode (edMulBase s)) := by
  unfold pubFromBytes
  have hstrip : edStripPrefix (0 :: edEncode (edMulBase s)) = edEncode (edMulBase s) := by
    unfold edStripPrefix; simp [EccLemmas.edEncode_length]
  simp only [hstrip, law.on_curve s hs hne, EccLemmas.edEncode_length]
  rfl

/-- `_NewPrivateKeyLeftPart` refuses with `Bip32KeyError` a sum `8·zL[:28] + kL` that is
`≡ 0 (mod L)` or `≥ 2^255`; what is left fits 32 bytes, so `int.to_bytes` cannot overflow -/
theorem kholawNewLeft_kholaw (zl kl : Bytes) :
    kholawNewLeft .kholaw zl kl =
      if (Bytes.toNatLE (zl.take 28) * 8 + Bytes.toNatLE kl) % edL = 0 ∨
          2 ^ 255 ≤ Bytes.toNatLE (zl.take 28) * 8 + Bytes.toNatLE kl then .error .key
      else .ok (Bytes.ofNatLE 32 (Bytes.toNatLE (zl.take 28) * 8 + Bytes.toNatLE kl)) := by
  unfold kholawNewLeft
  rw [if_neg (by decide)]
  simp only [throw, throwThe, MonadExceptOf.throw]
  generalize Bytes.toNatLE (zl.take 28) * 8 + Bytes.toNatLE kl = v
  by_cases hz : v % edL = 0
  · rw [if_pos (Or.inl hz), if_pos hz]
  by_cases hv : 2 ^ 255 ≤ v
  · rw [if_pos (Or.inr hv), if_neg hz, if_pos hv]
  · rw [if_neg (not_or.mpr ⟨hz, hv⟩), if_neg hz, if_neg hv]
    exact toBytesLE_eq_ofNatLE (Nat.lt_trans (Nat.lt_of_not_le hv) (by decide))

theorem kholawNewRight_kholaw (zr kr : Bytes) :
    kholawNewRight .kholaw zr kr =
      .ok (Bytes.ofNatLE 32 ((Bytes.toNatLE zr + Bytes.toNatLE kr) % 2 ^ 256)) := by
  unfold kholawNewRight
  rw [if_neg (by decide)]
  exact toBytesLE_eq_ofNatLE (Nat.mod_lt _ (by decide))

/-- `CKDpub(N(parent), i) = N(CKDpriv(parent, i))` for non-hardened `i` and scheme `.kholaw`, as an
equation between results, under `KholawLaw` and the range hypothesis `kL + 8·zl[:28] < 2^255` (the
child's left half keeps bit 255 clear).  Beyond that `_NewPrivateKeyLeftPart` refuses the private
side with `Bip32KeyError` while the public side, which knows nothing about `kL`, still returns a key;
so the hypothesis says exactly "the private side is not refused for size", see
`kholaw_ckdPub_comm_of_ok`. -/
theorem kholaw_ckdPub_comm (law : KholawLaw) (nd : Node) (k : Bytes) (idx : Nat)
    (hcur : nd.curve = .ed25519Kholaw) (hsch : nd.scheme = .kholaw)
    (hp : nd.priv = some k)
    (hpub : pubOfPriv .ed25519Kholaw k = some nd.pub) (hh : isHardened idx = false)
    (hrange : Bytes.toNatLE (k.take 32) + kholawPubScalar .kholaw ((kholawZ nd idx).take 32) < 2 ^ 255) :
    kholawChildKey nd.neuter idx = (kholawChildKey nd idx).map Node.neuter := by
  have hkL : Bytes.toNatLE (k.take 32) < 2 ^ 255 := by omega
  obtain ⟨hPne, hP⟩ := pubOfPriv_kholaw k nd.pub hkL hpub
  have hdrop : nd.pub.drop 1 = edEncode (edMulBase (Bytes.toNatLE (k.take 32))) := by rw [hP]; rfl
  rw [kholawChildKey_eq_via]
  apply childKeyVia_comm nd k idx hp hh
  -- both sides in terms of the sum `8·zl[:28] + kL` of the two scalars
  rw [kholawCkdPub_neuter, kholawCkdPub_eq, kholawCkdPriv_soft nd k idx hh, hsch, hdrop,
    law.dec_enc _ hkL hPne, kholaw_scalar_mod]
  simp only []  -- reduces the `match some _ with` that `dec_enc` left
  rw [law.add_mul _ _ hrange, kholawNewLeft_kholaw, kholawNewRight_kholaw, kholawPubScalar_kholaw,
    Nat.add_comm (Bytes.toNatLE (k.take 32))]
  rw [kholawPubScalar_kholaw, Nat.add_comm] at hrange
  generalize Bytes.toNatLE (((kholawZ nd idx).take 32).take 28) * 8 + Bytes.toNatLE (k.take 32) = s
    at hrange
  generalize (Bytes.toNatLE ((kholawZ nd idx).drop 32) + Bytes.toNatLE (k.drop 32)) % 2 ^ 256 = r
  by_cases hnz : s % edL = 0
  · -- the child key would be zero: both sides refuse
    rw [if_pos (Or.inl hnz), if_pos ((law.mul_id _ hrange).mpr hnz)]
    exact Or.inl ⟨.key, rfl, rfl⟩
  · have hne : edMulBase s ≠ edIdentity := fun e => hnz ((law.mul_id _ hrange).mp e)
    have hklv : Bytes.toNatLE (Bytes.ofNatLE 32 s) = s :=
      toNatLE_ofNatLE (Nat.lt_trans hrange (by decide))
    rw [if_neg (not_or.mpr ⟨hnz, Nat.not_le.mpr hrange⟩), if_neg hne, ok_bind, ok_bind]
    have htake : (Bytes.ofNatLE 32 s ++ Bytes.ofNatLE 32 r).take 32 = Bytes.ofNatLE 32 s :=
      List.take_left' (length_ofNatLE 32 s)
    refine Or.inr ⟨_, _, _, rfl, rfl, ?_, ?_, ?_⟩
    · rw [hcur]; simp [privValid]
    · rw [hcur, pubOfPriv_kholaw_eq _ (by rw [htake, hklv]; exact hrange), htake, hklv, if_neg hne]
    · rw [hcur]; exact pubFromBytes_kholaw_enc law s hrange hne

/-- The size test of `_NewPrivateKeyLeftPart` is at `2^255`, so the range hypothesis of
`kholaw_ckdPub_comm` follows from the success of the private derivation: whenever a private
`.kholaw` node (hand-supplied keys included — nothing is assumed about `kL`) has a non-hardened
child `c`, the neutered node has the child `c.neuter`. -/
theorem kholaw_ckdPub_comm_of_ok (law : KholawLaw) (nd : Node) (k : Bytes) (idx : Nat)
    (hcur : nd.curve = .ed25519Kholaw) (hsch : nd.scheme = .kholaw)
    (hp : nd.priv = some k)
    (hpub : pubOfPriv .ed25519Kholaw k = some nd.pub) (hh : isHardened idx = false)
    (c : Node) (hc : kholawChildKey nd idx = .ok c) :
    kholawChildKey nd.neuter idx = .ok c.neuter := by
  have hi := kholawChildKey_idx_lt nd idx c hc
  have hc' := hc
  rw [kholawChildKey_priv nd idx k hi hp] at hc'
  obtain ⟨x, h1, _⟩ := bind_ok_inv hc'
  rw [kholawCkdPriv_soft nd k idx hh, hsch] at h1
  obtain ⟨kl, hleft, _⟩ := bind_ok_inv h1
  rw [kholawNewLeft_kholaw] at hleft
  have hrange := Nat.lt_of_not_le (not_or.mp ((ite_error_eq_ok _ _ _ _).mp hleft).1).2
  rw [Nat.add_comm, ← kholawPubScalar_kholaw] at hrange
  rw [kholaw_ckdPub_comm law nd k idx hcur hsch hp hpub hh hrange, hc]
  rfl

end BipVerif.Model
