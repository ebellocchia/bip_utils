/- `b58Decode alph (b58Encode alph b) = .ok b` for every duplicate-free 58-symbol alphabet, and the
facts that the library's two alphabets are such. -/
import BipVerif.Lemmas.Bytes
import BipVerif.Lemmas.Chunks
import BipVerif.Model.Base58

namespace BipVerif.Model
open BipVerif

theorem alphaIndex_getD (alph : List Char) (hn : alph.Nodup) (d : Nat) (hd : d < alph.length) :
    alphaIndex alph (alph.getD d 'x') = .ok d := by
  unfold alphaIndex; rw [idxOf?_getD_of_nodup alph hn d hd 'x']; rfl

theorem mapM_alphaIndex_map (alph : List Char) (hn : alph.Nodup) (ds : List Nat)
    (h : ∀ d ∈ ds, d < alph.length) :
    (ds.map (fun d => alph.getD d 'x')).mapM (alphaIndex alph) = .ok ds := by
  induction ds with
  | nil => rfl
  | cons a t ih =>
    have ha := alphaIndex_getD alph hn a (h a (by simp))
    have ht := ih (fun d hd => h d (by simp [hd]))
    simp only [List.map_cons, List.mapM_cons, ha, ht]
    rfl

theorem getD_inj_of_nodup (alph : List Char) (hn : alph.Nodup) (i j : Nat) (hi : i < alph.length)
    (hj : j < alph.length) (h : alph.getD i 'x' = alph.getD j 'x') : i = j := by
  have h1 := idxOf?_getD_of_nodup alph hn i hi 'x'
  have h2 := idxOf?_getD_of_nodup alph hn j hj 'x'
  rw [h] at h1; rw [h1] at h2; exact Option.some.inj h2

theorem b58_decode_encode (alph : List Char) (hn : alph.Nodup) (hl : alph.length = 58) (b : Bytes) :
    b58Decode alph (b58Encode alph b) = .ok b := by
  generalize hz : leadingCount (0 : UInt8) b = z
  generalize hds : digitsBE 58 (Bytes.toNatBE b) [] = ds
  have hlt : ∀ d ∈ ds, d < alph.length := fun d hd =>
    hl ▸ digitsBE_lt 58 (by omega) (Bytes.toNatBE b) d (hds ▸ hd)
  have henc : b58Encode alph b = (List.replicate z 0 ++ ds).map (fun d => alph.getD d 'x') := by
    rw [List.map_append, List.map_replicate, ← hz, ← hds]; rfl
  have hmap : (b58Encode alph b).mapM (alphaIndex alph) = .ok (List.replicate z 0 ++ ds) := by
    rw [henc]
    refine mapM_alphaIndex_map alph hn _ fun d hd => ?_
    rcases List.mem_append.mp hd with h | h
    · rw [(List.mem_replicate.mp h).2, hl]; omega
    · exact hlt d h
  have hv : ofDigitsBE 58 (List.replicate z 0 ++ ds) = Bytes.toNatBE b := by
    rw [ofDigitsBE_zeros_append, ← hds]; exact ofDigitsBE_digitsBE 58 (by omega) _
  -- the first digit is not 0, so its symbol is not the pad symbol
  have hpad : leadingCount (alph.getD 0 'x') (b58Encode alph b) = z := by
    rw [henc, List.map_append, List.map_replicate]
    apply leadingCount_replicate_append
    have hne := digitsBE_head_ne_zero 58 (by omega) (Bytes.toNatBE b)
    rw [hds] at hne
    cases ds with
    | nil => simp
    | cons a t =>
      simp only [List.map_cons, List.head?_cons, ne_eq, Option.some.injEq]
      intro h
      exact hne (congrArg some (getD_inj_of_nodup alph hn a 0 (hlt a (by simp)) (by omega) h))
  unfold b58Decode
  simp only [hmap, bind, Except.bind, pure, Except.pure, hv, hpad]
  rw [← hz]
  exact congrArg _ (replicate_natToBytesMin b)

/-! ### the two alphabets of the library

A string literal is `String.ofList` of its characters, so spelling the characters out costs the
kernel nothing; distinctness is then decided on the character codes. -/

theorem btcAlphabet_eq : btcAlphabet =
    ['1', '2', '3', '4', '5', '6', '7', '8', '9', 'A', 'B', 'C', 'D', 'E', 'F', 'G', 'H', 'J', 'K',
      'L', 'M', 'N', 'P', 'Q', 'R', 'S', 'T', 'U', 'V', 'W', 'X', 'Y', 'Z', 'a', 'b', 'c', 'd',
      'e', 'f', 'g', 'h', 'i', 'j', 'k', 'm', 'n', 'o', 'p', 'q', 'r', 's', 't', 'u', 'v', 'w',
      'x', 'y', 'z'] :=
  String.toList_ofList

theorem xrpAlphabet_eq : xrpAlphabet =
    ['r', 'p', 's', 'h', 'n', 'a', 'f', '3', '9', 'w', 'B', 'U', 'D', 'N', 'E', 'G', 'H', 'J', 'K',
      'L', 'M', '4', 'P', 'Q', 'R', 'S', 'T', '7', 'V', 'W', 'X', 'Y', 'Z', '2', 'b', 'c', 'd',
      'e', 'C', 'g', '6', '5', 'j', 'k', 'm', '8', 'o', 'F', 'q', 'i', '1', 't', 'u', 'v', 'A',
      'x', 'y', 'z'] :=
  String.toList_ofList

theorem btcAlphabet_nodup : btcAlphabet.Nodup := by
  rw [btcAlphabet_eq]; exact List.Nodup.of_map Char.toNat (by decide +kernel)

theorem btcAlphabet_length : btcAlphabet.length = 58 := by rw [btcAlphabet_eq]; rfl

theorem xrpAlphabet_nodup : xrpAlphabet.Nodup := by
  rw [xrpAlphabet_eq]; exact List.Nodup.of_map Char.toNat (by decide +kernel)

theorem xrpAlphabet_length : xrpAlphabet.length = 58 := by rw [xrpAlphabet_eq]; rfl

end BipVerif.Model
