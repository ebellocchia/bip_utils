/-
The algebraic content of the key-layer laws (`EcdsaLaw`, `EcdsaInfLaw`, `KholawLaw`). The first section is group
theory only: in a commutative group whose element `g` has order `n`, with `pub k = k • g`, the public and the
private side of a derivation agree. `EcdsaGroupModel` and `EdGroupModel` then say, as hypotheses about the model's
own functions (`pubOfPriv`, `pubAddMulG`, `pubFromBytes`; `edMulBase`, `edAdd`, `edEncode`, `edDecodeLenient`,
`edBytesOnCurve`), what it means for these to encode such a group faithfully, and the laws are derived from them.
The structures are instantiated with Mathlib's curve groups in `Lemmas/WGroup/Ecdsa.lean` and
`Lemmas/EdGroup/Law.lean`.
-/
import Mathlib.Algebra.Group.Basic
import Mathlib.Data.ZMod.Basic
import BipVerif.Lemmas.Kholaw

namespace BipVerif.GroupModel
open BipVerif BipVerif.Prim BipVerif.Model

section Abstract
variable {G : Type*} [AddCommGroup G]

/-- `g` generates a cyclic group of order exactly `n` -/
def HasOrder (g : G) (n : ℕ) : Prop := ∀ k : ℕ, k • g = 0 ↔ n ∣ k

/-- public key of the private key `k` -/
def pub (g : G) (k : ℕ) : G := k • g

variable {g : G} {n : ℕ}

/-- `HasOrder g n` says that `n` is the order of `g` in Mathlib's sense, so reduction of scalars
mod `n` and the injectivity of `k ↦ k • g` on residues are Mathlib's -/
theorem HasOrder.addOrderOf_eq (hord : HasOrder g n) : addOrderOf g = n :=
  Nat.dvd_antisymm (addOrderOf_dvd_iff_nsmul_eq_zero.mpr ((hord n).mpr dvd_rfl))
    ((hord _).mp (addOrderOf_nsmul_eq_zero g))

theorem hasOrder_of_prime (hn : n.Prime) (h0 : n • g = 0) (hne : g ≠ 0) : HasOrder g n := by
  have hord : addOrderOf g = n :=
    ((Nat.dvd_prime hn).mp (addOrderOf_dvd_of_nsmul_eq_zero h0)).resolve_left
      (mt AddMonoid.addOrderOf_eq_one_iff.mp hne)
  exact fun k => hord ▸ addOrderOf_dvd_iff_nsmul_eq_zero.symm

theorem mod_nsmul (hord : HasOrder g n) (k : ℕ) : (k % n) • g = k • g :=
  hord.addOrderOf_eq ▸ mod_addOrderOf_nsmul g k

theorem nsmul_eq_zero_iff_mod (hord : HasOrder g n) (k : ℕ) : k • g = 0 ↔ k % n = 0 :=
  (hord k).trans (Nat.dvd_iff_mod_eq_zero ..)

/-- BIP-32 / SLIP-0010: the child public key computed from the parent *public* key,
`K + il·G`, is the public key of the child *private* key `(k + il) mod n` -/
theorem pub_add_mod (hord : HasOrder g n) (k il : ℕ) : pub g ((k + il) % n) = pub g k + il • g :=
  (mod_nsmul hord _).trans (add_nsmul g k il)

theorem zero_key_iff_infinity (hord : HasOrder g n) (k il : ℕ) :
    (k + il) % n = 0 ↔ pub g k + il • g = 0 := by
  rw [pub, ← add_nsmul, nsmul_eq_zero_iff_mod hord]

theorem pub_eq_iff (hord : HasOrder g n) (a b : ℕ) : pub g a = pub g b ↔ a % n = b % n :=
  hord.addOrderOf_eq ▸ nsmul_eq_nsmul_iff_modEq

/-- Electrum v1: `pub((m + s) mod n) = pub m + s·G` (master key `m`, sequence offset `s`) -/
theorem electrumV1_pub (hord : HasOrder g n) (m s : ℕ) : pub g ((m + s) % n) = pub g m + s • g :=
  pub_add_mod hord m s

/-- Monero sub-address: the spend key `D = B + m·G` is the public key of `(b + m) mod n`, and the
sub-address view key `C = a·D` is the public key of `a·((b + m) mod n) mod n` -/
theorem monero_subaddr (hord : HasOrder g n) (a b m : ℕ) :
    pub g b + m • g = pub g ((b + m) % n) ∧
      a • (pub g b + m • g) = pub g (a * ((b + m) % n) % n) := by
  refine ⟨(pub_add_mod hord b m).symm, ?_⟩
  rw [← pub_add_mod hord b m]
  unfold pub
  rw [mod_nsmul hord (a * ((b + m) % n)), mul_nsmul']

end Abstract

/-- the hypothesis is satisfiable for every `n`: `ZMod n` with generator `1` -/
theorem hasOrder_zmod_one (n : ℕ) : HasOrder (1 : ZMod n) n := fun k => by
  rw [nsmul_eq_mul, mul_one]
  exact ZMod.natCast_eq_zero_iff k n

example (n : ℕ) : HasOrder (1 : ZMod n) n := hasOrder_zmod_one n

section Ecdsa
variable {G : Type*} [AddCommGroup G]

/-- A *faithful group encoding* of the ECDSA key layer of curve `c`: an abstract group with a
generator of order `c.order`, and a partial byte encoding `enc` of group elements (undefined
exactly at the neutral element = point at infinity) with which the three key-layer functions of
the model commute.  Only multiples of `g` are ever mentioned. -/
structure EcdsaGroupModel (c : CurveT) (g : G) (enc : G → Option Bytes) : Prop where
  order : HasOrder g c.order
  /-- the point at infinity has no encoding, every other multiple of `g` has one -/
  enc_none : ∀ k : ℕ, enc (k • g) = none ↔ k • g = 0
  /-- `pubOfPriv` is `k ↦ enc (k·G)` on valid private keys -/
  pub_of_priv : ∀ k : Bytes, privValid c k = true → pubOfPriv c k = enc (Bytes.toNatBE k • g)
  /-- `pubAddMulG` is `(enc X, il) ↦ enc (X + il·G)` -/
  add_mul_g : ∀ (k : ℕ) (P : Bytes) (il : ℕ), enc (k • g) = some P →
    pubAddMulG c P il = enc (k • g + il • g)
  /-- encodings are accepted by the public key class and are canonical -/
  canon : ∀ (k : ℕ) (P : Bytes), enc (k • g) = some P → pubFromBytes c P = some P

variable {c : CurveT} {g : G} {enc : G → Option Bytes}

theorem EcdsaGroupModel.enc_eq_none_iff (M : EcdsaGroupModel c g enc) (a : ℕ) :
    enc (a • g) = none ↔ a % c.order = 0 := by
  rw [M.enc_none, nsmul_eq_zero_iff_mod M.order]

/-- what the public side of the child derivation computes, in the group: from the public key of
`k` and `il`, the encoding of `(il + k)·G` -/
theorem EcdsaGroupModel.pubAddMulG_eq (M : EcdsaGroupModel c g enc) {k P : Bytes}
    (hv : privValid c k = true) (hpub : pubOfPriv c k = some P) (il : ℕ) :
    pubAddMulG c P il = enc ((il + Bytes.toNatBE k) • g) := by
  rw [M.pub_of_priv k hv] at hpub
  rw [M.add_mul_g _ P il hpub, Nat.add_comm, add_nsmul]

/-- a valid private key has a public key: `0 < k < n`, so `k·G` is not the point at infinity -/
theorem EcdsaGroupModel.pub_exists (M : EcdsaGroupModel c g enc) (hc : c.isEcdsa = true) {k : Bytes}
    (hv : privValid c k = true) : ∃ P, pubOfPriv c k = some P := by
  obtain ⟨-, hpos, hlt⟩ := (privValid_ecdsa_iff c hc k).mp hv
  rw [M.pub_of_priv k hv]
  refine Option.ne_none_iff_exists'.mp (mt (M.enc_eq_none_iff _).mp ?_)
  rw [Nat.mod_eq_of_lt hlt]
  exact hpos.ne'

theorem ecdsaLaw_of_group_model (M : EcdsaGroupModel c g enc) : EcdsaLaw c where
  pub_add := by
    intro k P il k' hv hpub _ hnz hv' hval
    rw [M.pub_of_priv k' hv', hval, mod_nsmul M.order, M.pubAddMulG_eq hv hpub]
    obtain ⟨P', h⟩ := Option.ne_none_iff_exists'.mp (mt (M.enc_eq_none_iff _).mp hnz)
    exact ⟨P', h, h⟩
  pub_canon k P hv hpub := M.canon _ P (M.pub_of_priv k hv ▸ hpub)

theorem ecdsaInfLaw_of_group_model (M : EcdsaGroupModel c g enc) : EcdsaInfLaw c where
  pub_inf k P il hv hpub _ hz := by
    rw [M.pubAddMulG_eq hv hpub, M.enc_eq_none_iff]
    exact hz

end Ecdsa

section Kholaw
variable {G : Type*} [AddCommGroup G]

/-- A faithful group model of the Edwards point layer: `pt` maps group elements to the model's
affine points, the base point has order `L`. -/
structure EdGroupModel (B : G) (pt : G → EdPoint) : Prop where
  order : HasOrder B edL
  pt_id : ∀ k : ℕ, pt (k • B) = edIdentity ↔ k • B = 0
  /-- `edMulBase s = s·B` for scalars with bit 255 clear -/
  mul_base : ∀ s : ℕ, s < 2 ^ 255 → edMulBase s = pt (s • B)
  /-- `edAdd` is the group law on multiples of `B` -/
  add : ∀ a b : ℕ, edAdd (pt (a • B)) (pt (b • B)) = pt (a • B + b • B)
  /-- `decode ∘ encode = id` on non-identity multiples of `B` -/
  dec_enc : ∀ k : ℕ, k • B ≠ 0 → edDecodeLenient (edEncode (pt (k • B))) = some (pt (k • B))
  on_curve : ∀ k : ℕ, k • B ≠ 0 → edBytesOnCurve (edEncode (pt (k • B))) = some true

variable {B : G} {pt : G → EdPoint}

theorem kholawLaw_of_group_model (M : EdGroupModel B pt) : KholawLaw where
  add_mul a b hab := by
    rw [M.mul_base a ((Nat.le_add_right a b).trans_lt hab),
      M.mul_base b ((Nat.le_add_left b a).trans_lt hab), M.mul_base _ hab, M.add, add_nsmul]
  mul_id s hs := by
    rw [M.mul_base s hs, M.pt_id, nsmul_eq_zero_iff_mod M.order]
  dec_enc s hs hne := by
    rw [M.mul_base s hs] at hne ⊢
    exact M.dec_enc s (mt (M.pt_id s).mpr hne)
  on_curve s hs hne := by
    rw [M.mul_base s hs] at hne ⊢
    exact M.on_curve s (mt (M.pt_id s).mpr hne)

end Kholaw

/-- a purely abstract key layer (no reference to `CurveT`): public keys of type `K`, private keys
are numbers -/
structure KeyLayer (K : Type*) where
  order : ℕ
  pubOfPriv : ℕ → Option K
  pubAddMulG : K → ℕ → Option K

/-- the abstract form of `EcdsaLaw.pub_add` together with `EcdsaInfLaw.pub_inf` -/
def KeyLayer.Law {K : Type*} (L : KeyLayer K) : Prop :=
  ∀ k P il, L.pubOfPriv k = some P →
    ((il + k) % L.order ≠ 0 →
      ∃ P', L.pubOfPriv ((il + k) % L.order) = some P' ∧ L.pubAddMulG P il = some P') ∧
    ((il + k) % L.order = 0 → L.pubAddMulG P il = none)

/-- the key layer of a group with a distinguished element: keys are the non-zero elements -/
def KeyLayer.ofGroup {G : Type*} [AddCommGroup G] [DecidableEq G] (g : G) (n : ℕ) : KeyLayer G where
  order := n
  pubOfPriv k := if k • g = 0 then none else some (k • g)
  pubAddMulG P il := if P + il • g = 0 then none else some (P + il • g)

/-- From the key `k • g` the public side computes what the private side computes from `(il + k) mod n`, a key iff
that number is non-zero. -/
theorem KeyLayer.ofGroup_law {G : Type*} [AddCommGroup G] [DecidableEq G] {g : G} {n : ℕ}
    (hord : HasOrder g n) : (KeyLayer.ofGroup g n).Law := by
  intro k P il hP
  obtain rfl : k • g = P := Option.some.inj (Option.ite_none_left_eq_some.mp hP).2
  have key : (ofGroup g n).pubAddMulG (k • g) il = (ofGroup g n).pubOfPriv ((il + k) % n) := by
    simp only [ofGroup, mod_nsmul hord, Nat.add_comm il k, add_nsmul]
  have hz : ((il + k) % n) • g = 0 ↔ (il + k) % n = 0 := by
    rw [mod_nsmul hord, nsmul_eq_zero_iff_mod hord]
  rw [key]
  exact ⟨fun hnz => ⟨_, if_neg (mt hz.mp hnz), if_neg (mt hz.mp hnz)⟩, fun h => if_pos (hz.mpr h)⟩

example (n : ℕ) : (KeyLayer.ofGroup (1 : ZMod n) n).Law :=
  KeyLayer.ofGroup_law (hasOrder_zmod_one n)

end BipVerif.GroupModel
