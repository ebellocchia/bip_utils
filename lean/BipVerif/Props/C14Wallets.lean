/-
C14 for Monero, Substrate, Electrum v1, SPL, BIP-38 and the Cardano master keys: the error-kind theorems of
C13/C16/C18/C19/C20 restated as "the failure is inside the documented family" (`Err.documented`).  The Kholaw and
Byron-legacy master-key models search with a fuel bound, so there the conclusion is `documented ∨ e = .fuel`.
-/
import BipVerif.Props.C13
import BipVerif.Props.C16
import BipVerif.Props.C18
import BipVerif.Props.C19
import BipVerif.Props.C20
import BipVerif.Props.C14

namespace BipVerif.Props.C14Wallets
open BipVerif BipVerif.Model

open C14 (doc_value doc_path doc_value_or_checksum doc_key_value_checksum)

private theorem doc_of_key_or_value {e : Err} (h : e = .key ∨ e = .value) : e.documented = true :=
  doc_key_value_checksum (h.imp_right .inl)

theorem monero_from_spend_key {k : Bytes} {e : Err} (h : xmrFromSpend k = .error e) : e.documented = true :=
  doc_of_key_or_value (C16.fromSpend_errors h)

theorem monero_from_seed {seed : Bytes} {e : Err} (h : xmrFromSeed seed = .error e) : e.documented = true :=
  doc_of_key_or_value (C16.fromSeed_errors h)

theorem monero_watch_only {v p : Bytes} {e : Err} (h : xmrWatchOnly v p = .error e) : e.documented = true :=
  doc_of_key_or_value (C16.watchOnly_errors h)

theorem monero_subaddress {w : XmrWallet} {minor major : Nat} {e : Err}
    (h : xmrSubaddrKeys w minor major = .error e) : e.documented = true :=
  doc_value (C16.subaddrKeys_errors h)

theorem monero_address {netVer : Bytes} {payId : Option Bytes} {spend view : Bytes} {e : Err}
    (h : xmrAddrEncode netVer payId spend view = .error e) : e.documented = true :=
  doc_value (C16.addrEncode_errors h)

theorem substrate_parse_path (s : List Char) (e : Err) (h : subParsePath s = .error e) : e.documented = true :=
  doc_path (C19.parse_error_kind s e h)

theorem substrate_chain_code (el : SubElem) (e : Err) (h : subChainCode el = .error e) : e.documented = true :=
  (C19.chainCode_error_kinds el e h).elim (fun h => doc_path h.1) fun h => doc_value h.1

theorem electrum_v1_key {w : Ev1} {change addr : Nat} {e : Err}
    (h : ev1PrivateKey w change addr = .error e) : e.documented = true :=
  doc_value (C20.electrumV1_errors h)

theorem spl_find_pda {seeds : List Bytes} {p : Bytes} {e : Err}
    (h : findPdaLoop seeds p 255 255 = .error e) : e.documented = true :=
  doc_value (C20.findPdaLoop_errors h)

theorem bip38_encrypt_no_ec {priv pass : Bytes} {c : Bool} {e : Err}
    (h : bip38NoEcEncrypt priv pass c = .error e) : e.documented = true :=
  doc_value (C13.noec_encrypt_errors h)

theorem bip38_decrypt_no_ec {s : List Char} {pass : Bytes} {e : Err}
    (h : bip38NoEcDecrypt s pass = .error e) : e.documented = true :=
  doc_value_or_checksum (C13.noec_decrypt_errors h)

theorem bip38_decrypt_ec {s : List Char} {pass : Bytes} {e : Err}
    (h : bip38EcDecrypt s pass = .error e) : e.documented = true :=
  doc_value_or_checksum (C13.ec_decrypt_errors h)

theorem cardano_kholaw_master_partial (seed : Bytes) (e : Err) (h : kholawMasterKey seed = .error e) :
    e.documented = true ∨ e = .fuel :=
  (C18.master_error_kinds_kholaw seed e h).imp (fun h => doc_value h.1) And.left

theorem cardano_byron_legacy_master_partial (seed : Bytes) (e : Err) (h : byronLegacyMasterKey seed = .error e) :
    e.documented = true ∨ e = .fuel :=
  (C18.master_error_kinds_byron_legacy seed e h).imp (fun h => doc_value h.1) And.left

end BipVerif.Props.C14Wallets
