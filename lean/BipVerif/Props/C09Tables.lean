/-
C09 — "the published version byte / HRP / prefix of every format": the raw coin parameter table and the
protocol-valued public enumerations (Tezos prefixes, Stellar version bytes, Cardano network tags and
address types, Ergo network types, BIP-44 change and level numbers, mnemonic lengths) regenerated from
/repo on this run contain every pinned constant with its pinned value (a coin or member added later does
not disturb the statement).  The address models read their parameters from the regenerated table, so
together with the round-trip theorems of `C09` this fixes the constants every encoder writes and every
decoder demands.
-/
import BipVerif.Gen.Consts
import BipVerif.Golden.Consts
import BipVerif.Lemmas.Registry

namespace BipVerif.Props.C09Tables
open BipVerif

-- the fallback `subset_of_check` needs `DecidableEq` of a row (`String × String × String × List (…)`),
-- whose synthesis exceeds the default `synthInstance.maxSize`; likewise in `proto_enums_registered`
set_option synthInstance.maxSize 2000 in
/-- every raw coin parameter (HRPs, net version bytes, prefixes, SS58 formats, coin names) is the registered one -/
theorem coins_conf_registered : ∀ g ∈ Golden.coinsConf, g ∈ Gen.coinsConf := by
  first
  | exact Table.subset_of_eq rfl
  | exact Table.subset_of_check (by decide +kernel)

set_option synthInstance.maxSize 2000 in
/-- every protocol-valued enumeration member has its registered value -/
theorem proto_enums_registered : ∀ g ∈ Golden.protoEnums, g ∈ Gen.protoEnums := by
  first
  | exact Table.subset_of_eq rfl
  | exact Table.subset_of_check (by decide +kernel)

/-- the pinned tables are not empty -/
theorem registry_nonempty : Golden.coinsConf ≠ [] ∧ Golden.protoEnums ≠ [] := by decide

end BipVerif.Props.C09Tables
