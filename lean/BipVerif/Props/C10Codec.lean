/-
C10 (codecs) — decoders are *sound and canonical*: whatever a decoder accepts is exactly the
encoder's output for the decoded value, so no payload has two accepted spellings and no accepted
text is silently truncated, re-padded or re-prefixed.  These are the converse directions of the
round trips in `C11`; for the Bech32 family the round trips themselves are here too, and for SS58
the error classes of the decoder.  The lemmas live in `BipVerif/Lemmas/*`.
-/
import BipVerif.Lemmas.Base58Check
import BipVerif.Lemmas.Base58Xmr
import BipVerif.Lemmas.SS58
import BipVerif.Lemmas.Base32
import BipVerif.Lemmas.Bech32

namespace BipVerif.Props.C10Codec
open BipVerif BipVerif.Model

/-! ### `Base58Decoder.Decode` / `CheckDecode` -/

/-- `Base58Decoder.Decode` (any duplicate-free 58-symbol alphabet): an accepted string is the
encoding of its decoding. -/
theorem base58_decode_canonical (alph : List Char) (hn : alph.Nodup) (hl : alph.length = 58)
    (s : List Char) (b : Bytes) (h : b58Decode alph s = .ok b) : b58Encode alph b = s :=
  b58Encode_of_b58Decode alph hl h

/-- `Base58Decoder.CheckDecode`, whatever the checksum hash is: an accepted string is the
`CheckEncode` of the returned payload. -/
theorem b58check_decode_canonical (H : Bytes → Bytes) (alph : List Char) (hn : alph.Nodup)
    (hl : alph.length = 58) (s : List Char) (d : Bytes) (h : b58CheckDecode H alph s = .ok d) :
    b58CheckEncode H alph d = s :=
  b58Check_encode_decode H alph hl s d h

theorem b58check_btc_decode_canonical (H : Bytes → Bytes) (s : List Char) (d : Bytes)
    (h : b58CheckDecode H btcAlphabet s = .ok d) : b58CheckEncode H btcAlphabet d = s :=
  b58Check_encode_decode H btcAlphabet btcAlphabet_length s d h

/-! ### `Base58XmrDecoder.Decode` -/

/-- every accepted Monero-Base58 string is the encoding of its payload: `__UnPad` refuses a block
whose value does not fit its byte count instead of truncating it. -/
theorem xmr_base58_decode_canonical (s : List Char) (b : Bytes) (h : xmrDecode s = .ok b) :
    xmrEncode b = s :=
  xmr_decode_canonical h

/-- hence no payload has two accepted spellings. -/
theorem xmr_base58_decode_injective (s t : List Char) (b : Bytes) (hs : xmrDecode s = .ok b)
    (ht : xmrDecode t = .ok b) : s = t := by
  rw [← xmr_decode_canonical hs, ← xmr_decode_canonical ht]

/-! A full block with leading `'1'`s is accepted; `zz` is 3363, too much for the one byte a
two-symbol block stands for. -/

example : xmrDecode "1111111111z".toList = .ok [0, 0, 0, 0, 0, 0, 0, 57] := by decide +kernel
example : xmrDecode "zz".toList = .error .value := by decide +kernel

/-! ### `SS58Decoder.Decode` -/

/-- every accepted SS58 address is the encoding of the decoded (format, payload) — the decoder's
strictness checks (reserved first bytes `0x80..`, two-byte prefixes of formats `≤ 63`) are exactly
what makes this hold. -/
theorem ss58_decode_canonical (H : Bytes → Bytes) (hH : ∀ x, (H x).length ≥ 2) (s : List Char)
    (fmt : Nat) (data : Bytes) (h : ss58Decode H s = .ok (fmt, data)) :
    ss58Encode H data fmt = .ok s :=
  ss58_decode_canonical' H h

/-- the hypothesis on the hash is not needed. -/
theorem ss58_decode_canonical_anyhash (H : Bytes → Bytes) (s : List Char) (fmt : Nat) (data : Bytes)
    (h : ss58Decode H s = .ok (fmt, data)) : ss58Encode H data fmt = .ok s :=
  ss58_decode_canonical' H h

/-- an accepted address has an admissible, non-reserved format and a 32-byte payload. -/
theorem ss58_decode_range (H : Bytes → Bytes) (s : List Char) (fmt : Nat) (data : Bytes)
    (h : ss58Decode H s = .ok (fmt, data)) :
    fmt ≤ 16383 ∧ fmt ≠ 46 ∧ fmt ≠ 47 ∧ data.length = 32 := by
  obtain ⟨_, _, a, b, c, d, _⟩ := ss58Decode_ok_inv h
  exact ⟨a, b, c, d⟩

/-- the decoder fails only with `ValueError` or `SS58ChecksumError` (never `IndexError`). -/
theorem ss58_decode_errors (H : Bytes → Bytes) (s : List Char) (e : Err)
    (h : ss58Decode H s = .error e) : e = .value ∨ e = .checksum :=
  Model.ss58_decode_errors H h

theorem ss58_decode_no_index_error (H : Bytes → Bytes) (s : List Char) :
    ss58Decode H s ≠ .error .index := by
  intro h
  rcases Model.ss58_decode_errors H h with h | h <;> cases h

/-! ### `Base32Decoder.Decode` -/

/-- every accepted string, minus its `=` padding, is the canonical unpadded encoding of its payload
(standard or custom alphabet). -/
theorem base32_decode_canonical (s : List Char) (custom : Option (List Char)) (b : Bytes)
    (h : base32Decode s custom = .ok b) : base32EncodeNoPad b custom = rstripChar '=' s :=
  Model.base32_decode_canonical h

/-- no two different unpadded spellings decode to one payload. -/
theorem base32_decode_injective (s s' : List Char) (c : Option (List Char)) (b : Bytes)
    (h : base32Decode s c = .ok b) (h' : base32Decode s' c = .ok b) :
    rstripChar '=' s = rstripChar '=' s' := by
  rw [← Model.base32_decode_canonical h, ← Model.base32_decode_canonical h']

/-! ### Bech32 / Bech32m (SegWit) / CashAddr -/

/-- round trip of the raw coder (`Bech32EncoderBase._EncodeBech32`, `Bech32DecoderBase._DecodeBech32`)
in each of the three flavours. -/
theorem bech_raw_roundtrip (k : BechKind) (hrp : List Char) (data : List Nat) (hv : ValidHrp hrp)
    (hd : ∀ x ∈ data, x < 32) (hne : data ≠ []) :
    bechDecodeRaw asciiCase k (bechEncodeRaw k hrp data) = .ok (hrp, data) :=
  bechDecodeRaw_encodeRaw k hrp data hv hd hne

/-- data followed by its checksum verifies … -/
theorem bech_verify_checksum (k : BechKind) (hrp : List Char) (data : List Nat) (hne : data ≠ []) :
    k.verify hrp (data ++ k.checksum hrp data) = true :=
  verify_checksum k hrp data hne

/-- … and only the checksum does: trailing symbols that make the string verify are the checksum. -/
theorem bech_verify_unique (k : BechKind) (hrp : List Char) (data t : List Nat) (hne : data ≠ [])
    (hl : t.length = k.ckLen) (ht : ∀ x ∈ t, x < 32) (h : k.verify hrp (data ++ t) = true) :
    t = k.checksum hrp data :=
  verify_unique k hrp data t hne hl ht h

/-- soundness of the raw decoder for the three flavours: an accepted string, lower-cased, is the
encoding of its parse. -/
theorem bech_decode_sound (k : BechKind) (s hrp : List Char) (data : List Nat)
    (h : bechDecodeRaw asciiCase k s = .ok (hrp, data)) :
    bechEncodeRaw k hrp data = s.flatMap asciiCase.lower :=
  Model.bech_decode_sound k h

/-! Round trips of the public coders: `Bech32Encoder`/`Bech32Decoder`, `SegwitBech32Encoder`/
`SegwitBech32Decoder` (witness version at most 16, program of 2 to 40 bytes, of 20 or 32 for
version 0) and `BchBech32Encoder`/`BchBech32Decoder`. -/

theorem bech32_roundtrip (hrp : List Char) (hv : ValidHrp hrp) (b : Bytes) (hb : b ≠ []) :
    (bech32Encode hrp b >>= bech32Decode asciiCase hrp) = .ok b :=
  bech32_decode_encode hrp hv b hb

theorem segwit_roundtrip (hrp : List Char) (hv : ValidHrp hrp) (witVer : Nat) (prog : Bytes)
    (hw : witVer ≤ 16) (h2 : 2 ≤ prog.length) (h40 : prog.length ≤ 40)
    (h0 : witVer = 0 → prog.length = 20 ∨ prog.length = 32) :
    (segwitEncode hrp witVer prog >>= segwitDecode asciiCase hrp) = .ok (witVer, prog) :=
  segwit_decode_encode hrp hv witVer prog hw h2 h40 h0

theorem cashaddr_roundtrip (hrp : List Char) (hv : ValidHrp hrp) (nv : UInt8) (data : Bytes) :
    (bchEncode hrp [nv] data >>= bchDecode asciiCase hrp) = .ok ([nv], data) :=
  bch_decode_encode hrp hv nv data

/-- a string accepted by any decoder of the Bech32 family (Bech32, Bech32m/SegWit, CashAddr) is pure
ASCII, whatever the Unicode case tables `U` say: `_DecodeBech32` tests `isascii()` first. In
particular the Kelvin sign, which `str.lower()` maps to `k`, is never accepted. -/
theorem bech_accepted_is_ascii (U : CaseOracle) (k : BechKind) {s : List Char} {r : List Char × List Nat}
    (h : bechDecodeRaw U k s = .ok r) : ∀ c ∈ s, c.toNat < 128 := by
  intro c hc
  by_contra hn
  have hany : (s.any fun c => decide (c.toNat ≥ 128)) = true :=
    List.any_eq_true.mpr ⟨c, hc, by simpa using Nat.le_of_not_lt hn⟩
  unfold bechDecodeRaw at h
  simp only [hany, if_true] at h
  cases h

/-- `A12UEL5L` followed by the Kelvin sign U+212A is refused. -/
example : bechDecodeRaw asciiCase .bech32 ("A12UEL5L".toList ++ [Char.ofNat 0x212A]) = .error .value := by decide +kernel

end BipVerif.Props.C10Codec
