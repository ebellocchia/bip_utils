/-
C10 (addresses) — the address decoders are *sound*: an accepted address is exactly (for Bech32:
after the decoder's own lower-casing) the text the encoder side produces for the returned payload,
and the payload has the format's length.  Hence no payload has two accepted spellings in these
formats, and nothing accepted is truncated, re-padded or re-prefixed.
The proofs are in `BipVerif/Lemmas/AddrSound.lean`.

Four of the statements rest on a check of the library's decoder without which they are false
(findings F-nano-pad, F-nim-padded, F-p2wpkh-len, F-xmrint-std):
* Nano: `NanoAddrDecoder` checks the three pad bytes in front of the key (dropped unchecked they
  give 16 accepted spellings per key: `nano_1pu7p5n3…` and `nano_4pu7p5n3…` for the same key) —
  `nano_decode_sound`;
* Nimiq: `NimAddrDecoder` checks the decoded hash length (else
  `NQ51000G40Q40L30E209185GQ38E1U8124G=` decodes to 19 bytes) — `nim_decode_sound`;
* P2WPKH: a 32-byte version-0 program (a P2WSH address) is refused — `p2wpkh_decode_sound` has
  `h.length = 20`;
* Monero: a decoder called with a payment id refuses a standard address — `xmr_decode_sound` ties
  the payload shape to `payId`.
-/
import BipVerif.Lemmas.AddrSound

namespace BipVerif.Props.C10Addr
open BipVerif BipVerif.Model BipVerif.Prim

/-! ### Base58Check family -/

theorem p2pkh_decode_sound (netVer : Bytes) (alph : List Char) (hn : alph.Nodup)
    (hl : alph.length = 58) (addr : List Char) (h : Bytes)
    (hd : p2pkhDecode netVer alph addr = .ok h) :
    addr = b58CheckEncode sha256d alph (netVer ++ h) ∧ h.length = 20 :=
  p2pkhDecode_sound hl hd

/-- P2SH and Ripple are instances (Bitcoin / Ripple alphabet) -/
theorem p2sh_decode_sound (netVer : Bytes) (addr : List Char) (h : Bytes)
    (hd : p2pkhDecode netVer btcAlphabet addr = .ok h) :
    addr = b58CheckEncode sha256d btcAlphabet (netVer ++ h) ∧ h.length = 20 :=
  p2pkhDecode_sound btcAlphabet_length hd

theorem xrp_decode_sound (netVer : Bytes) (addr : List Char) (h : Bytes)
    (hd : p2pkhDecode netVer xrpAlphabet addr = .ok h) :
    addr = b58CheckEncode sha256d xrpAlphabet (netVer ++ h) ∧ h.length = 20 :=
  p2pkhDecode_sound xrpAlphabet_length hd

theorem xtz_decode_sound (pfx : Bytes) (addr : List Char) (h : Bytes)
    (hd : xtzDecode pfx addr = .ok h) :
    addr = b58CheckEncode sha256d btcAlphabet (pfx ++ h) ∧ h.length = 20 :=
  xtzDecode_sound hd

theorem trx_decode_sound (pfx : Bytes) (addr : List Char) (h : Bytes)
    (hd : trxDecode pfx addr = .ok h) :
    addr = b58CheckEncode sha256d btcAlphabet (pfx ++ h) ∧ h.length = 20 :=
  trxDecode_sound hd

/-- acceptance forces a one-byte version -/
theorem neo_decode_sound (ver : Bytes) (addr : List Char) (h : Bytes)
    (hd : neoDecode ver addr = .ok h) :
    ∃ v, ver = [v] ∧ addr = b58CheckEncode sha256d btcAlphabet ([v] ++ h) ∧ h.length = 20 :=
  neoDecode_sound hd

/-! ### Base58 with own checksums: the returned key is valid and the text is its encoding -/

theorem eos_decode_sound (pfx addr : List Char) (k : Bytes) (hd : eosDecode pfx addr = .ok k) :
    addr = pfx ++ b58Encode btcAlphabet (k ++ (ripemd160 k).take 4) ∧ k.length = 33 ∧
      pubValid .secp256k1 k = true :=
  eosDecode_sound hd

theorem ergo_decode_sound (netType : Nat) (addr : List Char) (k : Bytes)
    (hd : ergoDecode netType addr = .ok k) :
    addr = b58Encode btcAlphabet ((toBytesAuto (1 + netType) ++ k) ++
        (blake2b256 (toBytesAuto (1 + netType) ++ k)).take 4) ∧
      (toBytesAuto (1 + netType) ++ k).length = 34 ∧ pubValid .secp256k1 k = true :=
  ergoDecode_sound hd

theorem sol_decode_sound (addr : List Char) (k : Bytes) (hd : solDecode addr = .ok k) :
    addr = b58Encode btcAlphabet k ∧ k.length = 32 ∧ pubValid .ed25519 k = true :=
  solDecode_sound hd

/-! ### Bech32 family

`addr.flatMap asciiCase.lower` is the decoder's own lower-casing of the input (an all-upper-case
spelling is accepted by Bech32 by design; mixed case is not). -/

/-- No second spelling at the bit level, the codec fact behind the family: if the 5-bit symbols of
a Bech32 data part regroup into bytes at all, then those bytes regroup (with padding) into exactly
those symbols — so a payload spelled with a whole extra all-zero symbol, with non-zero padding bits
or with a dropped symbol is never accepted. -/
theorem regroup_canonical (data conv : List Nat) (hlt : ∀ x ∈ data, x < 32) (h : fromBase32 data = .ok conv) :
    toBase32 conv = .ok data := by
  obtain ⟨h1, h2⟩ := regroup_of_fromBase32 hlt h
  unfold toBase32
  rw [convertBits_pad 8 5 (by omega) conv h2, h1]
  rfl

/-- the three refused spellings on a one-byte payload `ff` (canonical symbols `[31, 28]`) -/
theorem regroup_noncanonical_refused :
    fromBase32 [31, 28] = .ok [255] ∧ fromBase32 [31, 28, 0] = .error .value ∧ fromBase32 [31, 29] = .error .value ∧
      fromBase32 [31] = .error .value := by decide

/-- `Bech32Decoder.Decode`: an accepted string, lower-cased by the decoder, is the encoder's
output for the decoded bytes. -/
theorem bech32_decode_sound (U : CaseOracle) (hrp addr : List Char) (b : Bytes)
    (h : bech32Decode U hrp addr = .ok b) : bech32Encode hrp b = .ok (addr.flatMap U.lower) :=
  bech32Decode_sound U h

theorem segwit_decode_sound (U : CaseOracle) (hrp addr : List Char) (v : Nat) (prog : Bytes)
    (h : segwitDecode U hrp addr = .ok (v, prog)) :
    segwitEncode hrp v prog = .ok (addr.flatMap U.lower) ∧ v ≤ 16 ∧ 2 ≤ prog.length ∧
      prog.length ≤ 40 ∧ (v = 0 → prog.length = 20 ∨ prog.length = 32) :=
  segwitDecode_sound U h

theorem cashaddr_decode_sound (U : CaseOracle) (hrp addr : List Char) (nv d : Bytes)
    (h : bchDecode U hrp addr = .ok (nv, d)) :
    bchEncode hrp nv d = .ok (addr.flatMap U.lower) ∧ nv.length = 1 :=
  bchDecode_sound U h

/-- Cosmos; also the decoder of Zilliqa -/
theorem atom_decode_sound (hrp addr : List Char) (b : Bytes) (hd : atomDecode hrp addr = .ok b) :
    bech32Encode hrp b = .ok (addr.flatMap asciiCase.lower) ∧ b.length = 20 :=
  atomDecode_sound hd

theorem avax_decode_sound (pfx hrp addr : List Char) (b : Bytes)
    (hd : avaxDecode pfx hrp addr = .ok b) :
    ∃ a, addr = pfx ++ a ∧ bech32Encode hrp b = .ok (a.flatMap asciiCase.lower) ∧ b.length = 20 :=
  avaxDecode_sound hd

theorem inj_decode_sound (hrp addr : List Char) (b : Bytes) (hd : injDecode hrp addr = .ok b) :
    bech32Encode hrp b = .ok (addr.flatMap asciiCase.lower) ∧ b.length = 20 :=
  injDecode_sound hd

/-- OKEx Chain / Harmony One -/
theorem ethBech32_decode_sound (hrp addr : List Char) (b : Bytes)
    (hd : ethBech32Decode hrp addr = .ok b) :
    bech32Encode hrp b = .ok (addr.flatMap asciiCase.lower) ∧ b.length = 20 :=
  ethBech32Decode_sound hd

theorem egld_decode_sound (hrp addr : List Char) (b : Bytes) (hd : egldDecode hrp addr = .ok b) :
    bech32Encode hrp b = .ok (addr.flatMap asciiCase.lower) ∧ b.length = 32 ∧
      pubValid .ed25519 b = true :=
  egldDecode_sound hd

theorem p2wpkh_decode_sound (hrp addr : List Char) (h : Bytes) (hd : p2wpkhDecode hrp addr = .ok h) :
    segwitEncode hrp 0 h = .ok (addr.flatMap asciiCase.lower) ∧ h.length = 20 :=
  p2wpkhDecode_sound hd

theorem p2tr_decode_sound (hrp addr : List Char) (t : Bytes) (hd : p2trDecode hrp addr = .ok t) :
    segwitEncode hrp 1 t = .ok (addr.flatMap asciiCase.lower) ∧ t.length = 32 :=
  p2trDecode_sound hd

/-- Bitcoin Cash P2PKH and P2SH (one decoder) -/
theorem bch_decode_sound (hrp : List Char) (netVer : Bytes) (addr : List Char) (h : Bytes)
    (hd : bchAddrDecode hrp netVer addr = .ok h) :
    bchEncode hrp netVer h = .ok (addr.flatMap asciiCase.lower) ∧ h.length = 20 ∧
      netVer.length = 1 :=
  bchAddrDecode_sound hd

/-! ### further formats where the codec canonicity lemma applies directly -/

theorem algo_decode_sound (addr : List Char) (k : Bytes) (hd : algoDecodeAddr addr = .ok k) :
    addr = base32EncodeNoPad (k ++ takeLast (sha512_256 k) 4) none ∧ k.length = 32 ∧
      pubValid .ed25519 k = true :=
  algoDecode_sound hd

theorem substrateEd_decode_sound (fmt : Nat) (addr : List Char) (k : Bytes)
    (hd : substrateEdDecode fmt addr = .ok k) :
    ss58Encode blake2b512 k fmt = .ok addr ∧ k.length = 32 ∧ pubValid .ed25519 k = true :=
  substrateEdDecode_sound hd

/-! ### Ethereum: EIP-55 is canonical -/

/-- with the checksum check on, the only accepted spelling of a payload is its EIP-55 casing -/
theorem eth_decode_sound (pfx addr : List Char) (b : Bytes) (hd : ethDecode pfx false addr = .ok b) :
    addr = pfx ++ ethChecksumEncode (hexOfBytes b) ∧ b.length = 20 :=
  ethDecode_sound_checksum hd

/-- with `skip_chksum_enc` the text is canonical up to letter case only -/
theorem eth_decode_sound_nochecksum (pfx addr : List Char) (b : Bytes)
    (hd : ethDecode pfx true addr = .ok b) :
    ∃ a, addr = pfx ++ a ∧ a.flatMap asciiCase.lower = hexOfBytes b ∧ b.length = 20 :=
  ethDecode_sound_nochecksum hd

/-! ### Monero, Stellar, Filecoin -/

/-- an accepted address is the canonical text of `netVer ‖ s ‖ v ‖ payId` (with `payId = none` for
a standard address), the returned bytes are `s ‖ v`, both keys are valid, and a payment id is 8 bytes -/
theorem xmr_decode_sound (netVer : Bytes) (payId : Option Bytes) (addr : List Char) (sv : Bytes)
    (hd : xmrAddrDecode netVer payId addr = .ok sv) :
    ∃ s v, sv = s ++ v ∧ s.length = 32 ∧ v.length = 32 ∧
      pubValid .ed25519Monero s = true ∧ pubValid .ed25519Monero v = true ∧
      (∀ pid, payId = some pid → pid.length = 8) ∧
      addr = xmrEncode ((netVer ++ s ++ v ++ payId.getD []) ++
        (keccak256 (netVer ++ s ++ v ++ payId.getD [])).take 4) :=
  xmrAddrDecode_sound hd

theorem xlm_decode_sound (addrType : Nat) (addr : List Char) (k : Bytes)
    (hd : xlmDecode addrType addr = .ok k) :
    ∃ t : UInt8, t.toNat = addrType ∧
      addr = base32EncodeNoPad (([t] ++ k) ++ xlmCrc ([t] ++ k)) none ∧
      k.length = 32 ∧ pubValid .ed25519 k = true :=
  xlmDecode_sound hd

theorem fil_decode_sound (pfx addr : List Char) (h : Bytes) (hd : filDecode pfx addr = .ok h) :
    addr = pfx ++ ['1'] ++ base32EncodeNoPad (h ++ blake2b32 ([1] ++ h)) (some filAlphabet) ∧
      h.length = 20 :=
  filDecode_sound hd

/-! ### hex-text addresses: canonical up to letter case -/

theorem sui_decode_sound (pfx addr : List Char) (b : Bytes) (hd : suiDecode pfx addr = .ok b) :
    ∃ a, addr = pfx ++ a ∧ a.flatMap asciiCase.lower = hexOfBytes b ∧ b.length = 32 :=
  suiDecode_sound hd

theorem icx_decode_sound (pfx addr : List Char) (b : Bytes) (hd : icxDecode pfx addr = .ok b) :
    ∃ a, addr = pfx ++ a ∧ a.flatMap asciiCase.lower = hexOfBytes b ∧ b.length = 20 :=
  icxDecode_sound hd

theorem near_decode_sound (addr : List Char) (b : Bytes) (hd : nearDecode addr = .ok b) :
    addr.flatMap asciiCase.lower = hexOfBytes b ∧ b.length = 32 ∧ pubValid .ed25519 b = true :=
  nearDecode_sound hd

/-- Aptos: up to letter case and leading zeros (re-padded by design) -/
theorem aptos_decode_sound (pfx addr : List Char) (b : Bytes) (hd : aptosDecode pfx addr = .ok b) :
    ∃ a, addr = pfx ++ a ∧ a.length ≤ 64 ∧
      (List.replicate (64 - a.length) '0' ++ a).flatMap asciiCase.lower = hexOfBytes b ∧
      b.length = 32 :=
  aptosDecode_sound hd

/-! ### Nano and Nimiq -/

theorem nano_decode_sound (pfx addr : List Char) (k : Bytes) (hd : nanoDecode pfx addr = .ok k) :
    addr = pfx ++ (base32EncodeNoPad ([0, 0, 0] ++ k ++ (blake2b40 k).reverse)
        (some nanoAlphabet)).drop 4 ∧
      k.length = 32 ∧ pubValid .ed25519Blake2b k = true :=
  nanoDecode_sound hd

/-- canonical up to spaces, which the decoder removes wherever they are (by design) -/
theorem nim_decode_sound (isD : Char → Bool) (pfx addr : List Char) (b : Bytes)
    (hd : nimDecode isD pfx addr = .ok b) :
    addr.filter (· ≠ ' ') = pfx ++ nimChecksum isD (base32EncodeNoPad b (some nimAlphabet)) ++
        base32EncodeNoPad b (some nimAlphabet) ∧ b.length = 20 :=
  nimDecode_sound hd

/-- the Base32 fact behind the strict statements for Stellar, Nano and Nimiq: a payload of whole
5-byte quanta leaves no room for `=` padding, so the accepted text is the encoding itself -/
theorem base32_decode_canonical_whole_quanta (s : List Char) (custom : Option (List Char))
    (hc : ∀ a, custom = some a → Base32AlphabetOk a) (b : Bytes)
    (h : base32Decode s custom = .ok b) (h5 : b.length % 5 = 0) :
    base32EncodeNoPad b custom = s :=
  base32_decode_canonical_full hc h h5

/-! ### `encode (decode addr) = addr` for the formats whose payload is the (ed25519 / Monero) key -/

theorem sol_encode_decode (addr : List Char) (k : Bytes) (h : solDecode addr = .ok k) :
    solEncode k = .ok addr := Model.sol_encode_decode h

theorem near_encode_decode (addr : List Char) (k : Bytes) (h : nearDecode addr = .ok k) :
    nearEncode k = .ok (addr.flatMap asciiCase.lower) := Model.near_encode_decode h

theorem egld_encode_decode (hrp addr : List Char) (k : Bytes) (h : egldDecode hrp addr = .ok k) :
    egldEncode hrp k = .ok (addr.flatMap asciiCase.lower) := Model.egld_encode_decode h

theorem algo_encode_decode (addr : List Char) (k : Bytes) (h : algoDecodeAddr addr = .ok k) :
    algoEncodeAddr k = .ok addr := Model.algo_encode_decode h

theorem xlm_encode_decode (addrType : Nat) (addr : List Char) (k : Bytes)
    (h : xlmDecode addrType addr = .ok k) : xlmEncode addrType k = .ok addr :=
  Model.xlm_encode_decode h

theorem nano_encode_decode (pfx addr : List Char) (k : Bytes) (h : nanoDecode pfx addr = .ok k) :
    nanoEncode pfx k = .ok addr := Model.nano_encode_decode h

theorem substrateEd_encode_decode (fmt : Nat) (addr : List Char) (k : Bytes)
    (h : substrateEdDecode fmt addr = .ok k) : substrateEdEncode fmt k = .ok addr :=
  Model.substrateEd_encode_decode h

theorem xmr_encode_decode (netVer : Bytes) (payId : Option Bytes) (addr : List Char) (sv : Bytes)
    (h : xmrAddrDecode netVer payId addr = .ok sv) :
    ∃ s v, sv = s ++ v ∧ xmrAddrEncode netVer payId s v = .ok addr :=
  Model.xmr_encode_decode h

end BipVerif.Props.C10Addr
