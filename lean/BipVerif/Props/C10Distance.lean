/-
C10 (codecs) — error detection of the Bech32 / Bech32m / CashAddr checksums.

BIP-173: "any error affecting at most 4 characters is detected" (strings of at most 90 characters,
hence at most 88 data symbols).  Proved here, on the model's own `bech32Verify` / `bchVerify` (the
functions `_VerifyChecksum` is modelled by), for either Bech32 constant (`m = false`: Bech32,
`m = true`: Bech32m) and ANY HRP, for SUBSTITUTIONS IN THE DATA PART:

  * Bech32(m): 1 wrong symbol — every length;          2 wrong symbols — data part ≤ 1023 symbols;
               3 wrong symbols — data part ≤ 256;       4 wrong symbols — data part ≤ 89
               (`detects_up_to_four`: the BIP-173 guarantee; `min_distance_five`);
  * CashAddr:  1 wrong symbol — every length;  2 wrong symbols — data part ≤ 1025 symbols;
               3 wrong symbols — data part ≤ 113 (the longest CashAddr has 112).

"Data part" is everything after the separator: payload symbols AND checksum symbols, as 5-bit
values; `hamming d d'` counts the positions where the two equal-length data parts differ.

NOT covered: errors in the HRP, insertions / deletions (length changes), upper/lower-case errors, a
change of the checksum constant (Bech32 ↔ Bech32m), 3 wrong symbols beyond 256 (113) data symbols,
4 wrong symbols beyond 89 data symbols or for CashAddr, and the probabilistic statement about more
than 4 errors.  Property theorems only; the lemmas live in `BipVerif/Lemmas/BechDistance.lean`
(reduction, 1 error) and `BipVerif/Lemmas/BechDistanceVec.lean` (2–4 errors).
-/
import BipVerif.Lemmas.BechDistanceVec

namespace BipVerif.Props.C10Distance
open BipVerif BipVerif.Model

/-- a valid string with exactly one substituted data symbol is rejected (any length). -/
theorem detects_one (hrp : List Char) (d d' : List Nat) (m : Bool) :
    bech32Verify hrp d m = true → d'.length = d.length → (∀ x ∈ d, x < 32) → (∀ x ∈ d', x < 32) →
    hamming d d' = 1 → bech32Verify hrp d' m = false :=
  fun hv hl hd hd' hh => bech32_detect hrp d d' m 1 hv hl hd hd' hh
    fun e he hw _ => bech32_linReg.weight_one e he hw

/-- a valid string with exactly two substituted data symbols is rejected (data part ≤ 1023). -/
theorem detects_two (hrp : List Char) (d d' : List Nat) (m : Bool) :
    bech32Verify hrp d m = true → d'.length = d.length → d.length ≤ 1023 →
    (∀ x ∈ d, x < 32) → (∀ x ∈ d', x < 32) →
    hamming d d' = 2 → bech32Verify hrp d' m = false :=
  fun hv hl hL hd hd' hh => bech32_detect hrp d d' m 2 hv hl hd hd' hh
    fun e he hw hle => bech32_weight_two e he hw (hle ▸ hL)

/-- a valid string with exactly three substituted data symbols is rejected (data part ≤ 256). -/
theorem detects_three (hrp : List Char) (d d' : List Nat) (m : Bool) :
    bech32Verify hrp d m = true → d'.length = d.length → d.length ≤ 256 →
    (∀ x ∈ d, x < 32) → (∀ x ∈ d', x < 32) →
    hamming d d' = 3 → bech32Verify hrp d' m = false :=
  fun hv hl hL hd hd' hh => bech32_detect hrp d d' m 3 hv hl hd hd' hh
    fun e he hw hle => bech32_weight_three e he hw (hle ▸ hL)

/-- a valid string with exactly four substituted data symbols is rejected (data part ≤ 89). -/
theorem detects_four (hrp : List Char) (d d' : List Nat) (m : Bool) :
    bech32Verify hrp d m = true → d'.length = d.length → d.length ≤ 89 →
    (∀ x ∈ d, x < 32) → (∀ x ∈ d', x < 32) →
    hamming d d' = 4 → bech32Verify hrp d' m = false :=
  fun hv hl hL hd hd' hh => bech32_detect hrp d d' m 4 hv hl hd hd' hh
    fun e he hw hle => bech32_weight_four e he hw (hle ▸ hL)

/-- the BIP-173 guarantee (substitutions in the data part): between 1 and 4 wrong symbols in a data
part of at most 89 symbols are always detected. -/
theorem detects_up_to_four (hrp : List Char) (d d' : List Nat) (m : Bool)
    (hv : bech32Verify hrp d m = true) (hl : d'.length = d.length) (hL : d.length ≤ 89)
    (hd : ∀ x ∈ d, x < 32) (hd' : ∀ x ∈ d', x < 32)
    (h1 : 1 ≤ hamming d d') (h4 : hamming d d' ≤ 4) : bech32Verify hrp d' m = false := by
  have h : hamming d d' = 1 ∨ hamming d d' = 2 ∨ hamming d d' = 3 ∨ hamming d d' = 4 := by omega
  rcases h with h | h | h | h
  · exact detects_one hrp d d' m hv hl hd hd' h
  · exact detects_two hrp d d' m hv hl (by omega) hd hd' h
  · exact detects_three hrp d d' m hv hl (by omega) hd hd' h
  · exact detects_four hrp d d' m hv hl hL hd hd' h

/-- contrapositive reading: two valid equal-length data parts (≤ 89 symbols) under the same HRP and
constant that differ at all differ in at least 5 positions. -/
theorem min_distance_five (hrp : List Char) (d d' : List Nat) (m : Bool)
    (hv : bech32Verify hrp d m = true) (hv' : bech32Verify hrp d' m = true)
    (hl : d'.length = d.length) (hL : d.length ≤ 89)
    (hd : ∀ x ∈ d, x < 32) (hd' : ∀ x ∈ d', x < 32) (hne : hamming d d' ≠ 0) :
    5 ≤ hamming d d' := by
  by_contra hlt
  have := detects_up_to_four hrp d d' m hv hl hL hd hd' (by omega) (by omega)
  rw [hv'] at this
  exact absurd this (by simp)

/-- `hamming` is zero only for equal strings (so `hamming d d' ≠ 0` above just says `d ≠ d'`). -/
theorem hamming_eq_zero : ∀ d d' : List Nat, d'.length = d.length → hamming d d' = 0 → d = d' := by
  intro d
  induction d with
  | nil => intro d' hl _; exact (List.eq_nil_of_length_eq_zero hl).symm
  | cons x d ih =>
    intro d' hl h
    cases d' with
    | nil => simp at hl
    | cons y d' =>
      simp only [hamming] at h
      by_cases hxy : x = y
      · subst hxy
        rw [ih d' (by simpa using hl) (by simpa using h)]
      · simp [hxy] at h

/-! The hypotheses are satisfiable: test vectors of the specifications with one to four symbols
changed (the CashAddr one stands after the CashAddr theorems). -/

/-- BIP-173 vector `a12uel5l` (Bech32): `2uel5l` ↦ `[10,28,25,31,20,31]`; one symbol changed. -/
example : bech32Verify ['a'] [10, 28, 25, 31, 20, 31] false = true
    ∧ hamming [10, 28, 25, 31, 20, 31] [10, 28, 25, 30, 20, 31] = 1 := by decide +kernel

example : bech32Verify ['a'] [10, 28, 25, 30, 20, 31] false = false :=
  detects_one ['a'] [10, 28, 25, 31, 20, 31] _ false (by decide +kernel) rfl (by decide) (by decide)
    (by decide)

/-- BIP-350 vector `a1lqfn3a` (Bech32m): `lqfn3a` ↦ `[31,0,9,19,17,29]`; two symbols changed. -/
example : bech32Verify ['a'] [31, 0, 9, 19, 17, 29] true = true
    ∧ hamming [31, 0, 9, 19, 17, 29] [3, 0, 9, 19, 17, 28] = 2 := by decide +kernel

example : bech32Verify ['a'] [3, 0, 9, 19, 17, 28] true = false :=
  detects_two ['a'] [31, 0, 9, 19, 17, 29] _ true (by decide +kernel) rfl (by decide) (by decide)
    (by decide) (by decide)

/-- data part of the BIP-173 P2WPKH vector `bc1qw508d6qejxtdg4y5r3zarvary0c5xw7kv8f3t4`. -/
def p2wpkh : List Nat :=
  [0, 14, 20, 15, 7, 13, 26, 0, 25, 18, 6, 11, 13, 8, 21, 4, 20, 3, 17, 2, 29, 3, 12, 29, 3, 4, 15,
    24, 20, 6, 14, 30, 22, 12, 7, 9, 17, 11, 21]

/-- three symbols changed: witness version, one program symbol, one checksum symbol. -/
def p2wpkh' : List Nat :=
  [1, 14, 20, 15, 7, 13, 26, 0, 25, 18, 6, 11, 13, 8, 21, 4, 20, 3, 17, 2, 29, 3, 12, 29, 3, 5, 15,
    24, 20, 6, 14, 30, 22, 12, 7, 9, 17, 11, 22]

example : bech32Verify ['b', 'c'] p2wpkh false = true ∧ hamming p2wpkh p2wpkh' = 3 := by
  decide +kernel

example : bech32Verify ['b', 'c'] p2wpkh' false = false :=
  detects_three ['b', 'c'] p2wpkh p2wpkh' false (by decide +kernel) (by decide +kernel)
    (by decide +kernel) (by decide +kernel) (by decide +kernel) (by decide +kernel)

/-- one more checksum symbol changed. -/
def p2wpkh4 : List Nat :=
  [1, 14, 20, 15, 7, 13, 26, 0, 25, 18, 6, 11, 13, 8, 21, 4, 20, 3, 17, 2, 29, 3, 12, 29, 3, 5, 15,
    24, 20, 6, 14, 30, 22, 12, 7, 9, 0, 11, 22]

example : bech32Verify ['b', 'c'] p2wpkh false = true ∧ hamming p2wpkh p2wpkh4 = 4 := by
  decide +kernel

example : bech32Verify ['b', 'c'] p2wpkh4 false = false :=
  detects_four ['b', 'c'] p2wpkh p2wpkh4 false (by decide +kernel) (by decide +kernel)
    (by decide +kernel) (by decide +kernel) (by decide +kernel) (by decide +kernel)

/-- a valid CashAddr string with exactly one substituted data symbol is rejected (any length). -/
theorem cashaddr_detects_one (hrp : List Char) (d d' : List Nat) :
    bchVerify hrp d = true → d'.length = d.length → (∀ x ∈ d, x < 32) → (∀ x ∈ d', x < 32) →
    hamming d d' = 1 → bchVerify hrp d' = false :=
  fun hv hl hd hd' hh => bch_detect hrp d d' 1 hv hl hd hd' hh
    fun e he hw _ => bch_linReg.weight_one e he hw

/-- a valid CashAddr string with exactly two substituted data symbols is rejected (≤ 1025). -/
theorem cashaddr_detects_two (hrp : List Char) (d d' : List Nat) :
    bchVerify hrp d = true → d'.length = d.length → d.length ≤ 1025 →
    (∀ x ∈ d, x < 32) → (∀ x ∈ d', x < 32) →
    hamming d d' = 2 → bchVerify hrp d' = false :=
  fun hv hl hL hd hd' hh => bch_detect hrp d d' 2 hv hl hd hd' hh
    fun e he hw hle => bch_weight_two e he hw (hle ▸ hL)

/-- a valid CashAddr string with exactly three substituted data symbols is rejected (≤ 113). -/
theorem cashaddr_detects_three (hrp : List Char) (d d' : List Nat) :
    bchVerify hrp d = true → d'.length = d.length → d.length ≤ 113 →
    (∀ x ∈ d, x < 32) → (∀ x ∈ d', x < 32) →
    hamming d d' = 3 → bchVerify hrp d' = false :=
  fun hv hl hL hd hd' hh => bch_detect hrp d d' 3 hv hl hd hd' hh
    fun e he hw hle => bch_weight_three e he hw (hle ▸ hL)

/-- data part of the CashAddr specification vector
`bitcoincash:qpm2qsznhks23z7629mms6s4cwef74vcwvy22gdx6a`. -/
def cashVec : List Nat :=
  [0, 1, 27, 10, 0, 16, 2, 19, 23, 22, 16, 10, 17, 2, 30, 26, 10, 5, 27, 27, 16, 26, 16, 21, 24, 14,
    25, 9, 30, 21, 12, 24, 14, 12, 4, 10, 10, 8, 13, 6, 26, 29]

/-- two symbols changed. -/
def cashVec' : List Nat :=
  [0, 1, 27, 10, 0, 16, 2, 19, 23, 22, 16, 10, 17, 2, 30, 26, 10, 5, 27, 27, 16, 26, 16, 21, 24, 14,
    25, 9, 30, 21, 12, 24, 14, 12, 4, 11, 10, 8, 13, 6, 26, 0]

example : bchVerify "bitcoincash".toList cashVec = true ∧ hamming cashVec cashVec' = 2 := by
  decide +kernel

example : bchVerify "bitcoincash".toList cashVec' = false :=
  cashaddr_detects_two "bitcoincash".toList cashVec cashVec' (by decide +kernel)
    (by decide +kernel) (by decide +kernel) (by decide +kernel) (by decide +kernel)
    (by decide +kernel)

end BipVerif.Props.C10Distance
