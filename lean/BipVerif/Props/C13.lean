/-
C13 — BIP-38 (encrypted private keys), both modes.  WIF is in `Props/C13Wif.lean`.
`scrypt` and `sha256d` are uninterpreted: the statements hold whatever they compute.  The round
trips take the AES inverse property (`AesInv`) and two facts about the secp256k1 point adapters
(`CompressCanon`, `GroupLaw`) as named hypotheses; `Props/C13Group.lean` proves all three
(`Lemmas/AesInv.lean`, `Lemmas/Bip38Group.lean`) and restates the round trips without them.
What the encrypters and decrypters compute, check by check: `BipVerif/Lemmas/Bip38.lean` (no-EC
mode), `BipVerif/Lemmas/Bip38Ec.lean` (EC mode).
-/
import BipVerif.Lemmas.Bip38
import BipVerif.Lemmas.Bip38Ec

namespace BipVerif.Props.C13
open BipVerif BipVerif.Prim BipVerif.Model BipVerif.Model.Bip38Lemmas

/-- hypothesis of the round trips; it holds (`C13Group.aesInv`) -/
def AesInv : Prop := ∀ k b : Bytes, k.length = 32 → b.length = 16 →
  aes256DecryptBlock k (aes256EncryptBlock k b) = b

/-- the no-EC ciphertext: 39 bytes `01 42 flag ‖ addresshash(4) ‖ block1(16) ‖ block2(16)` under
Base58Check, flag `e0` compressed / `c0` uncompressed; the address hash is that of the key's own
P2PKH address -/
theorem noec_layout {priv pass : Bytes} {c : Bool} {s : List Char}
    (h : bip38NoEcEncrypt priv pass c = .ok s) :
    ∃ payload pub ah, b58CheckDecode sha256d btcAlphabet s = .ok payload ∧
      payload.length = 39 ∧ payload.take 2 = [0x01, 0x42] ∧
      payload[2]? = some (if c then 0xe0 else 0xc0) ∧
      secpPubOfPriv priv = .ok pub ∧ bip38AddrHash pub c = .ok ah ∧
      (payload.drop 3).take 4 = ah ∧
      (payload.drop 7).take 16 = noEcE1 priv pass ah ∧ ((payload.drop 7).take 16).length = 16 ∧
      payload.drop 23 = noEcE2 priv pass ah ∧ (payload.drop 23).length = 16 ∧
      s = b58CheckEncode sha256d btcAlphabet payload := by
  obtain ⟨pub, ah, hpub, hah, hs⟩ := bip38NoEcEncrypt_ok h
  obtain ⟨f0, f1, f2, f3, f4, f5⟩ := noEcPayload_fields priv pass c ah (bip38AddrHash_length hah)
  refine ⟨noEcPayload priv pass c ah, pub, ah, ?_, f0, f2, f1, hpub, hah, f3, f4, ?_, f5, ?_, hs⟩
  · rw [hs]; exact b58c_decode_encode _
  · rw [f4]; exact aes256EncryptBlock_length _ _
  · rw [f5]; exact aes256EncryptBlock_length _ _

/-- what the two blocks are: AES-256 under `derivedhalf2` of the key halves masked with
`derivedhalf1`, where the 64 derived bytes are `scrypt(pass, addresshash, 16384, 8, 8)` -/
theorem noec_blocks (priv pass ah : Bytes) :
    noEcE1 priv pass ah = aes256EncryptBlock ((scrypt pass ah 16384 8 8 64).drop 32)
      (xorBytes (priv.take 16) (((scrypt pass ah 16384 8 8 64).take 32).take 16)) ∧
    noEcE2 priv pass ah = aes256EncryptBlock ((scrypt pass ah 16384 8 8 64).drop 32)
      (xorBytes (priv.drop 16) (((scrypt pass ah 16384 8 8 64).take 32).drop 16)) := ⟨rfl, rfl⟩

/-- `Bip38NoEcEncrypter` fails only with `ValueError` -/
theorem noec_encrypt_errors {priv pass : Bytes} {c : Bool} {e : Err}
    (h : bip38NoEcEncrypt priv pass c = .error e) : e = .value :=
  bip38NoEcEncrypt_error h

/-- decrypt ∘ encrypt with the same passphrase returns the key and the compression mode -/
theorem noec_decrypt_encrypt (hAes : AesInv) {priv pass : Bytes} {c : Bool} {s : List Char}
    (h : bip38NoEcEncrypt priv pass c = .ok s) : bip38NoEcDecrypt s pass = .ok (priv, c) := by
  obtain ⟨pub, ah, hpub, hah, rfl⟩ := bip38NoEcEncrypt_ok h
  exact noEcDecrypt_payload hAes priv pass c pub ah hpub hah

/-- encryption succeeds for every valid key whose public key can be computed (always the case
for valid keys: `privValid` + the key layer's `pubOfPriv`) -/
theorem noec_encrypt_ok_of_valid {priv pass pub : Bytes} {c : Bool}
    (hpub : secpPubOfPriv priv = .ok pub) {ah : Bytes} (hah : bip38AddrHash pub c = .ok ah) :
    ∃ s, bip38NoEcEncrypt priv pass c = .ok s := by
  unfold bip38NoEcEncrypt
  rw [hpub, ok_bind, hah, ok_bind]
  exact ⟨_, rfl⟩

/-- the standard's acceptance test: whatever the passphrase, a key is returned only if the
address hash embedded in the ciphertext (bytes 3..7) equals the address hash recomputed from the
returned key in the returned mode; the returned key is a valid secp256k1 key -/
theorem noec_accept_implies_addrhash {s : List Char} {pass k : Bytes} {c : Bool}
    (h : bip38NoEcDecrypt s pass = .ok (k, c)) :
    ∃ payload pub, b58CheckDecode sha256d btcAlphabet s = .ok payload ∧
      payload.length = 39 ∧ payload.take 2 = [0x01, 0x42] ∧
      payload[2]? = some (if c then 0xe0 else 0xc0) ∧
      secpPubOfPriv k = .ok pub ∧ privValid .secp256k1 k = true ∧
      bip38AddrHash pub c = .ok ((payload.drop 3).take 4) := by
  obtain ⟨b, pub, hb, h1, h2, h3, _, h5, h6⟩ := bip38NoEcDecrypt_ok h
  exact ⟨b, pub, hb, h1, h2, h3, h5, (secpPubOfPriv_ok h5).1, h6⟩

theorem noec_decrypt_flag {s : List Char} {pass b : Bytes} {flag : UInt8}
    (hb : b58CheckDecode sha256d btcAlphabet s = .ok b) (hflag : b[2]? = some flag)
    (hbad : flag ≠ 0xe0 ∧ flag ≠ 0xc0) : bip38NoEcDecrypt s pass = .error .value :=
  bip38NoEcDecrypt_badflag hb hflag hbad

/-- `Bip38NoEcDecrypter` fails only with `ValueError` or the Base58 checksum error: the index
access `b[2]` is dominated by the length-39 check -/
theorem noec_decrypt_errors {s : List Char} {pass : Bytes} {e : Err}
    (h : bip38NoEcDecrypt s pass = .error e) : e = .value ∨ e = .checksum :=
  (bip38NoEcDecrypt_error h).elim b58c_error Or.inl

theorem noec_decrypt_checksum_iff (s : List Char) (pass : Bytes) :
    bip38NoEcDecrypt s pass = .error .checksum ↔
      b58CheckDecode sha256d btcAlphabet s = .error .checksum := by
  constructor
  · intro h
    exact (bip38NoEcDecrypt_error h).elim id (fun he => by cases he)
  · intro h
    unfold bip38NoEcDecrypt
    rw [h, Model.error_bind]

/-- the 4 bytes `be32(lot·4096 + seq)` determine `(lot, seq)` for `lot < 2^20`, `seq < 2^12` -/
theorem lotseq_pack_unpack {lot seq : Nat} (hl : lot ≤ 1048575) (hs : seq ≤ 4095) :
    let v := Bytes.toNatBE (Bytes.ofNatBE 4 (lot * 4096 + seq))
    v = lot * 4096 + seq ∧ v / 4096 = lot ∧ v % 4096 = seq ∧ v < 2 ^ 32 ∧
      (Bytes.ofNatBE 4 (lot * 4096 + seq)).length = 4 := by
  dsimp only
  rw [lotseq_value hl hs]
  refine ⟨rfl, by omega, by omega, by omega, length_ofNatBE _ _⟩

theorem lotseq_pack_injective {lot seq lot' seq' : Nat} (hl : lot ≤ 1048575) (hs : seq ≤ 4095)
    (hl' : lot' ≤ 1048575) (hs' : seq' ≤ 4095)
    (h : Bytes.ofNatBE 4 (lot * 4096 + seq) = Bytes.ofNatBE 4 (lot' * 4096 + seq')) :
    lot = lot' ∧ seq = seq' := by
  have h1 := lotseq_value hl hs
  have h2 := lotseq_value hl' hs'
  rw [h] at h1
  have : lot * 4096 + seq = lot' * 4096 + seq' := by rw [← h1, h2]
  omega

theorem intermediate_lotseq_range (pass salt : Bytes) (lot seq : Nat)
    (h : lot > 1048575 ∨ seq > 4095) :
    bip38Intermediate pass salt (some (lot, seq)) = .error .value := by
  cases h with
  | inl h => exact bip38Intermediate_lot_range pass salt lot seq h
  | inr h => exact bip38Intermediate_seq_range pass salt lot seq h

/-- the intermediate code: magic ‖ owner entropy ‖ pass point, where the owner entropy is
`salt[:4] ‖ be32(lot·4096+seq)` or the 8-byte salt, and the pass point is `passfactor·G` -/
theorem intermediate_layout {pass salt : Bytes} {ls : Option (Nat × Nat)} {ip : List Char}
    (h : bip38Intermediate pass salt ls = .ok ip) :
    (∀ lot seq, ls = some (lot, seq) → lot ≤ 1048575 ∧ seq ≤ 4095) ∧
    ∃ pp, secpMulG (Bytes.toNatBE (bip38PassFactor pass (ownerEntropy salt ls) ls.isSome)) = .ok pp ∧
      b58CheckDecode sha256d btcAlphabet ip
        = .ok ((if ls.isSome = true then magicLotSeq else magicNoLotSeq) ++ ownerEntropy salt ls ++ pp) := by
  obtain ⟨h1, pp, hpp, rfl⟩ := bip38Intermediate_ok h
  exact ⟨h1, pp, hpp, b58c_decode_encode _⟩

theorem ownerEntropy_def (salt : Bytes) :
    (∀ lot seq, ownerEntropy salt (some (lot, seq)) = salt.take 4 ++ Bytes.ofNatBE 4 (lot * 4096 + seq)) ∧
    ownerEntropy salt none = salt := ⟨fun _ _ => rfl, rfl⟩

/-- a generated key: 39 bytes `01 43 flag ‖ addresshash(4) ‖ ownerentropy(8) ‖ block1[0:8] ‖
block2(16)`; the flag byte is `(32 if compressed) + (4 if the intermediate code carries
lot/sequence)` -/
theorem ec_layout {ip : List Char} {seedb : Bytes} {c : Bool} {s : List Char}
    (h : bip38EcGenerate ip seedb c = .ok s) :
    ∃ payload b pp pt, b58CheckDecode sha256d btcAlphabet s = .ok payload ∧
      b58CheckDecode sha256d btcAlphabet ip = .ok b ∧ b.length = 49 ∧
      (b.take 8 = magicNoLotSeq ∨ b.take 8 = magicLotSeq) ∧
      payload.length = 39 ∧ payload.take 2 = [0x01, 0x43] ∧
      payload[2]? = some (UInt8.ofNat ((if c then 32 else 0) + (if b.take 8 = magicLotSeq then 4 else 0))) ∧
      addrKey .secp256k1 (b.drop 16) = .ok pp ∧
      secpMul pp (Bytes.toNatBE (sha256d seedb)) = .ok pt ∧
      bip38AddrHash pt c = .ok ((payload.drop 3).take 4) ∧
      (payload.drop 7).take 8 = (b.drop 8).take 8 ∧
      ((payload.drop 15).take 8).length = 8 ∧ (payload.drop 23).length = 16 := by
  obtain ⟨b, pp, pt, ah, hb, hlen, hpp, hm, hpt, hah, rfl⟩ := bip38EcGenerate_ok h
  have hoe : ((b.drop 8).take 8).length = 8 := by
    rw [List.length_take, List.length_drop, hlen]; rfl
  have hfl : ecFlagOf c (b.take 8) < 256 := by
    rw [ecFlagOf_eq]; exact (ecFlag_cases _ _).1
  obtain ⟨f0, f1, f2, f3, f4, f5, f6⟩ := ecPayload_fields (ecFlagOf c (b.take 8)) ah
    ((b.drop 8).take 8) (ecKey pp ah ((b.drop 8).take 8)) seedb hfl (bip38AddrHash_length hah) hoe
  refine ⟨_, b, pp, pt, b58c_decode_encode _, hb, hlen, hm, f0, f2, ?_, hpp, hpt, ?_, f4, ?_, ?_⟩
  · rw [f1]; rfl
  · rw [f3]; exact hah
  · rw [f5, List.length_take, ecE1_length]; rfl
  · rw [f6]; exact ecE2_length _ _

/-- the flag byte as a number: exactly bits 5 (compressed) and 2 (lot/sequence) -/
theorem ec_flagbyte (c l : Bool) :
    (UInt8.ofNat ((if c then 32 else 0) + (if l then 4 else 0))).toNat
      = (if c then 32 else 0) + (if l then 4 else 0) ∧
    (UInt8.ofNat ((if c then 32 else 0) + (if l then 4 else 0))).toNat / 32 % 2 = (if c then 1 else 0) ∧
    (UInt8.ofNat ((if c then 32 else 0) + (if l then 4 else 0))).toNat / 4 % 2 = (if l then 1 else 0) := by
  cases c <;> cases l <;> decide

/-- `Bip38EcDecrypter` rejects every flag byte with other bits set: only `00`, `04`, `20`, `24`
pass the flag test -/
theorem ec_decrypt_rejects_flag {s : List Char} {pass b : Bytes} {flag : UInt8}
    (hb : b58CheckDecode sha256d btcAlphabet s = .ok b) (hflag : b[2]? = some flag)
    (hbad : ¬ (flag.toNat = 0 ∨ flag.toNat = 4 ∨ flag.toNat = 32 ∨ flag.toNat = 36)) :
    bip38EcDecrypt s pass = .error .value :=
  bip38EcDecrypt_badflag hb hflag ((ecFlagBad_iff _).mpr hbad)

/-- what an accepted EC ciphertext looks like, and the standard's acceptance criterion: the
embedded address hash equals the one recomputed from the returned key -/
theorem ec_accept_implies_addrhash {s : List Char} {pass k : Bytes} {c : Bool}
    (h : bip38EcDecrypt s pass = .ok (k, c)) :
    ∃ payload flag pub, b58CheckDecode sha256d btcAlphabet s = .ok payload ∧
      payload.length = 39 ∧ payload.take 2 = [0x01, 0x43] ∧ payload[2]? = some flag ∧
      (flag.toNat = 0 ∨ flag.toNat = 4 ∨ flag.toNat = 32 ∨ flag.toNat = 36) ∧
      c = decide (flag.toNat / 32 % 2 = 1) ∧
      k.length = 32 ∧ privValid .secp256k1 k = true ∧ secpPubOfPriv k = .ok pub ∧
      bip38AddrHash pub c = .ok ((payload.drop 3).take 4) := by
  obtain ⟨b, flag, pp, pub, h1, h2, h3, h4, h5, h6, _, h8, h9, h10⟩ := bip38EcDecrypt_ok h
  refine ⟨b, flag, pub, h1, h2, h4, h3, ?_, h6, ?_, (secpPubOfPriv_ok h9).1, h9, h10⟩
  · by_contra hn; exact h5 ((ecFlagBad_iff _).mpr hn)
  · rw [h8]; exact length_ofNatBE _ _

/-- key-layer hypothesis: a compressed point produced by the library re-validates to itself; it
holds (`Bip38Group.compressCanon`) -/
def CompressCanon : Prop := ∀ (s : Nat) (p : Bytes), secpMulG s = .ok p → addrKey .secp256k1 p = .ok p

/-- group-law hypothesis for the point adapters: `b·(a·G) = (a·b mod n)·G`, including the refusal
of the point at infinity on both sides; it holds (`Bip38Group.groupLaw`) -/
def GroupLaw : Prop := ∀ a b : Nat,
  (secpMulG a >>= fun P => secpMul P b) = secpMulG (a * b % Prim.secp256k1.n)

/-- decrypt ∘ generate (same passphrase): the owner generates an intermediate code from
`pass` (salt and optional lot/sequence), anybody generates an encrypted key from it with the
random `seedb`; decrypting with `pass` returns the private key `passfactor · factorb mod n`
(32 bytes big-endian) and the compression mode. -/
theorem ec_decrypt_generated (hAes : AesInv) (hCanon : CompressCanon) (hGroup : GroupLaw)
    {pass salt seedb : Bytes} {ls : Option (Nat × Nat)} {ip enc : List Char} {c : Bool}
    (hI : bip38Intermediate pass salt ls = .ok ip)
    (hoe : (ownerEntropy salt ls).length = 8)
    (hG : bip38EcGenerate ip seedb c = .ok enc) (hseed : seedb.length = 24) :
    bip38EcDecrypt enc pass = .ok
      (Bytes.ofNatBE 32 (Bytes.toNatBE (bip38PassFactor pass (ownerEntropy salt ls) ls.isSome)
        * Bytes.toNatBE (sha256d seedb) % Prim.secp256k1.n), c) := by
  obtain ⟨_, pp0, hpp0, rfl⟩ := bip38Intermediate_ok hI
  generalize ownerEntropy salt ls = oe at *
  generalize ls.isSome = l at *
  obtain ⟨b, pp, pt, ah, hb, hlen, hpp, _, hpt, hah, rfl⟩ := bip38EcGenerate_ok hG
  rw [b58c_decode_encode] at hb
  have hb' := (Except.ok.inj hb).symm
  have hml := magic_length l
  have ft : b.take 8 = (if l = true then magicLotSeq else magicNoLotSeq) := by
    rw [hb', List.append_assoc]; exact take_append_len _ _ hml
  have fo : (b.drop 8).take 8 = oe := by
    rw [hb', List.append_assoc]; exact drop_take_mid _ _ _ hml hoe
  have fp : b.drop 16 = pp0 := by
    rw [hb']; exact drop_append_len _ _ (by rw [List.length_append, hml, hoe])
  rw [fp, hCanon _ _ hpp0] at hpp
  cases Except.ok.inj hpp
  rw [fo, ft, ecFlagOf_eq, magic_flag]
  have hgl : secpMulG (Bytes.toNatBE (bip38PassFactor pass oe l) * Bytes.toNatBE (sha256d seedb)
      % Prim.secp256k1.n) = .ok pt := by
    rw [← hGroup, hpp0, ok_bind]; exact hpt
  have hpub : secpPubOfPriv (Bytes.ofNatBE 32 (Bytes.toNatBE (bip38PassFactor pass oe l)
      * Bytes.toNatBE (sha256d seedb) % Prim.secp256k1.n)) = .ok pt := by
    rw [secpPubOfPriv_ofNatBE (Nat.mod_lt _ EccLemmas.secp_n_pos)]; exact hgl
  exact ecDecrypt_payload hAes pass oe seedb ah pp0 pt c l (bip38AddrHash_length hah) hoe hseed
    hpp0 hpub hah

/-- the owner-entropy length hypothesis of `ec_decrypt_generated` holds for the salts the
library draws: at least 4 bytes with lot/sequence (it uses 4), exactly 8 without -/
theorem ownerEntropy_length (salt : Bytes) (ls : Option (Nat × Nat))
    (h : match ls with | some _ => 4 ≤ salt.length | none => salt.length = 8) :
    (ownerEntropy salt ls).length = 8 := by
  cases ls with
  | none => exact h
  | some p =>
    obtain ⟨lot, seq⟩ := p
    show (salt.take 4 ++ Bytes.ofNatBE 4 (lot * 4096 + seq)).length = 8
    rw [List.length_append, List.length_take, length_ofNatBE]
    have : 4 ≤ salt.length := h
    omega

/-- `Bip38EcDecrypter` fails only with `ValueError` or the Base58 checksum error: `b[2]` is
dominated by the length-39 check and `to_bytes(32)` of a value below `n` cannot overflow -/
theorem ec_decrypt_errors {s : List Char} {pass : Bytes} {e : Err}
    (h : bip38EcDecrypt s pass = .error e) : e = .value ∨ e = .checksum :=
  (bip38EcDecrypt_error h).elim b58c_error Or.inl

end BipVerif.Props.C13
