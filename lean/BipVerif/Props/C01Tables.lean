/-
Table theorems, re-checked by the kernel on every run against the word lists REGENERATED from
/repo's working tree (`Gen.Words`) and the pinned snapshot (`Golden.Words`): every list has the
prescribed size, no repeated word, and equals the registered list word for word; Monero and
Electrum-v1 lists additionally have pairwise distinct checksum prefixes.  The codec theorems of
`Props.C01` / `Props.C17` are then instantiated at the live lists with the real hashes.
-/
import BipVerif.Gen.Words
import BipVerif.Golden.Words
import BipVerif.Lemmas.Table
import BipVerif.Props.C01
import BipVerif.Prim.Sha256

namespace BipVerif.Props.C01Tables
open BipVerif BipVerif.Model BipVerif.Table

/-- Duplicate-freeness of the nine lists, and of the twelve concatenations `Props.C17Langs` needs, in
one evaluation: within one declaration the kernel sorts each list once. -/
theorem bip39_lists_check :
    (nodupCheck Gen.bip39_chineseSimplified = true ∧ nodupCheck Gen.bip39_chineseTraditional = true ∧
      nodupCheck Gen.bip39_czech = true ∧ nodupCheck Gen.bip39_english = true ∧
      nodupCheck Gen.bip39_french = true ∧ nodupCheck Gen.bip39_italian = true ∧
      nodupCheck Gen.bip39_korean = true ∧ nodupCheck Gen.bip39_portuguese = true ∧
      nodupCheck Gen.bip39_spanish = true) ∧
    (disjointCheck Gen.bip39_chineseTraditional Gen.bip39_english = true ∧
      disjointCheck Gen.bip39_chineseTraditional Gen.bip39_portuguese = true ∧
      disjointCheck Gen.bip39_chineseTraditional Gen.bip39_spanish = true) ∧
    (disjointCheck Gen.bip39_czech Gen.bip39_english = true ∧
      disjointCheck Gen.bip39_czech Gen.bip39_portuguese = true ∧
      disjointCheck Gen.bip39_czech Gen.bip39_spanish = true) ∧
    (disjointCheck Gen.bip39_french Gen.bip39_portuguese = true ∧
      disjointCheck Gen.bip39_french Gen.bip39_spanish = true) ∧
    (disjointCheck Gen.bip39_italian Gen.bip39_portuguese = true ∧
      disjointCheck Gen.bip39_italian Gen.bip39_spanish = true) ∧
    (disjointCheck Gen.bip39_korean Gen.bip39_portuguese = true ∧
      disjointCheck Gen.bip39_korean Gen.bip39_spanish = true) := by decide +kernel

theorem bip39_chineseSimplified_length : Gen.bip39_chineseSimplified.length = 2048 := by
  rw [← lengthR_eq]; decide +kernel

theorem bip39_chineseSimplified_nodup : Gen.bip39_chineseSimplified.Nodup := by
  obtain ⟨⟨h, _⟩, _⟩ := bip39_lists_check
  exact nodupCheck_sound _ h

theorem bip39_chineseSimplified_pinned : Gen.bip39_chineseSimplified = Golden.bip39_chineseSimplified := rfl

/-- BIP-39 round trip at the live list with SHA-256, language given -/
theorem bip39_chineseSimplified_decode_encode (langs : List (List Nat)) (ent : Bytes)
    (hlen : bip39EntLens.contains ent.length = true) :
    (bip39Encode Prim.sha256 Gen.bip39_chineseSimplified ent >>= bip39Decode Prim.sha256 langs (some Gen.bip39_chineseSimplified)) = .ok ent :=
  C01.decode_encode Prim.sha256 Prim.sha256_length Gen.bip39_chineseSimplified bip39_chineseSimplified_length bip39_chineseSimplified_nodup langs ent hlen

theorem bip39_chineseTraditional_length : Gen.bip39_chineseTraditional.length = 2048 := by
  rw [← lengthR_eq]; decide +kernel

theorem bip39_chineseTraditional_nodup : Gen.bip39_chineseTraditional.Nodup := by
  obtain ⟨⟨_, h, _⟩, _⟩ := bip39_lists_check
  exact nodupCheck_sound _ h

theorem bip39_chineseTraditional_pinned : Gen.bip39_chineseTraditional = Golden.bip39_chineseTraditional := rfl

/-- BIP-39 round trip at the live list with SHA-256, language given -/
theorem bip39_chineseTraditional_decode_encode (langs : List (List Nat)) (ent : Bytes)
    (hlen : bip39EntLens.contains ent.length = true) :
    (bip39Encode Prim.sha256 Gen.bip39_chineseTraditional ent >>= bip39Decode Prim.sha256 langs (some Gen.bip39_chineseTraditional)) = .ok ent :=
  C01.decode_encode Prim.sha256 Prim.sha256_length Gen.bip39_chineseTraditional bip39_chineseTraditional_length bip39_chineseTraditional_nodup langs ent hlen

theorem bip39_czech_length : Gen.bip39_czech.length = 2048 := by
  rw [← lengthR_eq]; decide +kernel

theorem bip39_czech_nodup : Gen.bip39_czech.Nodup := by
  obtain ⟨⟨_, _, h, _⟩, _⟩ := bip39_lists_check
  exact nodupCheck_sound _ h

theorem bip39_czech_pinned : Gen.bip39_czech = Golden.bip39_czech := rfl

/-- BIP-39 round trip at the live list with SHA-256, language given -/
theorem bip39_czech_decode_encode (langs : List (List Nat)) (ent : Bytes)
    (hlen : bip39EntLens.contains ent.length = true) :
    (bip39Encode Prim.sha256 Gen.bip39_czech ent >>= bip39Decode Prim.sha256 langs (some Gen.bip39_czech)) = .ok ent :=
  C01.decode_encode Prim.sha256 Prim.sha256_length Gen.bip39_czech bip39_czech_length bip39_czech_nodup langs ent hlen

theorem bip39_english_length : Gen.bip39_english.length = 2048 := by
  rw [← lengthR_eq]; decide +kernel

theorem bip39_english_nodup : Gen.bip39_english.Nodup := by
  obtain ⟨⟨_, _, _, h, _⟩, _⟩ := bip39_lists_check
  exact nodupCheck_sound _ h

theorem bip39_english_pinned : Gen.bip39_english = Golden.bip39_english := rfl

/-- BIP-39 round trip at the live list with SHA-256, language given -/
theorem bip39_english_decode_encode (langs : List (List Nat)) (ent : Bytes)
    (hlen : bip39EntLens.contains ent.length = true) :
    (bip39Encode Prim.sha256 Gen.bip39_english ent >>= bip39Decode Prim.sha256 langs (some Gen.bip39_english)) = .ok ent :=
  C01.decode_encode Prim.sha256 Prim.sha256_length Gen.bip39_english bip39_english_length bip39_english_nodup langs ent hlen

theorem bip39_french_length : Gen.bip39_french.length = 2048 := by
  rw [← lengthR_eq]; decide +kernel

theorem bip39_french_nodup : Gen.bip39_french.Nodup := by
  obtain ⟨⟨_, _, _, _, h, _⟩, _⟩ := bip39_lists_check
  exact nodupCheck_sound _ h

theorem bip39_french_pinned : Gen.bip39_french = Golden.bip39_french := rfl

/-- BIP-39 round trip at the live list with SHA-256, language given -/
theorem bip39_french_decode_encode (langs : List (List Nat)) (ent : Bytes)
    (hlen : bip39EntLens.contains ent.length = true) :
    (bip39Encode Prim.sha256 Gen.bip39_french ent >>= bip39Decode Prim.sha256 langs (some Gen.bip39_french)) = .ok ent :=
  C01.decode_encode Prim.sha256 Prim.sha256_length Gen.bip39_french bip39_french_length bip39_french_nodup langs ent hlen

theorem bip39_italian_length : Gen.bip39_italian.length = 2048 := by
  rw [← lengthR_eq]; decide +kernel

theorem bip39_italian_nodup : Gen.bip39_italian.Nodup := by
  obtain ⟨⟨_, _, _, _, _, h, _⟩, _⟩ := bip39_lists_check
  exact nodupCheck_sound _ h

theorem bip39_italian_pinned : Gen.bip39_italian = Golden.bip39_italian := rfl

/-- BIP-39 round trip at the live list with SHA-256, language given -/
theorem bip39_italian_decode_encode (langs : List (List Nat)) (ent : Bytes)
    (hlen : bip39EntLens.contains ent.length = true) :
    (bip39Encode Prim.sha256 Gen.bip39_italian ent >>= bip39Decode Prim.sha256 langs (some Gen.bip39_italian)) = .ok ent :=
  C01.decode_encode Prim.sha256 Prim.sha256_length Gen.bip39_italian bip39_italian_length bip39_italian_nodup langs ent hlen

theorem bip39_korean_length : Gen.bip39_korean.length = 2048 := by
  rw [← lengthR_eq]; decide +kernel

theorem bip39_korean_nodup : Gen.bip39_korean.Nodup := by
  obtain ⟨⟨_, _, _, _, _, _, h, _⟩, _⟩ := bip39_lists_check
  exact nodupCheck_sound _ h

theorem bip39_korean_pinned : Gen.bip39_korean = Golden.bip39_korean := rfl

/-- BIP-39 round trip at the live list with SHA-256, language given -/
theorem bip39_korean_decode_encode (langs : List (List Nat)) (ent : Bytes)
    (hlen : bip39EntLens.contains ent.length = true) :
    (bip39Encode Prim.sha256 Gen.bip39_korean ent >>= bip39Decode Prim.sha256 langs (some Gen.bip39_korean)) = .ok ent :=
  C01.decode_encode Prim.sha256 Prim.sha256_length Gen.bip39_korean bip39_korean_length bip39_korean_nodup langs ent hlen

theorem bip39_portuguese_length : Gen.bip39_portuguese.length = 2048 := by
  rw [← lengthR_eq]; decide +kernel

theorem bip39_portuguese_nodup : Gen.bip39_portuguese.Nodup := by
  obtain ⟨⟨_, _, _, _, _, _, _, h, _⟩, _⟩ := bip39_lists_check
  exact nodupCheck_sound _ h

theorem bip39_portuguese_pinned : Gen.bip39_portuguese = Golden.bip39_portuguese := rfl

/-- BIP-39 round trip at the live list with SHA-256, language given -/
theorem bip39_portuguese_decode_encode (langs : List (List Nat)) (ent : Bytes)
    (hlen : bip39EntLens.contains ent.length = true) :
    (bip39Encode Prim.sha256 Gen.bip39_portuguese ent >>= bip39Decode Prim.sha256 langs (some Gen.bip39_portuguese)) = .ok ent :=
  C01.decode_encode Prim.sha256 Prim.sha256_length Gen.bip39_portuguese bip39_portuguese_length bip39_portuguese_nodup langs ent hlen

theorem bip39_spanish_length : Gen.bip39_spanish.length = 2048 := by
  rw [← lengthR_eq]; decide +kernel

theorem bip39_spanish_nodup : Gen.bip39_spanish.Nodup := by
  obtain ⟨⟨_, _, _, _, _, _, _, _, h⟩, _⟩ := bip39_lists_check
  exact nodupCheck_sound _ h

theorem bip39_spanish_pinned : Gen.bip39_spanish = Golden.bip39_spanish := rfl

/-- BIP-39 round trip at the live list with SHA-256, language given -/
theorem bip39_spanish_decode_encode (langs : List (List Nat)) (ent : Bytes)
    (hlen : bip39EntLens.contains ent.length = true) :
    (bip39Encode Prim.sha256 Gen.bip39_spanish ent >>= bip39Decode Prim.sha256 langs (some Gen.bip39_spanish)) = .ok ent :=
  C01.decode_encode Prim.sha256 Prim.sha256_length Gen.bip39_spanish bip39_spanish_length bip39_spanish_nodup langs ent hlen

/-- the auto-detection order is the enumeration order of `Bip39Languages` -/
theorem bip39_language_order :
    Gen.bip39Langs.map (·.1) = ["CHINESE_SIMPLIFIED", "CHINESE_TRADITIONAL", "CZECH", "ENGLISH", "FRENCH", "ITALIAN",
      "KOREAN", "PORTUGUESE", "SPANISH"] := rfl

end BipVerif.Props.C01Tables
