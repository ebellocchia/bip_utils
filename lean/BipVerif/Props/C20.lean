/-
C20 — Electrum v1/v2 wallets, brainwallets, SPL-token program-derived addresses.
Hashes (`sha256`, `sha256d`, `pbkdf2HmacSha512`, `scrypt`) and secp256k1 arithmetic are never unfolded.
The lemmas are in `BipVerif/Lemmas/Electrum.lean`.
-/
import BipVerif.Lemmas.Electrum

namespace BipVerif.Props.C20
open BipVerif BipVerif.Prim BipVerif.Model BipVerif.Model.ElectrumLemmas

/-- the sequence number is `int(sha256d(ascii("<addr>:<change>:") ‖ K))` with `K` the
uncompressed master public key without its `04` prefix -/
theorem ev1Sequence_spec (w : Ev1) (change addr : Nat) :
    ev1Sequence w change addr = match pubUncompressed .secp256k1 w.pub with
      | some u => .ok (Bytes.toNatBE (sha256d
          ((toString addr ++ ":" ++ toString change ++ ":").toUTF8.toList ++ u.drop 1)))
      | none => .error .value :=
  ev1Sequence_eq w change addr

/-- child private key = (master + sequence) mod n, 32 bytes big-endian -/
theorem electrumV1_child_spec {w : Ev1} {change addr : Nat} {k : Bytes}
    (h : ev1PrivateKey w change addr = .ok k) :
    ∃ m seq, w.priv = some m ∧ ev1Sequence w change addr = .ok seq ∧
      Bytes.toNatBE k = (Bytes.toNatBE m + seq) % Prim.secp256k1.n ∧ k.length = 32 ∧
      change ≤ 2 ^ 32 - 1 ∧ addr ≤ 2 ^ 32 - 1 ∧ privValid .secp256k1 k = true := by
  rw [ev1PrivateKey_eq] at h
  split at h
  · cases h
  · rename_i m hm
    split at h
    · cases h
    · obtain ⟨seq, hseq, h⟩ := bind_ok_inv h
      split at h
      · cases h
      · rename_i h0
        cases Except.ok.inj h
        have hlt := Nat.mod_lt (Bytes.toNatBE m + seq) EccLemmas.secp_n_pos
        exact ⟨m, seq, hm, hseq, toNatBE_ofNatBE (Nat.lt_trans hlt EccLemmas.secp_n_lt), length_ofNatBE _ _,
          by omega, by omega, by rw [privValid_ofNatBE_mod, decide_eq_false h0]; rfl⟩

/-- the complete behaviour on a private wallet with in-range indices: the only failure left is
a zero child key -/
theorem electrumV1_child_total {w : Ev1} {change addr : Nat} {m : Bytes} {seq : Nat}
    (hm : w.priv = some m) (hc : change ≤ 2 ^ 32 - 1) (ha : addr ≤ 2 ^ 32 - 1)
    (hs : ev1Sequence w change addr = .ok seq) :
    ev1PrivateKey w change addr =
      if (Bytes.toNatBE m + seq) % Prim.secp256k1.n = 0 then .error .value
      else .ok (Bytes.ofNatBE 32 ((Bytes.toNatBE m + seq) % Prim.secp256k1.n)) := by
  rw [ev1PrivateKey_eq, hm]
  dsimp only
  rw [if_neg (by omega), hs]
  rfl

/-- indices beyond 32 bits are refused -/
theorem electrumV1_index_range (w : Ev1) (change addr : Nat)
    (h : change > 2 ^ 32 - 1 ∨ addr > 2 ^ 32 - 1) : ev1PrivateKey w change addr = .error .value := by
  rw [ev1PrivateKey_eq]
  cases w.priv with
  | none => rfl
  | some m => dsimp only; rw [if_pos h]

/-- a public-only wallet has no private child keys -/
theorem electrumV1_public_only (w : Ev1) (change addr : Nat) (h : w.priv = none) :
    ev1PrivateKey w change addr = .error .value := by
  rw [ev1PrivateKey_eq, h]

/-- error kinds: only `ValueError` (in particular `to_bytes(32)` cannot overflow) -/
theorem electrumV1_errors {w : Ev1} {change addr : Nat} {e : Err}
    (h : ev1PrivateKey w change addr = .error e) : e = .value :=
  ev1PrivateKey_error h

/-- `str(n)` is injective on naturals -/
theorem dec_injective {a b : Nat} (h : toString a = toString b) : a = b := by
  have := congrArg String.toList h
  rw [toString_toList, toString_toList] at this
  rw [← decVal_toDigits a, ← decVal_toDigits b, this]

/-- … and `int(str(n)) = n` for the ASCII-digit reading -/
theorem dec_roundtrip (n : Nat) : decVal (toString n).toList = n := by
  rw [toString_toList]; exact decVal_toDigits n

/-- the prefix `"{addr}:{change}:"` consists of the two decimal renderings, each followed by `':'`,
and contains exactly two `':'` (digits are not `':'`) -/
theorem prefix_shape (addr change : Nat) :
    (toString addr ++ ":" ++ toString change ++ ":").toList
      = (toString addr).toList ++ ':' :: ((toString change).toList ++ [':']) ∧
    (toString addr ++ ":" ++ toString change ++ ":").toList.count ':' = 2 ∧
    ':' ∉ (toString addr).toList ∧ ':' ∉ (toString change).toList := by
  refine ⟨?_, ev1PrefixStr_count addr change, ?_, ?_⟩
  · have := ev1PrefixStr_toList addr change
    rw [toString_toList, toString_toList]; exact this
  · rw [toString_toList]; exact colon_not_mem_toDigits addr
  · rw [toString_toList]; exact colon_not_mem_toDigits change

/-- the prefix determines `(addr, change)` -/
theorem prefix_injective {a c a' c' : Nat}
    (h : toString a ++ ":" ++ toString c ++ ":" = toString a' ++ ":" ++ toString c' ++ ":") :
    a = a' ∧ c = c' := ev1PrefixStr_inj h

/-- the same at byte level and including the key: for master public keys of equal length the
hashed message determines the index pair and the key -/
theorem message_injective {a c a' c' : Nat} {K K' : Bytes} (hl : K.length = K'.length)
    (h : (toString a ++ ":" ++ toString c ++ ":").toUTF8.toList ++ K
       = (toString a' ++ ":" ++ toString c' ++ ":").toUTF8.toList ++ K') :
    a = a' ∧ c = c' ∧ K = K' := ev1Msg_inj hl h

/-- standard wallets: `m/change/index` -/
theorem electrumV2_standard_is_bip32 (master : Node) (c i : Nat) (hd : master.depth = 0)
    (hc : c ≤ 2 ^ 32 - 1) (hi : i ≤ 2 ^ 32 - 1) :
    ev2Derive false master c i = (slip10ChildKey master c >>= fun x => slip10ChildKey x i) := by
  rw [ev2Derive_standard_eq master c i hd, if_neg (by omega)]

/-- segwit wallets: `m/0'/change/index` -/
theorem electrumV2_segwit_is_bip32 (master : Node) (c i : Nat) (hd : master.depth = 0)
    (hc : c ≤ 2 ^ 32 - 1) (hi : i ≤ 2 ^ 32 - 1) :
    ev2Derive true master c i =
      (slip10ChildKey master (harden 0) >>= fun a =>
        slip10ChildKey a c >>= fun x => slip10ChildKey x i) := by
  rw [ev2Derive_segwit_eq master c i hd]
  congr 1
  funext a
  rw [if_neg (by omega)]

/-- the same as path derivation -/
theorem electrumV2_standard_is_path (master : Node) (c i : Nat) (hd : master.depth = 0)
    (hc : c ≤ 2 ^ 32 - 1) (hi : i ≤ 2 ^ 32 - 1) :
    ev2Derive false master c i = derivePath master { elems := [c, i], absolute := true } := by
  rw [electrumV2_standard_is_bip32 master c i hd hc hi]
  unfold derivePath derivePathWith
  dsimp only
  rw [if_neg (by simp [hd])]
  simp only [List.foldlM_cons, List.foldlM_nil, bind_pure]

theorem electrumV2_segwit_is_path (master : Node) (c i : Nat) (hd : master.depth = 0)
    (hc : c ≤ 2 ^ 32 - 1) (hi : i ≤ 2 ^ 32 - 1) :
    ev2Derive true master c i = derivePath master { elems := [harden 0, c, i], absolute := true } := by
  rw [electrumV2_segwit_is_bip32 master c i hd hc hi]
  unfold derivePath derivePathWith
  dsimp only
  rw [if_neg (by simp [hd])]
  simp only [List.foldlM_cons, List.foldlM_nil, bind_pure]

/-- a non-master node is refused with `ValueError`, whatever the indices -/
theorem electrumV2_nonmaster (segwit : Bool) (master : Node) (c i : Nat) (h : master.depth > 0) :
    ev2Derive segwit master c i = .error .value := by
  unfold ev2Derive
  rw [if_pos h]; rfl

/-- out-of-range indices: `Bip32PathError` (standard wallets) -/
theorem electrumV2_standard_index_range (master : Node) (c i : Nat) (hd : master.depth = 0)
    (h : c > 2 ^ 32 - 1 ∨ i > 2 ^ 32 - 1) : ev2Derive false master c i = .error .path := by
  rw [ev2Derive_standard_eq master c i hd, if_pos h]

/-- out-of-range indices: `Bip32PathError` (segwit wallets; the account key `m/0'` is derived
first, so its failure — if any — takes precedence) -/
theorem electrumV2_segwit_index_range (master : Node) (c i : Nat) (hd : master.depth = 0)
    (h : c > 2 ^ 32 - 1 ∨ i > 2 ^ 32 - 1) {a : Node} (ha : slip10ChildKey master (harden 0) = .ok a) :
    ev2Derive true master c i = .error .path := by
  rw [ev2Derive_segwit_eq master c i hd, ha]
  show (if c > 2 ^ 32 - 1 ∨ i > 2 ^ 32 - 1 then _ else _) = _
  rw [if_pos h]

theorem electrumV2_segwit_account_error (master : Node) (c i : Nat) (hd : master.depth = 0)
    {e : Err} (ha : slip10ChildKey master (harden 0) = .error e) :
    ev2Derive true master c i = .error e := by
  rw [ev2Derive_segwit_eq master c i hd, ha]; rfl

theorem brainwallet_key_is_hash (p : Bytes) :
    brainKey .sha256 p = Prim.sha256 p ∧
    brainKey .doubleSha256 p = sha256d p ∧
    (∀ salt n, brainKey (.pbkdf2 salt n) p = pbkdf2HmacSha512 p salt n 32) ∧
    (∀ salt n r p', brainKey (.scrypt salt n r p') p = Prim.scrypt p salt n r p' 32) :=
  ⟨rfl, rfl, fun _ _ => rfl, fun _ _ _ _ => rfl⟩

/-- every algorithm yields a 32-byte key -/
theorem brainwallet_key_length (a : BrainAlgo) (p : Bytes) : (brainKey a p).length = 32 := by
  cases a with
  | sha256 => exact sha256_length p
  | doubleSha256 => exact sha256d_length p
  | pbkdf2 salt n => exact pbkdf2HmacSha512_length p salt n 32
  | scrypt salt n r p' => exact scrypt_length p salt n r p' 32

/-- an accepted PDA is the SHA-256 digest, 32 bytes, and not a valid ed25519 public key -/
theorem createPda_offcurve {s : List Bytes} {p d : Bytes} (h : createPda s p = some d) :
    pubValid .ed25519 d = false ∧ d.length = 32 := by
  obtain ⟨h1, h2, _⟩ := createPda_some h
  exact ⟨h1, h2⟩

theorem createPda_digest {s : List Bytes} {p d : Bytes} (h : createPda s p = some d) :
    d = Prim.sha256 (s.flatten ++ p ++ "ProgramDerivedAddress".toUTF8.toList) :=
  (createPda_some h).2.2

/-- `FindPda` returns the address for the first bump, counting down from 255, whose digest is
off the curve; all larger bumps were on the curve; bump 0 is never used -/
theorem findPda_spec {seeds : List Bytes} {prog a : List Char} (h : findPda seeds prog = .ok a) :
    ∃ progBytes b d, solDecode prog = .ok progBytes ∧ 1 ≤ b ∧ b ≤ 255 ∧
      createPda (seeds ++ [toBytesAuto b]) progBytes = some d ∧ a = b58Encode btcAlphabet d ∧
      (∀ b', b < b' → b' ≤ 255 → createPda (seeds ++ [toBytesAuto b']) progBytes = none) ∧
      seeds.length ≤ 16 ∧ (∀ s ∈ seeds, s.length ≤ 32) := by
  rw [findPda_eq] at h
  split at h
  · cases h
  rename_i h16
  split at h
  · cases h
  rename_i h32
  obtain ⟨pb, hpb, h⟩ := bind_ok_inv h
  obtain ⟨d, hd, h⟩ := bind_ok_inv h
  rcases findPdaLoop_spec 255 255 le_rfl with ⟨b, d', hb1, hb2, hb3, hb4, hok⟩ | ⟨_, herr⟩
  swap
  · rw [herr] at hd; cases hd
  rw [hok] at hd
  cases Except.ok.inj hd
  refine ⟨pb, b, d, hpb, by omega, hb2, hb3, (Except.ok.inj h).symm, hb4, by omega, ?_⟩
  intro s hs
  by_contra hgt
  apply h32
  rw [List.any_eq_true]
  exact ⟨s, hs, by simpa using hgt⟩

/-- the bump seed appended to the seeds is the single byte `bump` -/
theorem findPda_bump_byte (b : Nat) (h : b ≤ 255) : toBytesAuto b = [UInt8.ofNat b] :=
  toBytesAuto_of_lt_256 (by omega)

/-- at most 255 attempts: the search fails (with `ValueError`) iff the bumps 255 … 1 are all
on the curve; bump 0 is not consulted -/
theorem findPda_bound (seeds : List Bytes) (p : Bytes) :
    findPdaLoop seeds p 255 255 = .error .value ↔
      ∀ b, 1 ≤ b → b ≤ 255 → createPda (seeds ++ [toBytesAuto b]) p = none := by
  rcases findPdaLoop_spec (seeds := seeds) (p := p) 255 255 le_rfl with
    ⟨b, d, hb1, hb2, hb3, _, hok⟩ | ⟨hnone, herr⟩
  · rw [hok]
    constructor
    · intro h; cases h
    · intro h
      rw [h b (by omega) hb2] at hb3; cases hb3
  · rw [herr]
    exact ⟨fun _ b h1 h2 => hnone b (by omega) h2, fun _ => rfl⟩

/-- the loop has no other failure -/
theorem findPdaLoop_errors {seeds : List Bytes} {p : Bytes} {e : Err}
    (h : findPdaLoop seeds p 255 255 = .error e) : e = .value := findPdaLoop_error h

/-- too many / too long seeds are refused before anything is hashed -/
theorem findPda_seed_limits (seeds : List Bytes) (prog : List Char)
    (h : seeds.length > 16 ∨ ∃ s ∈ seeds, s.length > 32) : findPda seeds prog = .error .value := by
  rw [findPda_eq]
  by_cases h16 : seeds.length > 16
  · rw [if_pos h16]
  · rw [if_neg h16]
    cases h with
    | inl h => exact absurd h h16
    | inr h =>
      obtain ⟨s, hs, hl⟩ := h
      rw [if_pos]
      rw [List.any_eq_true]
      exact ⟨s, hs, by simpa using hl⟩

/-- seed order of the associated token account: wallet, token program, mint -/
theorem ata_seeds_order (w m t : List Char) :
    associatedTokenAddress w m t = (do
      let w' ← solDecode w
      let t' ← solDecode t
      let m' ← solDecode m
      findPda [w', t', m'] splDefaultProgram) := rfl

end BipVerif.Props.C20
