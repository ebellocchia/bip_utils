/-
C12 — elliptic-curve key classes, the adapter layer: which byte strings are private keys, the
canonical form `FromBytes` returns for public keys, the optional `0x00` prefix of the ed25519
classes, RFC 8032 clamping, SEC1 uncompressed/hybrid/raw parsing.  Nothing here depends on what the
curve arithmetic (scalar multiplication, square roots, the Edwards on-curve test) computes; that it
is the group law is proved in `Props/C12Group.lean` (secp256k1, NIST P-256) and `Props/C12Ed.lean`
(ed25519).  What the decoders compute on each form of input is characterised in
`BipVerif/Lemmas/Ecc.lean`.
-/
import BipVerif.Lemmas.Ecc

namespace BipVerif.Props.C12
open BipVerif BipVerif.Prim BipVerif.Model BipVerif.Model.EccLemmas

theorem priv_valid_iff_secp256k1 (b : Bytes) :
    privValid .secp256k1 b = true ↔
      b.length = 32 ∧ 0 < Bytes.toNatBE b ∧ Bytes.toNatBE b < CurveT.secp256k1.order := by
  simp [privValid, and_assoc]

theorem priv_valid_iff_nist256p1 (b : Bytes) :
    privValid .nist256p1 b = true ↔
      b.length = 32 ∧ 0 < Bytes.toNatBE b ∧ Bytes.toNatBE b < CurveT.nist256p1.order := by
  simp [privValid, and_assoc]

theorem priv_valid_iff_ed25519 (b : Bytes) : privValid .ed25519 b = true ↔ b.length = 32 := by
  simp [privValid]

theorem priv_valid_iff_ed25519Blake2b (b : Bytes) : privValid .ed25519Blake2b b = true ↔ b.length = 32 := by
  simp [privValid]

theorem priv_valid_iff_kholaw (b : Bytes) : privValid .ed25519Kholaw b = true ↔ b.length = 64 := by
  simp [privValid]

theorem priv_valid_iff_monero (b : Bytes) :
    privValid .ed25519Monero b = true ↔ b.length = 32 ∧ Bytes.toNatLE b < edL := by
  simp [privValid]

theorem wrong_length_refused (c : CurveT) (b : Bytes) (h : b.length ≠ c.privLen) :
    privValid c b = false :=
  Bool.eq_false_iff.mpr fun hv => h (priv_valid_length c b hv)

theorem pubFromBytes_length (c : CurveT) (b k : Bytes) (h : pubFromBytes c b = some k) :
    k.length = if c = .ed25519Monero then 32 else 33 := by
  rcases ecdsa_or_isEd c with hc | hc
  · rw [pubFromBytes_ecdsa_eq c hc] at h
    obtain ⟨P, -, hP⟩ := Option.bind_eq_some_iff.mp h
    rw [compress_length _ P k hP, wcurve_coordLen]
    rcases hc with rfl | rfl <;> rfl
  · obtain ⟨-, h2, rfl⟩ := pubFromBytes_ed_ok c hc b k h
    split
    · exact h2
    · exact congrArg (· + 1) h2

theorem pubOfPriv_length (c : CurveT) (priv k : Bytes) (h : pubOfPriv c priv = some k) :
    k.length = if c = .ed25519Monero then 32 else 33 := by
  cases c <;> simp only [pubOfPriv, Option.ite_none_left_eq_some, Option.some.injEq] at h
  case secp256k1 | nist256p1 => rw [compress_length _ _ _ h, wcurve_coordLen]; rfl
  case ed25519 | ed25519Blake2b => rw [← h]; exact congrArg (· + 1) (edEncode_length _)
  case ed25519Kholaw => rw [← h.2]; exact congrArg (· + 1) (edEncode_length _)
  case ed25519Monero => rw [← h.2]; exact edEncode_length _

theorem compress_aff_length (c : CurveT) (x y : Nat) :
    (c.wcurve.compress (.aff x y)).map List.length = some 33 := by
  rw [compress_aff]; simp

theorem coordLen_eq_32 (c : CurveT) : c.wcurve.coordLen = 32 := wcurve_coordLen c

/-- accepted input lengths: 33 / 65 for secp256k1 (libsecp256k1); 33 / 64 / 65 for NIST P-256
(python-ecdsa also takes the raw `x ‖ y` form) -/
theorem pubFromBytes_ecdsa_input_length (c : CurveT) (hc : c = .secp256k1 ∨ c = .nist256p1) (b k : Bytes)
    (h : pubFromBytes c b = some k) :
    b.length = 33 ∨ b.length = 65 ∨ (c = .nist256p1 ∧ b.length = 64) := by
  rw [pubFromBytes_ecdsa_eq c hc] at h
  obtain ⟨P, hP, -⟩ := Option.bind_eq_some_iff.mp h
  exact wDecodePub_length c b P hP

theorem pubFromBytes_secp256k1_input_length (b k : Bytes) (h : pubFromBytes .secp256k1 b = some k) :
    b.length = 33 ∨ b.length = 65 := by
  rcases pubFromBytes_ecdsa_input_length _ (Or.inl rfl) b k h with h' | h' | ⟨h', _⟩
  · exact Or.inl h'
  · exact Or.inr h'
  · cases h'

theorem pubFromBytes_nist256p1_input_length (b k : Bytes) (h : pubFromBytes .nist256p1 b = some k) :
    b.length = 33 ∨ b.length = 64 ∨ b.length = 65 := by
  rcases pubFromBytes_ecdsa_input_length _ (Or.inr rfl) b k h with h' | h' | ⟨_, h'⟩
  · exact Or.inl h'
  · exact Or.inr (Or.inr h')
  · exact Or.inr (Or.inl h')

theorem ed_strip_prefix (c : CurveT)
    (hc : c = .ed25519 ∨ c = .ed25519Blake2b ∨ c = .ed25519Kholaw ∨ c = .ed25519Monero)
    (k : Bytes) (hk : k.length = 32) : pubFromBytes c (0 :: k) = pubFromBytes c k := by
  rw [pubFromBytes_ed_eq c hc, pubFromBytes_ed_eq c hc, edStripPrefix_zero_cons k hk,
    edStripPrefix_of_length_32 k hk]

theorem pubFromBytes_idempotent_ed (c : CurveT)
    (hc : c = .ed25519 ∨ c = .ed25519Blake2b ∨ c = .ed25519Kholaw ∨ c = .ed25519Monero)
    (b k : Bytes) (h : pubFromBytes c b = some k) : pubFromBytes c k = some k := by
  obtain ⟨h1, h2, rfl⟩ := pubFromBytes_ed_ok c hc b k h
  have hs : edStripPrefix (if c = .ed25519Monero then edStripPrefix b else 0 :: edStripPrefix b) =
      edStripPrefix b := by
    split
    · exact edStripPrefix_of_length_32 _ h2
    · exact edStripPrefix_zero_cons _ h2
  rw [pubFromBytes_ed_eq c hc, hs, if_pos ⟨h1, h2⟩]

theorem pubFromBytes_ed_input_length (c : CurveT)
    (hc : c = .ed25519 ∨ c = .ed25519Blake2b ∨ c = .ed25519Kholaw ∨ c = .ed25519Monero)
    (b k : Bytes) (h : pubFromBytes c b = some k) :
    b.length = 32 ∨ (b.length = 33 ∧ b.head? = some 0) :=
  edStripPrefix_length_32_imp b (pubFromBytes_ed_ok c hc b k h).2.1

theorem edClamp_spec (h : Bytes) : edClamp h % 8 = 0 ∧ 2 ^ 254 ≤ edClamp h ∧ edClamp h < 2 ^ 255 :=
  clamp_bounds _ (2 ^ 254) (by decide) (by decide)

theorem edClamp_eq (h : Bytes) :
    edClamp h = Bytes.toNatLE (h.take 32) % 2 ^ 254 - Bytes.toNatLE (h.take 32) % 8 + 2 ^ 254 :=
  congrArg (· + 2 ^ 254) (clamp_eq _ (2 ^ 254) (by decide))

theorem edNoClampScalar_lt (b : Bytes) : edNoClampScalar b < 2 ^ 255 :=
  Nat.mod_lt _ (by decide)

theorem sec1_uncompressed_roundtrip (c : WCurve) (x y : Nat) (h : c.onCurve (.aff x y) = true) :
    (c.uncompressed (.aff x y)).bind c.decode = some (.aff x y) := by
  rw [WCurve.uncompressed, Option.bind_some]
  exact decode_uncompressed c x y h

theorem sec1_uncompressed_sound (c : WCurve) (rest : Bytes) (P : WPoint)
    (h : c.decode (4 :: rest) = some P) : c.onCurve P = true ∧ c.uncompressed P = some (4 :: rest) := by
  obtain ⟨hl, hon, rfl⟩ := (decode_04_eq_some c rest P).mp h
  refine ⟨hon, ?_⟩
  have e1 := ofNatBE_toNatBE (rest.take c.coordLen)
  have e2 := ofNatBE_toNatBE (rest.drop c.coordLen)
  rw [List.length_take, hl, Nat.min_eq_left (by omega)] at e1
  rw [List.length_drop, hl, Nat.two_mul, Nat.add_sub_cancel] at e2
  rw [WCurve.uncompressed, e1, e2, List.cons_append, List.take_append_drop]

theorem sec1_compress_parity (c : CurveT) (x y : Nat) :
    c.wcurve.compress (.aff x y) = some (UInt8.ofNat (2 + y % 2) :: Bytes.ofNatBE 32 x) ∧
    (UInt8.ofNat (2 + y % 2)).toNat = 2 + y % 2 ∧
    (x < 2 ^ 256 → Bytes.toNatBE (Bytes.ofNatBE 32 x) = x) := by
  refine ⟨compress_aff c x y, ?_, fun hx => toNatBE_ofNatBE (hx.trans_eq (by norm_num))⟩
  rw [UInt8.toNat_ofNat']
  exact Nat.mod_eq_of_lt (by omega)

theorem pubFromBytes_uncompressed (c : CurveT) (hc : c = .secp256k1 ∨ c = .nist256p1) (x y : Nat)
    (h : c.wcurve.onCurve (.aff x y) = true) :
    pubFromBytes c (4 :: Bytes.ofNatBE 32 x ++ Bytes.ofNatBE 32 y) =
      some (UInt8.ofNat (2 + y % 2) :: Bytes.ofNatBE 32 x) := by
  rw [pubFromBytes_ecdsa_eq c hc, List.cons_append,
    wDecodePub_of_decode (wcurve_decode_uncompressed c x y h)]
  exact compress_aff c x y

theorem hybrid_secp256k1 (x y : Nat) (pfx : UInt8) (hp : pfx = 6 ∨ pfx = 7)
    (h : Prim.secp256k1.onCurve (.aff x y) = true) :
    wDecodePub .secp256k1 (pfx :: Bytes.ofNatBE 32 x ++ Bytes.ofNatBE 32 y) =
      if (y % 2 = 1) = (pfx = 7) then some (.aff x y) else none :=
  EccLemmas.hybrid_ecdsa .secp256k1 (Or.inl rfl) x y pfx hp h

/-- python-ecdsa accepts the hybrid encodings under the same parity rule as libsecp256k1 -/
theorem hybrid_nist256p1 (x y : Nat) (pfx : UInt8) (hp : pfx = 6 ∨ pfx = 7)
    (h : Prim.nist256p1.onCurve (.aff x y) = true) :
    wDecodePub .nist256p1 (pfx :: Bytes.ofNatBE 32 x ++ Bytes.ofNatBE 32 y) =
      if (y % 2 = 1) = (pfx = 7) then some (.aff x y) else none :=
  EccLemmas.hybrid_ecdsa .nist256p1 (Or.inr rfl) x y pfx hp h

theorem hybrid_ecdsa (c : CurveT) (hc : c = .secp256k1 ∨ c = .nist256p1) (x y : Nat) (pfx : UInt8)
    (hp : pfx = 6 ∨ pfx = 7) (h : c.wcurve.onCurve (.aff x y) = true) :
    wDecodePub c (pfx :: Bytes.ofNatBE 32 x ++ Bytes.ofNatBE 32 y) =
      if (y % 2 = 1) = (pfx = 7) then some (.aff x y) else none :=
  EccLemmas.hybrid_ecdsa c hc x y pfx hp h

/-- python-ecdsa accepts the raw 64-byte `x ‖ y` of an on-curve point (`onCurve` includes `x, y < p`) -/
theorem raw_nist256p1 (x y : Nat) (h : Prim.nist256p1.onCurve (.aff x y) = true) :
    wDecodePub .nist256p1 (Bytes.ofNatBE 32 x ++ Bytes.ofNatBE 32 y) = some (.aff x y) :=
  EccLemmas.raw_nist256p1 x y h

theorem pubFromBytes_raw_nist256p1 (x y : Nat) (h : Prim.nist256p1.onCurve (.aff x y) = true) :
    pubFromBytes .nist256p1 (Bytes.ofNatBE 32 x ++ Bytes.ofNatBE 32 y) =
      some (UInt8.ofNat (2 + y % 2) :: Bytes.ofNatBE 32 x) := by
  rw [pubFromBytes_ecdsa_eq _ (Or.inr rfl), EccLemmas.raw_nist256p1 x y h]
  exact compress_aff .nist256p1 x y

/-- libsecp256k1 refuses every 64-byte input -/
theorem raw_secp256k1_refused (b : Bytes) (hb : b.length = 64) : pubFromBytes .secp256k1 b = none := by
  rw [pubFromBytes_ecdsa_eq _ (Or.inl rfl), wDecodePub_64 _ b hb, if_neg (by decide)]
  rfl

end BipVerif.Props.C12
