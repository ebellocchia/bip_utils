/-
C05 — "every coin's version bytes": the extended-key version bytes of every registered coin (every
member of the BIP-44/49/84/86/CIP-1852 enumerations, including the alternate-version toggle rows) in
the table regenerated from /repo on this run equal the pinned registry.  Only the version bytes are
projected, so changes to other constants (C07/C08's business) do not touch this theorem.
-/
import BipVerif.Gen.Coins
import BipVerif.Golden.Coins
import BipVerif.Lemmas.Registry

namespace BipVerif.Props.C05Tables
open BipVerif BipVerif.Model

/-- the fields of a coin row that extended-key serialisation reads -/
def vers (r : CoinRow) : String × String × String × List Nat × List Nat :=
  (r.family, r.member, r.variant, r.keyNetPub, r.keyNetPriv)

/-- every registered member (and toggle variant) is configured with its registered xpub/xprv version bytes -/
theorem key_net_versions_registered : ∀ g ∈ Golden.coinRows.map vers, g ∈ Gen.coinRows.map vers := by
  first
  | exact Table.subset_of_eq rfl
  | exact Table.subset_of_check (by decide +kernel)

/-- version words are four bytes and the public and private words of one row differ (a parsed key is public or private, never both) -/
theorem key_net_versions_wf : ∀ r ∈ Gen.coinRows, r.keyNetPub.length = 4 ∧ r.keyNetPriv.length = 4 ∧ r.keyNetPub ≠ r.keyNetPriv := by
  decide +kernel

end BipVerif.Props.C05Tables
