/-
C14 for everything the model driver runs on untrusted text / bytes: a census of the driver operations
against the error-kind theorems, and the theorems for the model functions that Props/C14.lean,
Props/C14Addr.lean and Props/C14Wallets.lean do not bound.

Census of the 85 driver operations (`Driver/*.lean`; 82 in `allOps` of `Main.lean` + 3 in `substrateOpsO`).
"where" = the theorem bounding the error kinds of the model function the operation runs
(C14 = Props/C14.lean, C14A = Props/C14Addr.lean, C14W = Props/C14Wallets.lean, C05 / C11 = Props/C05.lean /
Props/C11.lean, a name without prefix = this file, total = the model function has no error,
Option = returns `Option`, no error kind to bound).

  op            | model function(s) on untrusted input            | where
  --------------+-------------------------------------------------+---------------------------------------
  Driver/Codec.lean (27)
  b58enc        | b58Encode                                       | total
  b58dec        | b58Decode                                       | C14.base58_decode
  b58chkenc     | b58CheckEncode                                  | total
  b58chkdec     | b58CheckDecode                                  | C14.base58_check_decode
  ss58enc       | ss58Encode                                      | C14.ss58_encode
  ss58dec       | ss58Decode                                      | C14.ss58_decode
  xmrenc        | xmrEncode                                       | total
  xmrdec        | xmrDecode                                       | C14.base58_xmr_decode
  convbits      | convertBits                                     | Option
  b32enc        | base32Encode                                    | total
  b32encnp      | base32EncodeNoPad                               | total
  b32dec        | base32Decode                                    | C14.base32_decode
  bech32enc     | bech32Encode                                    | bech32_encode
  bech32dec     | bech32Decode                                    | C14.bech32_decode
  segwitenc     | segwitEncode                                    | segwit_encode
  segwitdec     | segwitDecode                                    | C14.segwit_decode
  bchenc        | bchEncode                                       | bch_encode
  bchdec        | bchDecode                                       | C14.bch_decode
  tobytes       | toBytesBE / toBytesLE (integer argument)        | C11.toBytes_overflow_iff: `.overflow` iff it does not fit — not a decoder
  frombytes     | Bytes.toNatBE / toNatLE                         | total
  tobin         | toBinStr                                        | total
  scalecuint    | scaleCompact                                    | C14.scale_compact
  scalecuintdec | scaleCompactDecode (spec decoder)               | Option
  scaleuint     | scaleUint                                       | C14.scale_uint
  scalebytes    | scaleBytes                                      | C14.scale_bytes
  cborenc       | cborIndefEncode (integer list)                  | cbor_indef_encode_errors (`.overflow` only, iff an item ≥ 2^64: modelling bound)
  cbordec       | cborIndefDecode cborLoadsUint                   | C14.cbor_indef_decode
  Driver/Bip32.lean (14)
  master        | slip10Master                                    | C14.master_partial, C14.master_ed25519
  derive        | slip10Master, deriveSplit slip10ChildKey        | slip10_child_key_partial, derive_split_errors
  childpriv     | nodeOfPriv, slip10ChildKey                      | node_of_priv, slip10_child_key_partial
  childpub      | nodeOfPub, slip10ChildKey                       | node_of_pub, slip10_child_key_partial
  serkey        | serializeKey (integer depth / index)            | C14.serialize_key_total, C05.serializeKey_error_iff
  deserkey      | deserializeKey                                  | C14.deserialize_key
  fromxkey      | fromExtendedKey, toExtendedPub / toExtendedPriv | C14.from_extended_key, to_extended_pub / to_extended_priv
  xkeys         | slip10Master, slip10ChildKey, toExtended*       | as above
  parsepath     | parsePath                                       | C14.parse_path
  printpath     | printPath                                       | total
  derivepathstr | slip10Master, parsePath, derivePath             | C14.parse_path, derive_path_partial
  nodepath      | nodeOfPriv, parsePath, derivePath               | node_of_priv, derive_path_partial
  wifenc        | wifEncode                                       | C14.wif_encode
  wifdec        | wifDecode                                       | C14.wif_decode
  Driver/Mnemonic.lean (14)
  bip39enc      | bip39Encode                                     | C14.bip39_encode
  bip39dec      | bip39Sentence, bip39Decode, …WithChecksum       | C14.bip39_decode, bip39_sentence, bip39_decode_with_checksum
  bip39seed     | bip39Sentence, bip39Seed                        | C14.bip39_seed, bip39_sentence
  subseed       | bip39Sentence, substrateSeed                    | C14.substrate_seed, bip39_sentence
  monenc        | moneroEncode                                    | C14.monero_encode
  mondec        | moneroDecode                                    | C14.monero_decode
  algoenc       | algoEncode                                      | C14.algorand_encode
  algodec       | bip39Sentence, algoDecode                       | C14.algorand_decode, bip39_sentence
  ev1enc        | electrumV1Encode                                | C14.electrumV1_encode
  ev1dec        | bip39Sentence, electrumV1Decode                 | C14.electrumV1_decode, bip39_sentence
  ev1seed       | bip39Sentence, electrumV1Seed                   | C14.electrumV1_seed, bip39_sentence
  ev2enc        | electrumV2EncodeIdx                             | C14.electrumV2_encode
  ev2dec        | bip39Sentence, electrumV2DecodeIdx              | C14.electrumV2_decode, bip39_sentence
  ev2seed       | bip39Sentence, electrumV2Seed                   | C14.electrumV2_seed, bip39_sentence
  Driver/Addr.lean (4)
  addrenc       | the 36 address encoders                         | C14A.*_encode
  addrdec       | the 36 address decoders                         | C14A.*_decode
  pubkey        | pubFromBytes                                    | Option
  privkey       | privValid, pubOfPriv                            | Option
  Driver/Bip44.lean (1)
  bip44         | masterOf, b44Admit, parsePath, b44Run,          | C14.bip44_ctor, C14.parse_path, master_of_partial,
                | byronIcarusEncode (rowAddress)                  | b44_step_errors, b44_step_partial, b44_run_errors, byron_icarus_encode
  Driver/Bip38.lean (5)
  b38noecenc    | bip38NoEcEncrypt                                | C14W.bip38_encrypt_no_ec
  b38noecdec    | bip38NoEcDecrypt                                | C14W.bip38_decrypt_no_ec
  b38int        | bip38Intermediate                               | bip38_intermediate
  b38ecgen      | bip38EcGenerate                                 | bip38_ec_generate
  b38ecdec      | bip38EcDecrypt                                  | C14W.bip38_decrypt_ec
  Driver/Monero.lean (1)
  xmrwallet     | xmrFromSeed / xmrFromSpend / xmrWatchOnly,      | C14W.monero_from_seed / _from_spend_key / _watch_only,
                | xmrFromBip44Priv, xmrPrivateSpend,              | monero_from_bip44_priv, monero_private_spend,
                | xmrPrimaryAddress, xmrSubaddress, xmrIntegrated | monero_primary_address, monero_subaddress, monero_integrated_address
  Driver/Electrum.lean (5)
  ev1wallet     | ev1FromPriv / ev1FromPub, ev1PrivateKey,        | C14W.electrum_v1_key, electrum_v1_from_priv, electrum_v1_from_pub,
                | ev1PublicKey, ev1Address                        | electrum_v1_public_key, electrum_v1_address
  ev2wallet     | slip10Master, ev2Derive, ev2Address             | electrum_v2_derive_partial, electrum_v2_address
  brain         | brainKey (total), secpPubOfPriv                 | brainwallet_key
  findpda       | findPda                                         | C14W.spl_find_pda (loop only), spl_find_pda
  splata        | associatedTokenAddress                          | spl_associated_token_address
  Driver/Cardano.lean (7)
  kholawderive  | kholawMaster, deriveSplit kholawChildKey        | C14W.cardano_*_master_partial (generators), kholaw_master_partial,
                |                                                 | icarus_master, byron_legacy_master_partial, kholaw_child_key, derive_split_errors
  kholawraw     | nodeOfPriv, deriveSplit kholawChildKey          | node_of_priv, kholaw_child_key
  byronaddr     | byronLegacyAddress, byronRecoverPath            | byron_legacy_address, byron_recover_path
  byrondec      | byronDecode                                     | byron_decode
  byronrecover  | kholawMaster, byronRecoverPath                  | byron_recover_path
  shelley       | masterOf, b44Run, derivePathWith childKey,      | master_of_partial, b44_run_errors, child_key_partial,
                | shelleyEncode / StakingEncode / Decode / …      | shelley_encode, shelley_staking_encode, shelley_decode, shelley_staking_decode
  adaseed       | cborBytesItem                                   | total
  Driver/Ecc.lean (4)
  ptfrombytes   | Driver.ptFromBytes                              | point_from_bytes
  ptadd         | Driver.ptFromBytes, Driver.ptAdd                | point_add (`.type` only for points of two curve families: unreachable from one op)
  ptmul         | Driver.ptFromBytes, Driver.ptMul                | point_mul
  ptmulg        | Driver.ptMul                                    | point_mul
  Driver/Substrate.lean (3)
  subpath       | subParsePath                                    | C14.substrate_parse_path
  subcc         | subElemOf, subChainCode                         | C14.substrate_path_elem, C14.substrate_chain_code
  substrate     | subFromSeed / subFromPriv / subFromPub,         | C14.substrate_parse_path, substrate_from_seed, substrate_from_priv,
                | subParsePath, subDerivePath, subAddress         | substrate_from_pub, substrate_child_key, substrate_derive_path, substrate_address

Totals: 85 operations.  13 run only total / `Option` functions; for the other 72 the table names the
theorem bounding each model function they run.

Kinds outside the documented family that the *models* can return (each stated exactly below):
  * `.fuel` — the bounded re-hash loops of SLIP-0010 master / child keys and of the Khovratovich-Law /
    Byron-legacy master generators (`…_partial` in C14 / C14W too): `slip10_child_key_partial`,
    `child_key_partial`, `derive_path_partial`, `master_of_partial`, `kholaw_master_partial`,
    `byron_legacy_master_partial`, `electrum_v2_derive_partial`, `b44_step_errors`, `b44_step_partial`,
    `b44_run_errors`.
  * `.type` — `Bip44.Change(x)` with a non-member (`C14.bip44_change_type_is_type_error`), and
    `Driver.ptAdd` on points of different curve families (not reachable from a driver operation).
  * `.overflow` — `cborIndefEncode` for an integer ≥ 2^64 (modelling bound of `cborUint`; the library's
    callers pass derivation indices < 2^32) and `toExtendedPub/Priv` for a node with depth ≥ 256 or
    index ≥ 2^32 (no constructor or derivation produces one, `C05.serializeKey_error_iff`).
  * `.oracleMiss` — `byronDecode` outside the modelled CBOR fragment, `bip39Sentence` for a non-ASCII
    token without oracle answer, the Substrate sr25519 oracle: harness conditions, never verdicts.
  * `.keyErr` — `masterOf` / `Driver.ptFromBytes` for a class name outside the table (malformed request).
-/
import BipVerif.Lemmas.C14More
import BipVerif.Props.C05
import BipVerif.Driver.Cardano
import BipVerif.Driver.Ecc

namespace BipVerif.Props.C14More
open BipVerif BipVerif.Prim BipVerif.Model BipVerif.Model.C14MoreLemmas

theorem value_doc {α} {r : R α} (hr : OnlyValue r) {e : Err} (h : r = .error e) :
    e = .value ∧ e.documented = true := by
  cases hr.h e h
  exact ⟨rfl, rfl⟩

/-- `Bech32Encoder.Encode`: `ValueError` only -/
theorem bech32_encode (hrp : List Char) (data : Bytes) (e : Err)
    (h : bech32Encode hrp data = .error e) : e = .value ∧ e.documented = true :=
  value_doc (bech32Encode_ov hrp data) h

/-- `SegwitBech32Encoder.Encode`: `ValueError` only -/
theorem segwit_encode (hrp : List Char) (v : Nat) (prog : Bytes) (e : Err)
    (h : segwitEncode hrp v prog = .error e) : e = .value ∧ e.documented = true :=
  value_doc (segwitEncode_ov hrp v prog) h

/-- `BchBech32Encoder.Encode`: `ValueError` only -/
theorem bch_encode (hrp : List Char) (netVer data : Bytes) (e : Err)
    (h : bchEncode hrp netVer data = .error e) : e = .value ∧ e.documented = true :=
  value_doc (bchEncode_ov hrp netVer data) h

/-- `CborIndefiniteLenArrayEncoder.Encode` (integer list): the model's only failure is `.overflow`,
for an item ≥ 2^64 (`cborUint` models major type 0 only) — **not** in the documented family; with all
items below 2^64 it cannot fail -/
theorem cbor_indef_encode_errors (l : List Nat) (e : Err) (h : cborIndefEncode l = .error e) :
    e = .overflow ∧ ∃ n ∈ l, 2 ^ 64 ≤ n := by
  refine ⟨(cborIndefEncode_only l (P := (· = .overflow))).h e h, ?_⟩
  by_contra hc
  have hall : ∀ n ∈ l, n < 2 ^ 64 := by
    intro n hn
    by_contra hlt
    exact hc ⟨n, hn, by omega⟩
  rw [cborIndefEncode_ok hall] at h
  cases h

/-- `Bip32Base.FromPrivateKey` / `Bip32PrivateKey.FromBytes`: `Bip32KeyError` or `ValueError` -/
theorem node_of_priv (c : CurveT) (s : Scheme) (priv : Bytes) (depth index : Nat) (cc fp : Bytes)
    (e : Err) (h : nodeOfPriv c s priv depth index cc fp = .error e) :
    (e = .key ∨ e = .value) ∧ e.documented = true :=
  (nodeOfPriv_only c s priv depth index cc fp (P := fun e => (e = .key ∨ e = .value) ∧ e.documented = true)).h e h

/-- `Bip32Base.FromPublicKey` / `Bip32PublicKey.FromBytes`: `Bip32KeyError` only -/
theorem node_of_pub (c : CurveT) (s : Scheme) (pub : Bytes) (depth index : Nat) (cc fp : Bytes)
    (e : Err) (h : nodeOfPub c s pub depth index cc fp = .error e) :
    e = .key ∧ e.documented = true :=
  (nodeOfPub_only c s pub depth index cc fp (P := fun e => e = .key ∧ e.documented = true)).h e h

/-- `Bip32Slip10*.ChildKey(index)`, any node and index.  **Partial**: `.fuel` is the bounded SLIP-0010
re-hash loop (see `C14.master_partial`); everything else is `Bip32KeyError` / `ValueError` -/
theorem slip10_child_key_partial (nd : Node) (idx : Nat) (e : Err)
    (h : slip10ChildKey nd idx = .error e) : e.documented = true ∨ e = .fuel :=
  (slip10ChildKey_only nd idx (P := fun e => e.documented = true ∨ e = .fuel)).h e h

/-- `Bip32KholawEd25519.ChildKey` / `CardanoByronLegacyBip32.ChildKey`, any node and index:
`Bip32KeyError` or `ValueError` — no `OverflowError` from the `int.to_bytes(32)` calls of
`_NewPrivateKeyLeftPart` / `_NewPrivateKeyRightPart`, no fuel -/
theorem kholaw_child_key (nd : Node) (idx : Nat) (e : Err) (h : kholawChildKey nd idx = .error e) :
    (e = .key ∨ e = .value) ∧ e.documented = true :=
  (kholawChildKey_only nd idx (P := fun e => (e = .key ∨ e = .value) ∧ e.documented = true)).h e h

/-- `Bip32Base.ChildKey` of any scheme (the dispatch BIP-44 / CIP-1852 use).  **Partial** (`.fuel`) -/
theorem child_key_partial (nd : Node) (idx : Nat) (e : Err) (h : childKey nd idx = .error e) :
    e.documented = true ∨ e = .fuel :=
  (childKey_only nd idx (P := fun e => e.documented = true ∨ e = .fuel)).h e h

/-- `Bip32Base.DerivePath(path)` (SLIP-0010 classes) with a parsed path.  **Partial** (`.fuel`) -/
theorem derive_path_partial (nd : Node) (p : Path) (e : Err) (h : derivePath nd p = .error e) :
    e.documented = true ∨ e = .fuel :=
  (derivePathWith_only (P := fun e => e.documented = true ∨ e = .fuel) slip10ChildKey (slip10ChildKey_only · ·) nd p).h e h

/-- `Bip32Base.DerivePath(path)` for the Khovratovich-Law / Byron-legacy classes -/
theorem kholaw_derive_path (nd : Node) (p : Path) (e : Err)
    (h : derivePathWith kholawChildKey nd p = .error e) :
    (e = .key ∨ e = .value) ∧ e.documented = true :=
  (derivePathWith_only (P := fun e => (e = .key ∨ e = .value) ∧ e.documented = true) kholawChildKey
    (kholawChildKey_only · ·) nd p).h e h

/-- the driver's "derive privately, neuter, derive publicly" walk adds no error kind -/
theorem derive_split_errors {P : Err → Prop} (child : Node → Nat → R Node)
    (hc : ∀ nd i e, child nd i = .error e → P e) (m : Node) (elems : List Nat) (k : Nat) (e : Err)
    (h : Driver.deriveSplit child m elems k = .error e) : P e := by
  have : Only P (Driver.deriveSplit child m elems k) := by
    unfold Driver.deriveSplit
    simp only [ov, Only.foldlM fun nd i => ⟨hc nd i⟩]
  exact this.h e h

/-- `Bip32Base.PublicKey().ToExtended()`: fails only with `.overflow`, only for depth ≥ 256 or index ≥ 2³² -/
theorem to_extended_pub (H : Bytes → Bytes) (kv : KeyNetVer) (n : Node) (e : Err)
    (h : n.toExtendedPub H kv = .error e) : e = .overflow ∧ ¬ (n.depth < 256 ∧ n.index < 2 ^ 32) :=
  (C05.serializeKey_error_iff H kv.pub n.depth n.parentFp n.index n.chainCode n.pub e).mp h

/-- `Bip32Base.PrivateKey().ToExtended()`: `Bip32KeyError` on a public-only object; within the ranges
every node satisfies nothing else -/
theorem to_extended_priv (H : Bytes → Bytes) (kv : KeyNetVer) (n : Node) (hd : n.depth < 256)
    (hi : n.index < 2 ^ 32) (e : Err) (h : n.toExtendedPriv H kv = .error e) :
    e = .key ∧ n.priv = none ∧ e.documented = true := by
  unfold Node.toExtendedPriv at h
  cases hp : n.priv with
  | none => rw [hp] at h; cases h; exact ⟨rfl, rfl, rfl⟩
  | some k =>
    rw [hp] at h
    exact absurd ⟨hd, hi⟩ ((C05.serializeKey_error_iff H kv.priv n.depth n.parentFp n.index n.chainCode
      ([0] ++ k) e).mp h).2

/-- `Bip44Base.FromSeed` → `Bip32Class().FromSeed(seed)` for the six classes of the coin table.
**Partial** (`.fuel`, see `C14.master_partial`) -/
theorem master_of_partial (cls : String) (hc : (bip32ClassOf cls).isSome = true) (seed : Bytes)
    (e : Err) (h : masterOf cls seed = .error e) : e.documented = true ∨ e = .fuel :=
  (masterOf_only cls hc seed (P := fun e => e.documented = true ∨ e = .fuel)).h e h

/-- `Bip32KholawEd25519.FromSeed` (= `CardanoIcarusBip32` with the Khovratovich-Law generator).
**Partial** (`.fuel`: the "third highest bit" re-hash loop) -/
theorem kholaw_master_partial (seed : Bytes) (e : Err)
    (h : kholawMaster .kholaw kholawMasterKey seed = .error e) : e.documented = true ∨ e = .fuel :=
  (kholawMaster_only (P := fun e => e.documented = true ∨ e = .fuel) _ _ (kholawMasterKey_only ·) seed).h e h

/-- `CardanoIcarusBip32.FromSeed`: `ValueError` or `Bip32KeyError`, no loop -/
theorem icarus_master (seed : Bytes) (e : Err)
    (h : kholawMaster .kholaw icarusMasterKey seed = .error e) :
    (e = .key ∨ e = .value) ∧ e.documented = true :=
  (kholawMaster_only (P := fun e => (e = .key ∨ e = .value) ∧ e.documented = true) _ _ (icarusMasterKey_only ·) seed).h e h

/-- `CardanoByronLegacyBip32.FromSeed`.  **Partial** (`.fuel`) -/
theorem byron_legacy_master_partial (seed : Bytes) (e : Err)
    (h : kholawMaster .byronLegacy byronLegacyMasterKey seed = .error e) :
    e.documented = true ∨ e = .fuel :=
  (kholawMaster_only (P := fun e => e.documented = true ∨ e = .fuel) _ _ (byronLegacyMasterKey_only ·) seed).h e h

/-- one `Bip44Base` operation (`Purpose`, `Coin`, `Account`, `Change`, `AddressIndex`, `DeriveDefaultPath`,
`ConvertToPublic`, re-import) on any object: documented, or `.fuel` (partial, as above), or the `TypeError`
of `Change(x)` (`C14.bip44_change_type_is_type_error`) -/
theorem b44_step_errors (purpose coinIdx : Nat) (defPath : Path) (nd : Node) (op : B44Op) (e : Err)
    (h : b44Step purpose coinIdx defPath nd op = .error e) :
    e.documented = true ∨ e = .fuel ∨ e = .type :=
  (b44Step_only purpose coinIdx defPath nd op (P := fun e => e.documented = true ∨ e = .fuel ∨ e = .type)
    fun _ _ _ => by decide).h e h

/-- any sequence of `Bip44Base` operations: the same three cases -/
theorem b44_run_errors (purpose coinIdx : Nat) (defPath : Path) (nd : Node) (ops : List B44Op)
    (e : Err) (h : b44Run purpose coinIdx defPath nd ops = .error e) :
    e.documented = true ∨ e = .fuel ∨ e = .type :=
  (b44Run_only purpose coinIdx defPath nd ops (P := fun e => e.documented = true ∨ e = .fuel ∨ e = .type)).h e h

/-- with every `Change` argument a `Bip44Changes` member, no `TypeError`: documented or `.fuel` (partial) -/
theorem b44_step_partial (purpose coinIdx : Nat) (defPath : Path) (nd : Node) (op : B44Op)
    (hop : ∀ c, op = .change c → c ≤ 1) (e : Err)
    (h : b44Step purpose coinIdx defPath nd op = .error e) : e.documented = true ∨ e = .fuel :=
  (b44Step_only purpose coinIdx defPath nd op (P := fun e => e.documented = true ∨ e = .fuel)
    fun c hc hgt => absurd (hop c hc) (by omega)).h e h

/-- `Bip38EcKeysGenerator.GenerateIntermediatePassphrase`: `ValueError` only (lot / sequence range,
pass factor ≡ 0) -/
theorem bip38_intermediate (pass salt : Bytes) (lotSeq : Option (Nat × Nat)) (e : Err)
    (h : bip38Intermediate pass salt lotSeq = .error e) : e = .value ∧ e.documented = true :=
  (bip38Intermediate_only pass salt lotSeq (P := fun e => e = .value ∧ e.documented = true)).h e h

/-- `Bip38EcKeysGenerator.GeneratePrivateKey(int_passphrase, …)`: `ValueError` / `Base58ChecksumError` -/
theorem bip38_ec_generate (intPass : List Char) (seedb : Bytes) (compressed : Bool) (e : Err)
    (h : bip38EcGenerate intPass seedb compressed = .error e) :
    (e = .value ∨ e = .checksum) ∧ e.documented = true :=
  (bip38EcGenerate_only intPass seedb compressed (P := fun e => (e = .value ∨ e = .checksum) ∧ e.documented = true)).h e h

/-- `ElectrumV1.FromPrivateKey`: `ValueError` only -/
theorem electrum_v1_from_priv (k : Bytes) (e : Err) (h : ev1FromPriv k = .error e) :
    e = .value ∧ e.documented = true :=
  (ev1FromPriv_only k (P := fun e => e = .value ∧ e.documented = true)).h e h

/-- `ElectrumV1.FromPublicKey`: `ValueError` only -/
theorem electrum_v1_from_pub (b : Bytes) (e : Err) (h : ev1FromPub b = .error e) :
    e = .value ∧ e.documented = true :=
  (ev1FromPub_only b (P := fun e => e = .value ∧ e.documented = true)).h e h

/-- `ElectrumV1.GetPublicKey(change, addr)`: `ValueError` only -/
theorem electrum_v1_public_key (w : Ev1) (change addr : Nat) (e : Err)
    (h : ev1PublicKey w change addr = .error e) : e = .value ∧ e.documented = true :=
  (ev1PublicKey_only w change addr (P := fun e => e = .value ∧ e.documented = true)).h e h

/-- `ElectrumV1.GetAddress(change, addr)`: `ValueError` only -/
theorem electrum_v1_address (w : Ev1) (change addr : Nat) (e : Err)
    (h : ev1Address w change addr = .error e) : e = .value ∧ e.documented = true :=
  (ev1Address_only w change addr (P := fun e => e = .value ∧ e.documented = true)).h e h

/-- `ElectrumV2Standard/Segwit.GetPrivateKey(change, addr)` (the derivation).  **Partial** (`.fuel`) -/
theorem electrum_v2_derive_partial (segwit : Bool) (master : Node) (change addr : Nat) (e : Err)
    (h : ev2Derive segwit master change addr = .error e) : e.documented = true ∨ e = .fuel :=
  (ev2Derive_only segwit master change addr (P := fun e => e.documented = true ∨ e = .fuel)).h e h

/-- `ElectrumV2Standard/Segwit.GetAddress`: `ValueError` only -/
theorem electrum_v2_address (segwit : Bool) (nd : Node) (e : Err) (h : ev2Address segwit nd = .error e) :
    e = .value ∧ e.documented = true :=
  (ev2Address_only segwit nd (P := fun e => e = .value ∧ e.documented = true)).h e h

/-- `Brainwallet.Generate` → `Bip44.FromPrivateKey(digest)`: the key derivation of a valid digest
fails with `ValueError` only -/
theorem brainwallet_key (a : BrainAlgo) (pass : Bytes) (e : Err)
    (h : secpPubOfPriv (brainKey a pass) = .error e) : e = .value ∧ e.documented = true :=
  value_doc (Bip38Lemmas.secpPubOfPriv_ov _) h

/-- `SplToken.FindPda(seeds, program_id)` with the argument checks and the address decoder:
`ValueError` only -/
theorem spl_find_pda (seeds : List Bytes) (prog : List Char) (e : Err)
    (h : findPda seeds prog = .error e) : e = .value ∧ e.documented = true :=
  (findPda_only seeds prog (P := fun e => e = .value ∧ e.documented = true)).h e h

/-- `SplToken.GetAssociatedTokenAddress(wallet, mint, token_program)`: `ValueError` only -/
theorem spl_associated_token_address (w m t : List Char) (e : Err)
    (h : associatedTokenAddress w m t = .error e) : e = .value ∧ e.documented = true :=
  (associatedTokenAddress_only w m t (P := fun e => e = .value ∧ e.documented = true)).h e h

/-- `Monero.FromBip44PrivateKey`: `MoneroKeyError` or `ValueError` -/
theorem monero_from_bip44_priv (k : Bytes) (e : Err) (h : xmrFromBip44Priv k = .error e) :
    (e = .key ∨ e = .value) ∧ e.documented = true :=
  (xmrFromBip44Priv_only k (P := fun e => (e = .key ∨ e = .value) ∧ e.documented = true)).h e h

/-- `Monero.PrivateSpendKey()` on a watch-only object: `MoneroKeyError` -/
theorem monero_private_spend (w : XmrWallet) (e : Err) (h : xmrPrivateSpend w = .error e) :
    e = .key ∧ e.documented = true :=
  (xmrPrivateSpend_only w (P := fun e => e = .key ∧ e.documented = true)).h e h

/-- `Monero.PrimaryAddress()`: `ValueError` only -/
theorem monero_primary_address (w : XmrWallet) (nv : Bytes) (e : Err)
    (h : xmrPrimaryAddress w nv = .error e) : e = .value ∧ e.documented = true :=
  (xmrPrimaryAddress_only w nv (P := fun e => e = .value ∧ e.documented = true)).h e h

/-- `Monero.Subaddress(minor, major)`: `ValueError` only -/
theorem monero_subaddress (w : XmrWallet) (nv snv : Bytes) (minor major : Nat) (e : Err)
    (h : xmrSubaddress w nv snv minor major = .error e) : e = .value ∧ e.documented = true :=
  (xmrSubaddress_only w nv snv minor major (P := fun e => e = .value ∧ e.documented = true)).h e h

/-- `Monero.IntegratedAddress(payment_id)`: `ValueError` only -/
theorem monero_integrated_address (w : XmrWallet) (nv pid : Bytes) (e : Err)
    (h : xmrIntegratedAddress w nv pid = .error e) : e = .value ∧ e.documented = true :=
  (xmrIntegratedAddress_only w nv pid (P := fun e => e = .value ∧ e.documented = true)).h e h

/-! Substrate: sr25519 is not modelled, its results come from the request's oracle table; a missing answer is
`.oracleMiss`, which the hypotheses `hm` set aside. -/

/-- `Substrate.FromSeed`: `ValueError`, or the harness shipped no `sr_pair` answer -/
theorem substrate_from_seed (o : Oracle) (seed : Bytes) (e : Err) (h : subFromSeed o seed = .error e)
    (hm : e ≠ .oracleMiss) : e = .value ∧ e.documented = true :=
  (subFromSeed_only o seed (P := fun e => e ≠ .oracleMiss → e = .value ∧ e.documented = true)).h e h hm

/-- `Substrate.FromPrivateKey`: `SubstrateKeyError`, or the harness shipped no `sr_pub` answer -/
theorem substrate_from_priv (o : Oracle) (priv : Bytes) (e : Err) (h : subFromPriv o priv = .error e)
    (hm : e ≠ .oracleMiss) : e = .key ∧ e.documented = true :=
  (subFromPriv_only o priv (P := fun e => e ≠ .oracleMiss → e = .key ∧ e.documented = true)).h e h hm

/-- `Substrate.FromPublicKey`: `SubstrateKeyError` only -/
theorem substrate_from_pub (pub : Bytes) (e : Err) (h : subFromPub pub = .error e) :
    e = .key ∧ e.documented = true :=
  (subFromPub_only pub (P := fun e => e = .key ∧ e.documented = true)).h e h

/-- `Substrate.ChildKey(path_elem)`: `SubstratePathError`, `ValueError`, `SubstrateKeyError` (or an
unanswered oracle query) -/
theorem substrate_child_key (o : Oracle) (nd : SubNode) (el : SubElem) (e : Err)
    (h : subChildKey o nd el = .error e) (hm : e ≠ .oracleMiss) :
    (e = .path ∨ e = .value ∨ e = .key) ∧ e.documented = true :=
  (subChildKey_only o nd el
    (P := fun e => e ≠ .oracleMiss → (e = .path ∨ e = .value ∨ e = .key) ∧ e.documented = true)).h e h hm

/-- `Substrate.DerivePath(path)` with a parsed path -/
theorem substrate_derive_path (o : Oracle) (nd : SubNode) (p : List SubElem) (e : Err)
    (h : subDerivePath o nd p = .error e) (hm : e ≠ .oracleMiss) :
    (e = .path ∨ e = .value ∨ e = .key) ∧ e.documented = true :=
  (subDerivePath_only o nd p
    (P := fun e => e ≠ .oracleMiss → (e = .path ∨ e = .value ∨ e = .key) ∧ e.documented = true)).h e h hm

/-- `SubstratePublicKey.ToAddress()`: `ValueError` only -/
theorem substrate_address (fmt : Nat) (nd : SubNode) (e : Err) (h : subAddress fmt nd = .error e) :
    e = .value ∧ e.documented = true :=
  (subAddress_only fmt nd (P := fun e => e = .value ∧ e.documented = true)).h e h

/-- `Bip39Mnemonic.FromString` (split / lower / NFKD): never a library error — the model's only
failure is a non-ASCII token the harness shipped no NFKD answer for -/
theorem bip39_sentence (o : List (List Char × List Char)) (s : List Char) (e : Err)
    (h : bip39Sentence o s = .error e) : e = .oracleMiss :=
  (bip39Sentence_only o s (P := (· = .oracleMiss))).h e h

/-- `Bip39Mnemonic.FromString` in C14 form: apart from the harness's oracle miss there is no error at all -/
theorem bip39_sentence_ascii (o : List (List Char × List Char)) (s : List Char) (e : Err)
    (h : bip39Sentence o s = .error e) (hm : e ≠ .oracleMiss) : e.documented = true :=
  absurd (bip39_sentence o s e h) hm

/-- `Bip39MnemonicDecoder.DecodeWithChecksum`: `ValueError` / `MnemonicChecksumError` only — the
`int.to_bytes` of the padded bit string cannot overflow -/
theorem bip39_decode_with_checksum (H : Bytes → Bytes) (hH : ∀ x, (H x).length = 32)
    (langs : List (List Nat)) (hlangs : ∀ L ∈ langs, L.length ≤ 2048) (lang : Option (List Nat))
    (hlang : ∀ L, lang = some L → L.length ≤ 2048) (ws : List Nat) (e : Err)
    (h : bip39DecodeWithChecksum H langs lang ws = .error e) :
    (e = .value ∨ e = .checksum) ∧ e.documented = true :=
  (bip39DecodeWithChecksum_only H hH langs hlangs lang hlang ws (P := fun e => (e = .value ∨ e = .checksum) ∧ e.documented = true)).h e h

/-- `AdaShelleyAddrEncoder.EncodeKey`: `ValueError` only -/
theorem shelley_encode (hrp : List Char) (netTag : Nat) (pub stake : Bytes) (e : Err)
    (h : shelleyEncode hrp netTag pub stake = .error e) : e = .value ∧ e.documented = true :=
  value_doc (shelleyEncode_ov hrp netTag pub stake) h

/-- `AdaShelleyAddrDecoder.DecodeAddr`: `ValueError` only (the Bech32 checksum error is converted) -/
theorem shelley_decode (hrp : List Char) (netTag : Nat) (addr : List Char) (e : Err)
    (h : shelleyDecode hrp netTag addr = .error e) : e = .value ∧ e.documented = true :=
  value_doc (shelleyDecode_ov hrp netTag addr) h

/-- `AdaShelleyStakingAddrEncoder.EncodeKey`: `ValueError` only -/
theorem shelley_staking_encode (hrp : List Char) (netTag : Nat) (pub : Bytes) (e : Err)
    (h : shelleyStakingEncode hrp netTag pub = .error e) : e = .value ∧ e.documented = true :=
  value_doc (shelleyStakingEncode_ov hrp netTag pub) h

/-- `AdaShelleyStakingAddrDecoder.DecodeAddr`: `ValueError` only -/
theorem shelley_staking_decode (hrp : List Char) (netTag : Nat) (addr : List Char) (e : Err)
    (h : shelleyStakingDecode hrp netTag addr = .error e) : e = .value ∧ e.documented = true :=
  value_doc (shelleyStakingDecode_ov hrp netTag addr) h

/-- `AdaByronIcarusAddrEncoder.EncodeKey`: `ValueError` only -/
theorem byron_icarus_encode (pub cc : Bytes) (e : Err) (h : byronIcarusEncode pub cc = .error e) :
    e = .value ∧ e.documented = true :=
  value_doc (byronIcarusEncode_ov pub cc) h

/-- `AdaByronLegacyAddrEncoder.EncodeKey` with a `Bip32Path` (elements < 2⁶⁴; the class guarantees
< 2³²): `ValueError` only -/
theorem byron_legacy_encode (aead : Aead) (pub cc : Bytes) (path : List Nat)
    (hp : ∀ n ∈ path, n < 2 ^ 64) (hdKey : Option Bytes) (e : Err)
    (h : byronLegacyEncode aead pub cc path hdKey = .error e) : e = .value ∧ e.documented = true :=
  value_doc (byronLegacyEncode_ov aead pub cc path hp hdKey) h

/-- `AdaByronAddrDecoder.DecodeAddr`: every error the model itself decides is a `ValueError`;
`.oracleMiss` marks an input outside the modelled fragment of `cbor2.loads` (no verdict) -/
theorem byron_decode (addr : List Char) (e : Err) (h : byronDecode addr = .error e)
    (hm : e ≠ .oracleMiss) : e = .value ∧ e.documented = true :=
  (byronDecode_only addr (P := fun e => e ≠ .oracleMiss → e = .value ∧ e.documented = true)).h e h hm

/-- `CardanoByronLegacy.GetAddress(first, second)`: `Bip32PathError`, `Bip32KeyError` or `ValueError` -/
theorem byron_legacy_address (aead : Aead) (master : Node) (first second : Nat) (e : Err)
    (h : byronLegacyAddress aead master first second = .error e) :
    (e = .path ∨ e = .key ∨ e = .value) ∧ e.documented = true :=
  (byronLegacyAddress_only aead master first second (P := fun e => (e = .path ∨ e = .key ∨ e = .value) ∧ e.documented = true)).h e h

/-- `CardanoByronLegacy.HdPathFromAddress(address)`: `ValueError` (Base58 / CBOR shape / CRC / AEAD tag /
array framing) or `Bip32PathError` (non-integer or out-of-range element); `.oracleMiss` as in `byron_decode` -/
theorem byron_recover_path (master : Node) (addr : List Char) (e : Err)
    (h : Driver.byronRecoverPath master addr = .error e) (hm : e ≠ .oracleMiss) :
    (e = .value ∨ e = .path) ∧ e.documented = true := by
  have : Only (fun e => e ≠ .oracleMiss → (e = .value ∨ e = .path) ∧ e.documented = true)
      (Driver.byronRecoverPath master addr) := by
    unfold Driver.byronRecoverPath
    refine .bind (byronDecode_only addr) fun dec _ => ?_
    dsimp only
    split
    · exact .throw (by decide)
    · refine .bind (.of_ov (EscapeLemmas.cborIndefDecode_ov _ EscapeLemmas.cborLoadsUint_ov _) (by decide))
        fun items _ => ?_
      refine .bind (Only.mapM (fun it => ?_) _) fun vals _ => ?_
      · cases it
        · exact .pure _
        · exact .throw (by decide)
      · simp only [ov]
        exact fun _ => by decide
  exact this.h e h hm

/-- `IPoint.FromBytes` of the six adapter classes (known curve name): `ValueError` only -/
theorem point_from_bytes (curve : String) (hc : (Driver.ptCurveW curve).isSome = true ∨ Driver.isEdName curve = true)
    (b : Bytes) (e : Err) (h : Driver.ptFromBytes curve b = .error e) :
    e = .value ∧ e.documented = true := by
  have : OnlyValue (Driver.ptFromBytes curve b) := by
    unfold Driver.ptFromBytes
    cases hw : Driver.ptCurveW curve with
    | some c =>
      dsimp only
      repeat' split
      all_goals simp only [ov]
    | none =>
      have hed : Driver.isEdName curve = true := by simpa [hw] using hc
      dsimp only
      rw [if_pos hed]
      repeat' split
      all_goals simp only [ov]
  exact value_doc this h

/-- `IPoint.__mul__` / `__rmul__`: `ValueError` only (identity result / refused operand) -/
theorem point_mul (a : Driver.Pt) (k : Nat) (e : Err) (h : Driver.ptMul a k = .error e) :
    e = .value ∧ e.documented = true := by
  have : OnlyValue (Driver.ptMul a k) := by
    unfold Driver.ptMul
    repeat' split
    all_goals simp only [ov]
  exact value_doc this h

/-- `IPoint.__add__`: `ValueError` for an identity sum; the model's `.type` arises only for operands of
two different curve families, which no driver operation (both operands are read with one curve name)
and no library call site produces -/
theorem point_add (a b : Driver.Pt) (e : Err) (h : Driver.ptAdd a b = .error e) :
    e = .value ∨ (e = .type ∧ ((∃ c p q, a = .w c p ∧ b = .ed q) ∨ (∃ c p q, a = .ed q ∧ b = .w c p))) := by
  cases a with
  | w c p =>
    cases b with
    | w c' q =>
      left
      have : OnlyValue (Driver.ptAdd (.w c p) (.w c' q)) := by
        unfold Driver.ptAdd
        dsimp only
        split <;> simp only [ov]
      exact this.h e h
    | ed q =>
      right
      unfold Driver.ptAdd at h
      cases h
      exact ⟨rfl, Or.inl ⟨c, p, q, rfl, rfl⟩⟩
  | ed p =>
    cases b with
    | w c' q =>
      right
      unfold Driver.ptAdd at h
      cases h
      exact ⟨rfl, Or.inr ⟨c', q, p, rfl, rfl⟩⟩
    | ed q =>
      unfold Driver.ptAdd at h
      cases h

end BipVerif.Props.C14More
