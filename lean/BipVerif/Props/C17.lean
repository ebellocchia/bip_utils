/-
C17 — Monero / Electrum-v1 / Algorand / Electrum-v2 mnemonic codecs: round trips, canonicity
of accepted phrases, word counts and error classes.  The chunk arithmetic, `ConvertBits`, the
base-2048 digits and the closed forms of the encoders and decoders are in
`BipVerif/Lemmas/Mnemonics*.lean`; here they are put together, codec by codec.  Electrum v2 is the
one codec whose decoder accepts phrases that are not encodings (`v2_decode_canonical_iff`).
-/
import BipVerif.Lemmas.MnemonicsV2

namespace BipVerif.Props.C17
open BipVerif BipVerif.Model

/-! ## Chunk arithmetic: `MnemonicUtils.BytesChunkToWords` / `WordsToBytesChunk` -/

/-- the Monero / Electrum-v1 list size satisfies the size hypothesis used below -/
theorem cube_1626 : 2 ^ 32 ≤ 1626 ^ 3 := by norm_num

/-- `WordsToBytesChunk ∘ BytesChunkToWords` is the identity on 32-bit chunk values, for a list of
`n` words with `2^32 ≤ n^3` -/
theorem chunk_roundtrip {n x : Nat} (hn : 0 < n) (hcube : 2 ^ 32 ≤ n ^ 3) (hx : x < 2 ^ 32) :
    (match chunkToIdx n x with
      | [a, b, c] => idxToChunk n a b c
      | _ => .error .fuel) = .ok x := by
  rw [chunkToIdx_eq]
  exact (idxToChunk_ok_iff _ _ _ _ _).mpr ⟨(packIdx_chunkToIdx hn hcube hx).symm, hx⟩

theorem chunk_idx_lt {n : Nat} (hn : 0 < n) (x : Nat) :
    (chunkToIdx n x).length = 3 ∧ ∀ i ∈ chunkToIdx n x, i < n :=
  ⟨rfl, chunkToIdx_lt hn x⟩

/-- an index triple accepted by `idxToChunk` is the triple produced from its value -/
theorem chunk_canonical {n a b c x : Nat} (ha : a < n) (hb : b < n) (hc : c < n)
    (h : idxToChunk n a b c = .ok x) : chunkToIdx n x = [a, b, c] ∧ x < 2 ^ 32 := by
  obtain ⟨h1, h2⟩ := (idxToChunk_ok_iff _ _ _ _ _).mp h
  exact ⟨h1 ▸ chunkToIdx_packIdx ha hb hc, h2⟩

/-- `idxToChunk` fails only with `ValueError`, exactly when the packed value needs more than
32 bits -/
theorem idxToChunk_error (n a b c : Nat) (e : Err) :
    idxToChunk n a b c = .error e ↔
      e = .value ∧
      2 ^ 32 ≤ a + n * ((b % n + n - a % n) % n) + n * n * ((c % n + n - b % n) % n) :=
  idxToChunk_error_iff n a b c e

theorem idxToChunk_ok (n a b c x : Nat) :
    idxToChunk n a b c = .ok x ↔
      x = a + n * ((b % n + n - a % n) % n) + n * n * ((c % n + n - b % n) % n) ∧ x < 2 ^ 32 :=
  idxToChunk_ok_iff n a b c x

section Monero
variable (crc : Bytes → Nat) (langs : List (List Nat × Nat)) (wl : List Nat) (k : Nat)

/-- `MoneroMnemonicEncoder.EncodeNoChecksum` / `EncodeWithChecksum` (`ck`) accept every 16- or
32-byte entropy and give 12 or 24 words, one more with the checksum word -/
theorem monero_encode_wordcount (hlen : wl.length = 1626) (ck : Bool) (ent : Bytes)
    (h : ent.length = 16 ∨ ent.length = 32) :
    ∃ ws, moneroEncode crc wl k ck ent = .ok ws ∧
      ws.length = ent.length / 4 * 3 + (if ck then 1 else 0) := by
  obtain ⟨hl, -, henc⟩ := moneroEncode_ok crc wl (by omega) k ck ent h
  refine ⟨_, henc, ?_⟩
  cases ck
  · exact hl
  · rw [if_pos rfl, List.length_append, hl]; rfl

theorem monero_encode_bad_length (ck : Bool) (ent : Bytes)
    (h : ¬ (ent.length = 16 ∨ ent.length = 32)) : moneroEncode crc wl k ck ent = .error .value := by
  rw [moneroEncode_eq, if_neg h]

/-- `MoneroMnemonicDecoder.Decode` with the language given returns the entropy from the words of
either encoder -/
theorem monero_decode_encode (hlen : wl.length = 1626) (hnd : wl.Nodup) (ck : Bool) (ent : Bytes)
    (h : ent.length = 16 ∨ ent.length = 32) :
    (moneroEncode crc wl k ck ent >>= moneroDecode crc langs (some (wl, k))) = .ok ent := by
  have hpos : 0 < wl.length := by omega
  have hcube : 2 ^ 32 ≤ wl.length ^ 3 := by rw [hlen]; norm_num
  obtain ⟨-, hw, henc⟩ := moneroEncode_ok crc wl hpos k ck ent h
  rw [henc, ok_bind]
  cases ck
  · rw [if_neg Bool.false_ne_true, moneroDecode_plain crc langs wl k hw]
    exact chunksDecode_encIdx wl hnd hpos hcube true ent (by omega)
  · rw [if_pos rfl, moneroDecode_concat crc langs wl k _ hw, if_pos rfl]
    exact chunksDecode_encIdx wl hnd hpos hcube true ent (by omega)

/-- canonicity: a phrase `MoneroMnemonicDecoder.Decode` accepts is exactly the encoding of its
decoding, with the checksum word iff it has 13 or 25 words -/
theorem monero_decode_canonical (hpos : 0 < wl.length) (ws : List Nat) (e : Bytes)
    (h : moneroDecode crc langs (some (wl, k)) ws = .ok e) :
    (e.length = 16 ∨ e.length = 32) ∧
      moneroEncode crc wl k (decide (ws.length = 13 ∨ ws.length = 25)) e = .ok ws := by
  by_cases hc : ws.length = 13 ∨ ws.length = 25
  · obtain ⟨ws0, c, rfl, h0⟩ := exists_concat_of_length hc
    rw [moneroDecode_concat crc langs wl k c h0] at h
    by_cases hck : c = moneroCk crc k ws0
    swap
    · rw [if_neg hck] at h; cases h
    rw [if_pos hck] at h
    obtain ⟨h1, h2⟩ := chunksDecode_canonical_triples wl true (by omega) h
    have hel := monero_entropy_length h1 h0
    refine ⟨hel, ?_⟩
    rw [(moneroEncode_ok crc wl hpos k _ e hel).2.2, h2, if_pos (decide_eq_true hc), hck]
  by_cases h0 : ws.length = 12 ∨ ws.length = 24
  · rw [moneroDecode_plain crc langs wl k h0] at h
    obtain ⟨h1, h2⟩ := chunksDecode_canonical_triples wl true (by omega) h
    have hel := monero_entropy_length h1 h0
    refine ⟨hel, ?_⟩
    rw [(moneroEncode_ok crc wl hpos k _ e hel).2.2, h2, if_neg (by simpa using hc)]
  · rw [moneroDecode_eq, if_neg (by omega)] at h; cases h

/-- what the decoder does once the word count is legal and the language is given -/
theorem monero_decode_eq (ws : List Nat)
    (hcount : ws.length = 12 ∨ ws.length = 13 ∨ ws.length = 24 ∨ ws.length = 25) :
    moneroDecode crc langs (some (wl, k)) ws =
      if ws.length = 13 ∨ ws.length = 25 then
        moneroChecksumWord crc k (dropLast ws 1) >>= fun ck =>
          if ws.getLast? ≠ some ck then .error .checksum else chunksDecode wl true ws
      else chunksDecode wl true ws := by
  rw [moneroDecode_eq, if_pos hcount, moneroLang_some, ok_bind]; rfl

/-- whatever the language argument, `Decode` raises only `ValueError` and `MnemonicChecksumError`
(the `.fuel`, `.assert` and `.index` branches of the model are dead) -/
theorem monero_decode_errors (lang : Option (List Nat × Nat)) (ws : List Nat) (e : Err)
    (h : moneroDecode crc langs lang ws = .error e) : e = .value ∨ e = .checksum := by
  by_cases hcount : ws.length = 12 ∨ ws.length = 13 ∨ ws.length = 24 ∨ ws.length = 25
  · rw [moneroDecode_eq, if_pos hcount, bind_eq_error_iff] at h
    rcases h with h | ⟨l, _, h⟩
    · exact Or.inl (moneroLang_error h)
    · exact moneroBody_error hcount h
  · rw [moneroDecode_eq, if_neg hcount] at h; cases h; exact Or.inl rfl

theorem monero_decode_bad_count (lang : Option (List Nat × Nat)) (ws : List Nat)
    (h : ¬ (ws.length = 12 ∨ ws.length = 13 ∨ ws.length = 24 ∨ ws.length = 25)) :
    moneroDecode crc langs lang ws = .error .value := by
  rw [moneroDecode_eq, if_neg h]

/-- the checksum is verified before any word is looked up -/
theorem monero_decode_checksum_first (ws : List Nat) (c : Nat)
    (hc : ws.length = 13 ∨ ws.length = 25)
    (hck : moneroChecksumWord crc k (dropLast ws 1) = .ok c) (hne : ws.getLast? ≠ some c) :
    moneroDecode crc langs (some (wl, k)) ws = .error .checksum := by
  rw [monero_decode_eq crc langs wl k ws (by omega), if_pos hc, hck, ok_bind, if_pos hne]

/-- a word outside the (given) language: `MnemonicChecksumError` if the phrase carries a
checksum word and it does not match, `ValueError` otherwise -/
theorem monero_decode_unknown_word (ws : List Nat)
    (hcount : ws.length = 12 ∨ ws.length = 13 ∨ ws.length = 24 ∨ ws.length = 25)
    (hw : ∃ w ∈ ws, w ∉ wl) :
    moneroDecode crc langs (some (wl, k)) ws = .error
      (if (ws.length = 13 ∨ ws.length = 25) ∧
          ws.getLast? ≠ (moneroChecksumWord crc k (dropLast ws 1)).toOption
        then .checksum else .value) := by
  obtain ⟨w, hw, hnot⟩ := hw
  by_cases hc : ws.length = 13 ∨ ws.length = 25
  · obtain ⟨ws0, c, rfl, h0⟩ := exists_concat_of_length hc
    have hne : ws0 ≠ [] := by intro e; rw [e] at h0; simp at h0
    rw [moneroDecode_concat crc langs wl k c h0, dropLast_append_of_length ws0 [c] 1 rfl,
      moneroChecksumWord_eq crc k ws0 hne, List.getLast?_concat]
    by_cases hck : c = moneroCk crc k ws0
    · rw [if_pos hck, if_neg (by simp [Except.toOption, hck])]
      apply chunksDecode_of_not_mem_triples wl true (by omega)
      rcases List.mem_append.mp hw with hw | hw
      · exact ⟨w, hw, hnot⟩
      · rw [List.mem_singleton.mp hw, hck] at hnot
        exact ⟨_, moneroCk_mem crc k hne, hnot⟩
    · rw [if_neg hck, if_pos ⟨hc, by simpa [Except.toOption] using hck⟩]
  · have h0 : ws.length = 12 ∨ ws.length = 24 := by omega
    rw [moneroDecode_plain crc langs wl k h0, if_neg (fun h => hc h.1)]
    exact chunksDecode_of_not_mem_triples wl true (by omega) ⟨w, hw, hnot⟩

/-- the encoders raise only `ValueError`, and only for a wrong entropy length -/
theorem monero_encode_errors (hlen : wl.length = 1626) (ck : Bool) (ent : Bytes) (e : Err)
    (h : moneroEncode crc wl k ck ent = .error e) :
    e = .value ∧ ¬ (ent.length = 16 ∨ ent.length = 32) := by
  by_cases hl : ent.length = 16 ∨ ent.length = 32
  · obtain ⟨ws, hws, _⟩ := monero_encode_wordcount crc wl k hlen ck ent hl
    rw [hws] at h; cases h
  · rw [monero_encode_bad_length crc wl k ck ent hl] at h; cases h; exact ⟨rfl, hl⟩

/-- with no language given the first language containing every word is used, `ValueError` if there
is none; the word count is checked before -/
theorem monero_decode_autodetect (ws : List Nat)
    (hcount : ws.length = 12 ∨ ws.length = 13 ∨ ws.length = 24 ∨ ws.length = 25) :
    moneroDecode crc langs none ws =
      match langs.find? (fun l => ws.all (fun w => l.1.contains w)) with
      | some l => moneroDecode crc langs (some l) ws
      | none => .error .value := by
  rw [moneroDecode_eq, if_pos hcount]
  unfold moneroLang
  simp only []
  cases hf : langs.find? (fun l => ws.all (fun w => l.1.contains w)) with
  | some l => simp only []; rw [moneroDecode_eq, if_pos hcount]; rfl
  | none => rfl

end Monero

section ElectrumV1
variable (wl : List Nat)

theorem v1_encode_eq (ent : Bytes) :
    electrumV1Encode wl ent = if ent.length ≠ 16 then .error .value else chunksEncode wl false ent := by
  unfold electrumV1Encode
  by_cases h : ent.length ≠ 16
  · simp only [if_pos h]; rfl
  · simp only [if_neg h]

theorem v1_decode_eq (ws : List Nat) :
    electrumV1Decode wl ws = if ws.length ≠ 12 then .error .value else chunksDecode wl false ws := by
  unfold electrumV1Decode
  by_cases h : ws.length ≠ 12
  · simp only [if_pos h]; rfl
  · simp only [if_neg h]

/-- `ElectrumV1MnemonicEncoder.Encode` accepts every 16-byte entropy and gives 12 words -/
theorem v1_encode_wordcount (hlen : wl.length = 1626) (ent : Bytes) (h : ent.length = 16) :
    ∃ ws, electrumV1Encode wl ent = .ok ws ∧ ws.length = 12 := by
  rw [v1_encode_eq, if_neg (by omega), chunksEncode_ok wl (by omega) false ent]
  exact ⟨_, rfl, by rw [List.length_map, encIdx_length _ _ ent (by omega), h]⟩

theorem v1_encode_bad_length (ent : Bytes) (h : ent.length ≠ 16) :
    electrumV1Encode wl ent = .error .value := by
  rw [v1_encode_eq, if_pos h]

/-- `ElectrumV1MnemonicDecoder.Decode ∘ Encode` is the identity on 16-byte entropies -/
theorem v1_decode_encode (hlen : wl.length = 1626) (hnd : wl.Nodup) (ent : Bytes)
    (h : ent.length = 16) : (electrumV1Encode wl ent >>= electrumV1Decode wl) = .ok ent := by
  have hpos : 0 < wl.length := by omega
  have hcube : 2 ^ 32 ≤ wl.length ^ 3 := by rw [hlen]; norm_num
  rw [v1_encode_eq, if_neg (by omega), chunksEncode_ok wl hpos false ent, ok_bind, v1_decode_eq,
    if_neg (by rw [List.length_map, encIdx_length _ _ ent (by omega), h]; omega)]
  exact chunksDecode_encIdx wl hnd hpos hcube false ent (by omega)

/-- canonicity: a phrase `ElectrumV1MnemonicDecoder.Decode` accepts is the encoding of its
decoding -/
theorem v1_decode_canonical (hpos : 0 < wl.length) (ws : List Nat) (e : Bytes)
    (h : electrumV1Decode wl ws = .ok e) : e.length = 16 ∧ electrumV1Encode wl e = .ok ws := by
  rw [v1_decode_eq] at h
  by_cases hc : ws.length ≠ 12
  · rw [if_pos hc] at h; cases h
  rw [if_neg hc] at h
  obtain ⟨h1, h2⟩ := chunksDecode_canonical_triples wl false (by omega) h
  have hel : e.length = 16 := by omega
  refine ⟨hel, ?_⟩
  rw [v1_encode_eq, if_neg (by omega), chunksEncode_ok wl hpos false e, h2]

/-- `Decode` raises only `ValueError` -/
theorem v1_decode_errors (ws : List Nat) (e : Err) (h : electrumV1Decode wl ws = .error e) :
    e = .value := by
  rw [v1_decode_eq] at h
  by_cases hc : ws.length ≠ 12
  · rw [if_pos hc] at h; cases h; rfl
  · rw [if_neg hc] at h; exact chunksDecode_error wl false ws e h

theorem v1_decode_bad_count (ws : List Nat) (h : ws.length ≠ 12) :
    electrumV1Decode wl ws = .error .value := by
  rw [v1_decode_eq, if_pos h]

theorem v1_decode_unknown_word (ws : List Nat) (hw : ∃ w ∈ ws, w ∉ wl) :
    electrumV1Decode wl ws = .error .value := by
  rw [v1_decode_eq]
  by_cases hc : ws.length ≠ 12
  · rw [if_pos hc]
  · rw [if_neg hc]
    exact chunksDecode_of_not_mem_triples wl false (by omega) hw

/-- `Encode` raises only `ValueError` (the `IndexError` of the word look-up would need an empty
word list) -/
theorem v1_encode_errors (hpos : 0 < wl.length) (ent : Bytes) (e : Err)
    (h : electrumV1Encode wl ent = .error e) : e = .value := by
  rw [v1_encode_eq] at h
  by_cases hc : ent.length ≠ 16
  · rw [if_pos hc] at h; cases h; rfl
  · rw [if_neg hc, chunksEncode_ok wl hpos false ent] at h; cases h

end ElectrumV1

section Algorand

/-- `ConvertBits` 8 → 11 on a byte string: the `⌈8·len/11⌉` least significant base-2048 digits
(least significant first) of the little-endian value of the bytes.  `leDigits t cnt N` is
characterised by `leDigits_length`, `leDigits_lt` and `valLE_leDigits` / `valLE_leDigits_mod`
(`valLE t = Nat.ofDigits (2^t)`). -/
theorem algo_convertBits_8_11 (b : Bytes) :
    algoConvertBits (b.map UInt8.toNat) 8 11
      = some (leDigits 11 ((8 * b.length + 10) / 11) (Bytes.toNatLE b)) :=
  algoConvertBits_bytes b

/-- `ConvertBits` 11 → 8 on word indices: the `⌈11·len/8⌉` little-endian bytes of the
little-endian base-2048 value of the indices -/
theorem algo_convertBits_11_8 (idxs : List Nat) (h : ∀ i ∈ idxs, i < 2048) :
    algoConvertBits idxs 11 8
      = some (leDigits 8 ((11 * idxs.length + 7) / 8) (Nat.ofDigits 2048 idxs)) := by
  rw [algoConvertBits_eq 11 8 (by omega) _ h, valLE_eq_ofDigits]; rfl

/-- the digit lists above are the unique ones with the right length, range and value -/
theorem leDigits_spec (t cnt N : Nat) :
    (leDigits t cnt N).length = cnt ∧ (∀ d ∈ leDigits t cnt N, d < 2 ^ t) ∧
      Nat.ofDigits (2 ^ t) (leDigits t cnt N) = N % 2 ^ (t * cnt) :=
  ⟨leDigits_length t cnt N, leDigits_lt t cnt N, by
    rw [← valLE_eq_ofDigits, valLE_leDigits_mod]⟩

/-- `ConvertBits` returns `None` on an out-of-range group -/
theorem algo_convertBits_none (f t : Nat) (data : List Nat) (h : ∃ v ∈ data, 2 ^ f ≤ v) :
    algoConvertBits data f t = none := by
  unfold algoConvertBits
  exact algo_go_none f t _ data h 0 0 []

variable (H : Bytes → Bytes) (langs : List (List Nat)) (wl : List Nat)

/-- `AlgorandMnemonicEncoder.Encode` accepts every 32-byte entropy and gives 25 words -/
theorem algo_encode_wordcount (hlen : wl.length = 2048) (hH : ∀ x, (H x).length = 32)
    (ent : Bytes) (h : ent.length = 32) :
    ∃ ws, algoEncode H wl ent = .ok ws ∧ ws.length = 25 := by
  exact ⟨_, algoEncode_ok H wl hlen ent h (by rw [hH]; omega), by simp⟩

theorem algo_encode_bad_length (ent : Bytes) (h : ent.length ≠ 32) :
    algoEncode H wl ent = .error .value := by
  unfold algoEncode
  simp only [h, ne_eq, not_false_eq_true, if_true]
  rfl

/-- `AlgorandMnemonicDecoder.Decode ∘ Encode` is the identity on 32-byte entropies; of the hash
(SHA-512/256) only the output length is used -/
theorem algo_decode_encode (hlen : wl.length = 2048) (hnd : wl.Nodup)
    (hH : ∀ x, (H x).length = 32) (ent : Bytes) (h : ent.length = 32) :
    (algoEncode H wl ent >>= algoDecode H langs (some wl)) = .ok ent := by
  have hH2 : ∀ x, 2 ≤ (H x).length := fun x => by rw [hH]; omega
  have hidx := algoIdxs_lt (Bytes.toNatLE ent)
    (Nat.mod_lt (Bytes.toNatLE ((H ent).take 2)) (show 0 < 2048 by omega))
  rw [algoEncode_ok H wl hlen ent h (hH2 _), ok_bind, algoDecode_eq, if_neg (by simp), pickLang_some,
    ok_bind, mapM_wordIdx_map wl hnd _ (by rw [hlen]; exact hidx), ok_bind]
  exact (algoTail_ok_iff H hH2 _ (by simp) hidx ent).mpr ⟨h, rfl⟩

/-- canonicity: a phrase `AlgorandMnemonicDecoder.Decode` accepts is exactly the encoding of its
decoding.  This needs the decoder's check that the 33rd byte is zero: 24 words carry 264 bits. -/
theorem algo_decode_canonical (hlen : wl.length = 2048) (hH : ∀ x, (H x).length = 32)
    (ws : List Nat) (e : Bytes) (h : algoDecode H langs (some wl) ws = .ok e) :
    e.length = 32 ∧ algoEncode H wl e = .ok ws := by
  have hH2 : ∀ x, 2 ≤ (H x).length := fun x => by rw [hH]; omega
  rw [algoDecode_eq] at h
  by_cases hcount : ws.length ≠ 25
  · rw [if_pos hcount] at h; cases h
  rw [if_neg hcount, pickLang_some, ok_bind, bind_eq_ok_iff] at h
  obtain ⟨idxs, hidxs, h⟩ := h
  obtain ⟨hl, hlt, hws⟩ := mapM_wordIdx_ok wl ws idxs hidxs
  obtain ⟨he, hidx⟩ := (algoTail_ok_iff H hH2 idxs (by omega)
    (fun i hi => by have := hlt i hi; omega) e).mp h
  exact ⟨he, by rw [algoEncode_ok H wl hlen e he (hH2 _), ← hidx, hws]⟩

/-- what the decoder does, in arithmetic terms -/
theorem algo_decode_eq (hlen : wl.length = 2048) (ws : List Nat) :
    algoDecode H langs (some wl) ws =
      if ws.length ≠ 25 then .error .value else
        ws.mapM (wordIdx wl) >>= fun idxs =>
          if 2 ^ 256 ≤ Nat.ofDigits 2048 (dropLast idxs 1) then .error .value
          else algoChecksumIdx H (Bytes.ofNatLE 32 (Nat.ofDigits 2048 (dropLast idxs 1))) >>= fun ck =>
            if some ck ≠ idxs.getLast? then .error .checksum
            else .ok (Bytes.ofNatLE 32 (Nat.ofDigits 2048 (dropLast idxs 1))) := by
  rw [algoDecode_eq]
  by_cases hcount : ws.length ≠ 25
  · rw [if_pos hcount, if_pos hcount]
  rw [if_neg hcount, if_neg hcount, pickLang_some, ok_bind]
  cases hidxs : ws.mapM (wordIdx wl) with
  | error e => rfl
  | ok idxs =>
    obtain ⟨hl, hlt, _⟩ := mapM_wordIdx_ok wl ws idxs hidxs
    rw [ok_bind, ok_bind, algoTail_eq H idxs (by omega) (fun i hi => by have := hlt i hi; omega),
      valLE_eq_ofDigits]
    rfl

/-- `Decode` raises only `ValueError` / `MnemonicChecksumError` (the `.assert` branches of
`ConvertBits` and of the checksum are dead, no `IndexError`) -/
theorem algo_decode_errors (hH : ∀ x, (H x).length = 32) (lang : Option (List Nat))
    (hlang : ∀ l, lang = some l → l.length ≤ 2048) (hlangs : ∀ l ∈ langs, l.length ≤ 2048)
    (ws : List Nat) (e : Err) (h : algoDecode H langs lang ws = .error e) :
    e = .value ∨ e = .checksum := by
  have hH2 : ∀ x, 2 ≤ (H x).length := fun x => by rw [hH]; omega
  rw [algoDecode_eq] at h
  by_cases hcount : ws.length ≠ 25
  · rw [if_pos hcount] at h; cases h; exact Or.inl rfl
  rw [if_neg hcount, bind_eq_error_iff] at h
  rcases h with h | ⟨l, hl, h⟩
  · exact Or.inl (pickLang_error h)
  have hl2048 : l.length ≤ 2048 := (pickLang_ok hl).elim (hlang l) (hlangs l)
  rw [bind_eq_error_iff] at h
  rcases h with h | ⟨idxs, hidxs, h⟩
  · exact Or.inl (mapM_wordIdx_error l ws e h).1
  obtain ⟨hl, hlt, _⟩ := mapM_wordIdx_ok l ws idxs hidxs
  exact algoTail_error hH2 (by omega)
    (fun i hi => by have := hlt i hi; omega) h

/-- with no language given, a 25-word phrase is decoded in the language `_FindLanguageGeneric`
finds -/
theorem algo_decode_autodetect (ws : List Nat) (hcount : ws.length = 25) :
    algoDecode H langs none ws =
      (findLanguage langs ws >>= fun l => algoDecode H langs (some l) ws) := by
  rw [algoDecode_eq, if_neg (by omega)]
  unfold pickLang
  simp only []
  cases hf : findLanguage langs ws with
  | error e => rfl
  | ok l => rw [ok_bind, ok_bind, algoDecode_eq, if_neg (by omega)]; rfl

theorem algo_decode_bad_count (lang : Option (List Nat)) (ws : List Nat) (h : ws.length ≠ 25) :
    algoDecode H langs lang ws = .error .value := by
  rw [algoDecode_eq, if_pos h]

theorem algo_decode_unknown_word (ws : List Nat) (hw : ∃ w ∈ ws, w ∉ wl) :
    algoDecode H langs (some wl) ws = .error .value := by
  rw [algoDecode_eq]
  by_cases hcount : ws.length ≠ 25
  · rw [if_pos hcount]
  · rw [if_neg hcount, pickLang_some, ok_bind, mapM_wordIdx_of_not_mem wl ws hw]; rfl

/-- `Encode` raises only `ValueError` -/
theorem algo_encode_errors (hlen : wl.length = 2048) (hH : ∀ x, (H x).length = 32) (ent : Bytes)
    (e : Err) (h : algoEncode H wl ent = .error e) : e = .value := by
  by_cases hl : ent.length = 32
  · obtain ⟨ws, hws, _⟩ := algo_encode_wordcount H wl hlen hH ent hl
    rw [hws] at h; cases h
  · rw [algo_encode_bad_length H wl ent hl] at h; cases h; rfl

end Algorand

section ElectrumV2
variable (langs : List (List Nat)) (wl : List Nat)

/-- `ElectrumV2EntropyGenerator.AreEntropyBitsEnough` holds of the values with 12 or 24 digits in
base 2048 -/
theorem v2_bits_enough_iff (v : Nat) :
    v2BitsEnough v = true ↔ (2048 ^ 11 ≤ v ∧ v < 2048 ^ 12) ∨ (2048 ^ 23 ≤ v ∧ v < 2048 ^ 24) := by
  rw [pow2048_11, pow2048_12, pow2048_23, pow2048_24]; exact v2BitsEnough_iff v

/-- the encoder succeeds exactly on values with enough bits (`v2_encode_errors`: `ValueError`
otherwise) -/
theorem v2_encode_ok_iff (hlen : wl.length = 2048) (ent : Bytes) :
    (∃ ws, electrumV2EncodeIdx wl ent = .ok ws) ↔ v2BitsEnough (Bytes.toNatBE ent) = true :=
  ⟨fun ⟨_, h⟩ => (v2Encode_ok (by omega) h).1,
    fun hb => ⟨_, by rw [v2Encode_eq wl (by omega), if_pos hb]⟩⟩

theorem v2_encode_errors (hlen : wl.length = 2048) (ent : Bytes) (e : Err)
    (h : electrumV2EncodeIdx wl ent = .error e) :
    e = .value ∧ v2BitsEnough (Bytes.toNatBE ent) = false := by
  rw [v2Encode_eq wl (by omega)] at h
  by_cases hb : v2BitsEnough (Bytes.toNatBE ent) = true
  · rw [if_pos hb] at h; cases h
  · rw [if_neg hb] at h; cases h; exact ⟨rfl, by simpa using hb⟩

theorem v2_encode_wordcount (hlen : wl.length = 2048) (ent : Bytes) (ws : List Nat)
    (h : electrumV2EncodeIdx wl ent = .ok ws) : ws.length = 12 ∨ ws.length = 24 := by
  obtain ⟨hb, rfl⟩ := v2Encode_ok (by omega) h
  rw [List.length_map, hlen]
  exact digitsLE_length_of_bits hb

/-- the decoder reads the words as little-endian digits in base `wl.length` and returns the minimal
big-endian bytes of the value -/
theorem v2_decode_ok_iff (ws : List Nat) (e : Bytes) :
    electrumV2DecodeIdx langs (some wl) ws = .ok e ↔
      (∀ w ∈ ws, w ∈ wl) ∧
      e = toBytesAuto (ofDigitsBE wl.length ((ws.map (fun w => wl.idxOf w)).reverse)) := by
  rw [v2Decode_some]
  by_cases hall : ∀ w ∈ ws, w ∈ wl
  · rw [if_pos hall]
    exact ⟨fun h => ⟨hall, (Except.ok.inj h).symm⟩, fun ⟨_, he⟩ => by rw [he]⟩
  · rw [if_neg hall]
    exact ⟨nofun, fun ⟨h, _⟩ => absurd h hall⟩

/-- round trip through the value: the decoder returns the minimal big-endian bytes, so leading
zero bytes of `ent` are dropped -/
theorem v2_decode_encode (hlen : wl.length = 2048) (hnd : wl.Nodup) (ent : Bytes) (ws : List Nat)
    (h : electrumV2EncodeIdx wl ent = .ok ws) :
    electrumV2DecodeIdx langs (some wl) ws = .ok (toBytesAuto (Bytes.toNatBE ent)) := by
  obtain ⟨-, rfl⟩ := v2Encode_ok (by omega) h
  have hlt := digitsLE_lt wl.length (by omega) (Bytes.toNatBE ent)
  rw [v2Decode_some, if_pos (getD_mem_of_mem_map hlt), map_idxOf_map_getD hnd hlt]
  unfold digitsLE
  rw [List.reverse_reverse, ofDigitsBE_digitsBE _ (by omega)]

/-- the round trip gives back `ent` itself when it has no leading zero byte -/
theorem v2_decode_encode_minimal (hlen : wl.length = 2048) (hnd : wl.Nodup) (ent : Bytes)
    (ws : List Nat) (h : electrumV2EncodeIdx wl ent = .ok ws) (h0 : ent.head? ≠ some 0) :
    electrumV2DecodeIdx langs (some wl) ws = .ok ent := by
  rw [v2_decode_encode langs wl hlen hnd ent ws h]
  have hb := (v2_encode_ok_iff wl hlen ent).mp ⟨ws, h⟩
  have hv : Bytes.toNatBE ent ≠ 0 := by
    intro hz; rw [hz] at hb; exact absurd hb (by decide)
  rw [toBytesAuto_of_ne_zero hv, natToBytesMin_toNatBE]
  congr 1
  cases ent with
  | nil => rfl
  | cons a t =>
    have : (a == 0) = false := by
      apply Bool.eq_false_iff.mpr
      intro e; apply h0; simp [eq_of_beq e]
    simp [this]

/-- decoder errors: only `ValueError`, whatever the language argument -/
theorem v2_decode_errors (lang : Option (List Nat)) (ws : List Nat) (e : Err)
    (h : electrumV2DecodeIdx langs lang ws = .error e) : e = .value := by
  rw [v2Decode_eq, bind_eq_error_iff] at h
  rcases h with h | ⟨l, _, h⟩
  · exact pickLang_error h
  rw [bind_eq_error_iff] at h
  rcases h with h | ⟨idxs, _, h⟩
  · exact (mapM_wordIdx_error l ws e h).1
  · cases h

/-- with no language given, the phrase is decoded in the language `_FindLanguageGeneric` finds -/
theorem v2_decode_autodetect (ws : List Nat) :
    electrumV2DecodeIdx langs none ws =
      (findLanguage langs ws >>= fun l => electrumV2DecodeIdx langs (some l) ws) := by
  rw [v2Decode_eq]
  unfold pickLang
  simp only []
  cases hf : findLanguage langs ws with
  | error e => rfl
  | ok l => rw [ok_bind, ok_bind, v2Decode_eq]; rfl

theorem v2_decode_unknown_word (ws : List Nat) (hw : ∃ w ∈ ws, w ∉ wl) :
    electrumV2DecodeIdx langs (some wl) ws = .error .value := by
  rw [v2Decode_eq, pickLang_some, ok_bind, mapM_wordIdx_of_not_mem wl ws hw]; rfl

/-- canonicity: an accepted phrase whose value has enough bits re-encodes to itself provided its
last word is not the word of index 0.  Without the proviso the statement is false, see
`v2_noncanonical_exists`. -/
theorem v2_decode_canonical_of_bits (hlen : wl.length = 2048) (ws : List Nat) (e : Bytes)
    (h : electrumV2DecodeIdx langs (some wl) ws = .ok e)
    (hb : v2BitsEnough (Bytes.toNatBE e) = true)
    (hlast : ∀ w, ws.getLast? = some w → wl.idxOf w ≠ 0) :
    electrumV2EncodeIdx wl e = .ok ws := by
  obtain ⟨hall, rfl⟩ := (v2_decode_ok_iff langs wl ws e).mp h
  have hl0 : (ws.map (wl.idxOf ·)).getLast? ≠ some 0 := by
    rw [List.getLast?_map]
    intro hc
    obtain ⟨w, hw, hz⟩ := Option.map_eq_some_iff.mp hc
    exact hlast w hw hz
  rw [v2Encode_eq wl (by omega), if_pos hb, toNatBE_toBytesAuto,
    digitsLE_ofDigitsBE_reverse _ (by omega) _ (idxOf_lt_of_mem_map hall) hl0,
    map_getD_map_idxOf hall]

/-- the exact condition for an accepted phrase to be the encoding of its decoding -/
theorem v2_decode_canonical_iff (hlen : wl.length = 2048) (hnd : wl.Nodup) (ws : List Nat)
    (e : Bytes) (h : electrumV2DecodeIdx langs (some wl) ws = .ok e) :
    electrumV2EncodeIdx wl e = .ok ws ↔
      v2BitsEnough (Bytes.toNatBE e) = true ∧ ∀ w, ws.getLast? = some w → wl.idxOf w ≠ 0 := by
  constructor
  · intro henc
    obtain ⟨hb, hws⟩ := v2Encode_ok (by omega) henc
    refine ⟨hb, fun w hw hz => ?_⟩
    -- the last word is the entry at the most significant digit, which is not zero
    rw [hws, List.getLast?_map] at hw
    obtain ⟨d, hd, rfl⟩ := Option.map_eq_some_iff.mp hw
    rw [idxOf_getD_of_nodup hnd
      (digitsLE_lt wl.length (by omega) _ d (List.mem_of_getLast? hd))] at hz
    exact digitsLE_getLast_ne_zero wl.length (by omega) _ (hz ▸ hd)
  · rintro ⟨hb, hlast⟩
    exact v2_decode_canonical_of_bits langs wl hlen ws e h hb hlast

/-- when the last word has index 0 the decoded value has fewer base-2048 digits than the phrase
has words -/
theorem v2_last_zero_value_lt (hlen : wl.length = 2048) (ws : List Nat) (e : Bytes) (w : Nat)
    (h : electrumV2DecodeIdx langs (some wl) ws = .ok e)
    (hw : ws.getLast? = some w) (hz : wl.idxOf w = 0) :
    Bytes.toNatBE e < 2048 ^ (ws.length - 1) := by
  obtain ⟨hall, rfl⟩ := (v2_decode_ok_iff langs wl ws e).mp h
  have hlast : (ws.map (wl.idxOf ·)).getLast? = some 0 := by
    rw [List.getLast?_map, hw, Option.map_some, hz]
  have hsplit : (ws.map (wl.idxOf ·)).dropLast ++ [0] = ws.map (wl.idxOf ·) :=
    List.dropLast_append_getLast? 0 (by simp [hlast])
  rw [toNatBE_toBytesAuto, ← hsplit, List.reverse_append, List.reverse_singleton,
    List.singleton_append, ofDigitsBE_cons_zero, hlen]
  have := ofDigitsBE_lt 2048 (ws.map (wl.idxOf ·)).dropLast.reverse (by
    intro d hd
    have := idxOf_lt_of_mem_map hall d (List.mem_of_mem_dropLast (List.mem_reverse.mp hd))
    omega)
  simpa using this

/-- an accepted phrase whose last word has index 0 is not the encoding of its decoding -/
theorem v2_last_zero_not_reencodable (hlen : wl.length = 2048) (hnd : wl.Nodup) (ws : List Nat)
    (e : Bytes) (w : Nat) (h : electrumV2DecodeIdx langs (some wl) ws = .ok e)
    (hw : ws.getLast? = some w) (hz : wl.idxOf w = 0) :
    electrumV2EncodeIdx wl e ≠ .ok ws := by
  intro henc
  exact ((v2_decode_canonical_iff langs wl hlen hnd ws e h).mp henc).2 w hw hz

/-- appending the word of index 0 to an accepted phrase gives another accepted phrase with the
same decoding: `electrumV2DecodeIdx` is not injective -/
theorem v2_append_zero_word (hlen : wl.length = 2048) (hnd : wl.Nodup) (ws : List Nat) (e : Bytes)
    (h : electrumV2DecodeIdx langs (some wl) ws = .ok e) :
    electrumV2DecodeIdx langs (some wl) (ws ++ [wl.getD 0 0]) = .ok e := by
  obtain ⟨hall, rfl⟩ := (v2_decode_ok_iff langs wl ws e).mp h
  refine (v2_decode_ok_iff langs wl _ _).mpr ⟨List.forall_mem_append.mpr
    ⟨hall, fun w hw => List.mem_singleton.mp hw ▸ getD_mem (by omega)⟩, ?_⟩
  rw [List.map_append, List.map_singleton, idxOf_getD_of_nodup hnd (by omega),
    List.reverse_append, List.reverse_singleton, List.singleton_append, ofDigitsBE_cons_zero]

/-- canonicity fails without the condition on the last word: the encoding of `2^121` followed by
the word of index 0 is accepted, its value has enough bits, and it is not the encoding of its
decoding -/
theorem v2_noncanonical_exists (hlen : wl.length = 2048) (hnd : wl.Nodup) :
    ∃ (ws : List Nat) (e : Bytes), electrumV2DecodeIdx langs (some wl) ws = .ok e ∧
      v2BitsEnough (Bytes.toNatBE e) = true ∧ electrumV2EncodeIdx wl e ≠ .ok ws := by
  have hb : v2BitsEnough (Bytes.toNatBE (toBytesAuto (2 ^ 121))) = true := by
    rw [toNatBE_toBytesAuto, v2BitsEnough_iff]
    exact Or.inl ⟨Nat.le_refl _, Nat.pow_lt_pow_right (by omega) (by omega)⟩
  obtain ⟨ws, hws⟩ := (v2_encode_ok_iff wl hlen _).mpr hb
  have hdec := v2_decode_encode langs wl hlen hnd _ ws hws
  rw [toNatBE_toBytesAuto] at hdec
  refine ⟨ws ++ [wl.getD 0 0], toBytesAuto (2 ^ 121),
    v2_append_zero_word langs wl hlen hnd ws _ hdec, hb, ?_⟩
  rw [hws]
  intro he
  have := congrArg List.length (Except.ok.inj he)
  simp at this

end ElectrumV2

end BipVerif.Props.C17
