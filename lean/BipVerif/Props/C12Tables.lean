/-
C12 — the curve parameters of the library are the ones the model's arithmetic is proved about.
`Gen/Curves.lean` is regenerated on every run from the library's public accessors
(`EllipticCurveGetter.FromType(t).Order()`, `.Generator()`, the library's own point arithmetic for
`2G`, `3G`, `(n-1)G`, the key-class lengths).  The theorems below compare that table with `Prim/`:
same order, same generator, and the library's `2G`, `3G`, `(n-1)G` are the model's — so a changed
order constant, generator coordinate, or a point adapter that adds or multiplies wrongly on these
inputs breaks a kernel-checked theorem (the group-law theorems of `C12Group`/`C12Ed` then say what
the right value is for every other input).
-/
import BipVerif.Gen.Curves
import BipVerif.Prim.Weierstrass
import BipVerif.Prim.Edwards

namespace BipVerif.Props.C12Tables
open BipVerif BipVerif.Prim

/-- what the model says a table row must be -/
def wRow (name : String) (c : WCurve) : String × Nat × List (Nat × Nat) × Nat × Nat × Nat :=
  let xy : WPoint → Nat × Nat := fun P => match P with | .aff x y => (x, y) | .inf => (0, 0)
  (name, c.n, [xy c.G, xy (c.mulG 2), xy (c.mulG 3), xy (c.neg c.G)], 32, 33, 65)

def edRow (name : String) (pubLen : Nat) : String × Nat × List (Nat × Nat) × Nat × Nat × Nat :=
  let xy : EdPoint → Nat × Nat := fun P => (P.x, P.y)
  (name, edL, [xy edBase, xy (edMulBase 2), xy (edMulBase 3), xy (edNeg edBase)], 32, pubLen, pubLen)

/-- every curve row of the library equals the model's (order, G, 2G, 3G, −G = (n−1)G, lengths);
the ed25519 public-key classes carry a `0x00` prefix byte (33) except Monero's (32); extended
(Khovratovich–Law) private keys are 64 bytes -/
theorem curves_eq_model :
    Gen.curves =
      [edRow "ED25519" 33, edRow "ED25519_BLAKE2B" 33,
       (let r := edRow "ED25519_KHOLAW" 33; (r.1, r.2.1, r.2.2.1, 64, r.2.2.2.2.1, r.2.2.2.2.2)),
       edRow "ED25519_MONERO" 32, wRow "NIST256P1" nist256p1, wRow "SECP256K1" secp256k1] := by
  decide +kernel

/-- `(n-1)·G = −G` in the model too (so the fourth point of each row is a genuine multiple) -/
theorem neg_G_is_multiple :
    secp256k1.mulG (secp256k1.n - 1) = secp256k1.neg secp256k1.G ∧
    nist256p1.mulG (nist256p1.n - 1) = nist256p1.neg nist256p1.G ∧
    edMulBase (edL - 1) = edNeg edBase := by
  decide +kernel

end BipVerif.Props.C12Tables
