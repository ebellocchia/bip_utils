/-
C12 — the group-law half: the executable short-Weierstrass arithmetic of `Prim/Weierstrass.lean`
(the code the model driver runs and that is compared with coincurve / python-ecdsa on every run)
is the elliptic-curve group law of Mathlib (`WeierstrassCurve.Affine.Point`, an `AddCommGroup`)
on secp256k1 and NIST P-256: affine addition, Jacobian double-and-add scalar multiplication,
`k ↦ k·G`, the order of `G`, and SEC1 compression followed by decoding.  Primality of the field primes and
group orders of the two curves, and of `2^255 - 19`, is proved by Pratt certificates (`Lemmas/Pratt.lean`),
`n·G = ∞` by kernel evaluation.  No hypothesis about the curve arithmetic remains for these two curves.
Proofs in `BipVerif/Lemmas/WGroup/*`.
-/
import BipVerif.Lemmas.WGroup

namespace BipVerif.Props.C12Group
open BipVerif BipVerif.Prim BipVerif.Model BipVerif.WGroup

theorem secp256k1_p_prime : Nat.Prime secp256k1.p := Pratt.secp256k1_p_prime
theorem secp256k1_n_prime : Nat.Prime secp256k1.n := Pratt.secp256k1_n_prime
theorem nist256p1_p_prime : Nat.Prime nist256p1.p := Pratt.nist256p1_p_prime
theorem nist256p1_n_prime : Nat.Prime nist256p1.n := Pratt.nist256p1_n_prime
theorem p25519_prime : Nat.Prime p25519 := Pratt.p25519_prime

/-- the binary square-and-multiply of `Prim/Modular.lean` is modular exponentiation -/
theorem powMod_spec (b e m : ℕ) : powMod b e m ≡ b ^ e [MOD m] := WGroup.powMod_modEq b e m

/-- the Fermat inverse is the field inverse (`0 ↦ 0`) -/
theorem invMod_spec {p : ℕ} [Fact p.Prime] (hp2 : 2 < p) (a : ℕ) :
    ((invMod a p : ℕ) : ZMod p) = (a : ZMod p)⁻¹ := cast_invMod hp2 a

/-! The theorems about a general `c` hold for any curve with prime `p > 2` and non-zero discriminant (`Valid c`);
`toM` maps on-curve model points injectively into Mathlib's group. -/

theorem toM_injective {c : WCurve} [Valid c] {P Q : WPoint} (hP : c.onCurve P = true)
    (hQ : c.onCurve Q = true) (h : toM (c := c) P = toM Q) : P = Q := toM_injOn hP hQ h

/-- `WCurve.add` stays on the curve and is Mathlib's `+` -/
theorem add_is_group_add {c : WCurve} [Valid c] {P Q : WPoint} (hP : c.onCurve P = true)
    (hQ : c.onCurve Q = true) :
    c.onCurve (c.add P Q) = true ∧ toM (c := c) (c.add P Q) = toM P + toM Q :=
  add_correct hP hQ

/-- the Jacobian double-and-add `WCurve.mul` stays on the curve and is `k • ·`, for every `k : ℕ` -/
theorem mul_is_nsmul {c : WCurve} [Valid c] (k : ℕ) {P : WPoint} (hP : c.onCurve P = true) :
    c.onCurve (c.mul k P) = true ∧ toM (c := c) (c.mul k P) = k • toM P :=
  mul_correct k hP

/-- the public point of the scalar `k` is `k·G` -/
theorem mulG_is_nsmul_G {c : WCurve} [Valid c] (k : ℕ) (hG : c.onCurve c.G = true) :
    toM (c := c) (c.mulG k) = k • toM c.G := toM_mulG k hG

/-! `toM` being injective on curve points, the model's operations satisfy the group laws themselves. -/

theorem add_comm' {c : WCurve} [Valid c] {P Q : WPoint} (hP : c.onCurve P = true)
    (hQ : c.onCurve Q = true) : c.add P Q = c.add Q P :=
  toM_injOn (onCurve_add hP hQ) (onCurve_add hQ hP) (by rw [toM_add hP hQ, toM_add hQ hP, add_comm])

theorem add_assoc' {c : WCurve} [Valid c] {P Q R : WPoint} (hP : c.onCurve P = true)
    (hQ : c.onCurve Q = true) (hR : c.onCurve R = true) :
    c.add (c.add P Q) R = c.add P (c.add Q R) :=
  toM_injOn (onCurve_add (onCurve_add hP hQ) hR) (onCurve_add hP (onCurve_add hQ hR))
    (by rw [toM_add (onCurve_add hP hQ) hR, toM_add hP hQ, toM_add hP (onCurve_add hQ hR),
          toM_add hQ hR, add_assoc])

theorem mul_add_scalar {c : WCurve} [Valid c] (a b : ℕ) {P : WPoint} (hP : c.onCurve P = true) :
    c.mul (a + b) P = c.add (c.mul a P) (c.mul b P) :=
  toM_injOn (onCurve_mul (a + b) hP) (onCurve_add (onCurve_mul a hP) (onCurve_mul b hP))
    (by rw [toM_mul (a + b) hP, toM_add (onCurve_mul a hP) (onCurve_mul b hP), toM_mul a hP,
          toM_mul b hP, add_nsmul])

theorem mul_mul_scalar {c : WCurve} [Valid c] (a b : ℕ) {P : WPoint} (hP : c.onCurve P = true) :
    c.mul a (c.mul b P) = c.mul (a * b) P :=
  toM_injOn (onCurve_mul a (onCurve_mul b hP)) (onCurve_mul (a * b) hP)
    (by rw [toM_mul a (onCurve_mul b hP), toM_mul b hP, toM_mul (a * b) hP, mul_comm a b, mul_nsmul])

theorem secp256k1_valid : Valid secp256k1 := inferInstance
theorem nist256p1_valid : Valid nist256p1 := inferInstance

theorem secp256k1_G_onCurve : secp256k1.onCurve secp256k1.G = true := WGroup.secp256k1_G_onCurve
theorem nist256p1_G_onCurve : nist256p1.onCurve nist256p1.G = true := WGroup.nist256p1_G_onCurve

/-- `G` generates a group of order exactly `n`: `k·G = ∞ ↔ n ∣ k` -/
theorem secp256k1_order (k : ℕ) : k • secp256k1G = 0 ↔ secp256k1.n ∣ k := secp256k1_hasOrder k

theorem nist256p1_order (k : ℕ) : k • nist256p1G = 0 ↔ nist256p1.n ∣ k := nist256p1_hasOrder k

/-- in terms of the executable model only: `k·G` is the point at infinity exactly for multiples of `n` -/
theorem secp256k1_mulG_inf_iff (k : ℕ) : secp256k1.mulG k = .inf ↔ secp256k1.n ∣ k :=
  mulG_inf_iff WGroup.secp256k1_G_onCurve secp256k1_hasOrder k

theorem nist256p1_mulG_inf_iff (k : ℕ) : nist256p1.mulG k = .inf ↔ nist256p1.n ∣ k :=
  mulG_inf_iff WGroup.nist256p1_G_onCurve nist256p1_hasOrder k

/-- SEC1: decoding the compressed encoding of an on-curve point returns that point (`p ≡ 3 mod 4`;
correctness of the square root `a^((p+1)/4)` and of the parity selection) -/
theorem decode_compress {c : WCurve} [Valid c] (h34 : c.p % 4 = 3) {Q : WPoint} {P : Bytes}
    (hQ : c.onCurve Q = true) (h : c.compress Q = some P) : c.decode P = some Q :=
  decode_of_compress h34 hQ h

/-! The key layer of the model is a faithful encoding of the group, so `EcdsaLaw` and `EcdsaInfLaw`, which the
derivation theorems of `Props/C04.lean` take as hypotheses, hold for both curves. -/

theorem groupModel_secp256k1 :
    GroupModel.EcdsaGroupModel .secp256k1 secp256k1G (enc secp256k1) := ecdsaGroupModel_secp256k1
theorem groupModel_nist256p1 :
    GroupModel.EcdsaGroupModel .nist256p1 nist256p1G (enc nist256p1) := ecdsaGroupModel_nist256p1

/-- every valid private key has a public key (never the point at infinity) -/
theorem secp256k1_pub_exists (k : Bytes) (hv : privValid .secp256k1 k = true) :
    ∃ P, pubOfPriv .secp256k1 k = some P := groupModel_secp256k1.pub_exists rfl hv

theorem ecdsaLaw_secp256k1 : EcdsaLaw .secp256k1 :=
  GroupModel.ecdsaLaw_of_group_model groupModel_secp256k1
theorem ecdsaLaw_nist256p1 : EcdsaLaw .nist256p1 :=
  GroupModel.ecdsaLaw_of_group_model groupModel_nist256p1
theorem ecdsaInfLaw_secp256k1 : EcdsaInfLaw .secp256k1 :=
  GroupModel.ecdsaInfLaw_of_group_model groupModel_secp256k1
theorem ecdsaInfLaw_nist256p1 : EcdsaInfLaw .nist256p1 :=
  GroupModel.ecdsaInfLaw_of_group_model groupModel_nist256p1

/-- the public key of a valid private key is accepted by the public-key class as it is -/
theorem secp256k1_pub_canonical (k : Bytes) (P : Bytes) (hv : privValid .secp256k1 k = true)
    (h : pubOfPriv .secp256k1 k = some P) : pubFromBytes .secp256k1 P = some P :=
  ecdsaLaw_secp256k1.pub_canon k P hv h

theorem nist256p1_pub_canonical (k : Bytes) (P : Bytes) (hv : privValid .nist256p1 k = true)
    (h : pubOfPriv .nist256p1 k = some P) : pubFromBytes .nist256p1 P = some P :=
  ecdsaLaw_nist256p1.pub_canon k P hv h

example : secp256k1.mulG 1 = secp256k1.G := by decide +kernel
example : secp256k1.mulG 2 = secp256k1.add secp256k1.G secp256k1.G := by decide +kernel
example : nist256p1.mulG 2 = nist256p1.add nist256p1.G nist256p1.G := by decide +kernel

end BipVerif.Props.C12Group
