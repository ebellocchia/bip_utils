/-
C03 — "every key handed out is valid for its curve", public half, without a key-layer hypothesis:
the public key stored in a privately derived SLIP-0010 child on secp256k1 / P-256 is a point the
public-key class accepts unchanged, and a valid private key always has a public key, `k·G` never being the
point at infinity for `0 < k < n` (both from the group model of `Props/C12Group.lean`).
-/
import BipVerif.Props.C03
import BipVerif.Props.C04Group

namespace BipVerif.Props.C03Group
open BipVerif BipVerif.Prim BipVerif.Model

/-- the public key of every private child re-validates to itself -/
theorem child_pub_valid (nd : Node) (idx : Nat) (c : Node) (hp : nd.priv.isSome = true)
    (hc : c.curve.isEcdsa = true) (h : slip10ChildKey nd idx = .ok c) :
    pubFromBytes c.curve c.pub = some c.pub := by
  obtain ⟨k, _, hv, hpub⟩ := C03.child_sound nd idx c hp h
  exact (C04Group.ecdsaLaw_of_isEcdsa _ hc).1.pub_canon k c.pub hv hpub

/-- a valid private key always has a public key (both ECDSA curves): `k·G ≠ ∞` for `0 < k < n` -/
theorem pub_exists (ct : CurveT) (hc : ct.isEcdsa = true) (k : Bytes) (hv : privValid ct k = true) :
    ∃ P, pubOfPriv ct k = some P := by
  obtain rfl | rfl := (CurveT.isEcdsa_iff ct).mp hc
  · exact C12Group.groupModel_secp256k1.pub_exists rfl hv
  · exact C12Group.groupModel_nist256p1.pub_exists rfl hv

end BipVerif.Props.C03Group
