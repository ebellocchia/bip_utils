/-
C15 — memoisation (`functools.lru_cache`) and lazy singletons are transparent.

* sequential: a memoised method on an object whose state is only mutated in ways the body does not
  observe is indistinguishable from the method that always recomputes; a single observable mutation
  is enough to tell them apart (the shape of the stale-cache defects);
* concurrent: under every interleaving of the atomic `lookup / compute / store` steps every finished
  call returns the reference value of the argument it was called with;
* table: every `lru_cache` method of the package (generated list) reads no mutable attribute, up to
  two justified entries; and the package changes no caller-supplied argument in place.
-/
import BipVerif.Lemmas.Memo
import BipVerif.Gen.Caches

namespace BipVerif.Props.C15
open BipVerif.Model.Memo

variable {St Arg Out : Type} [DecidableEq Arg]

/-- Starting from the empty cache, on a history all of whose mutations leave the method's result
unchanged, the memoising machine returns exactly what the always-computing reference machine
returns, call by call. -/
theorem memo_transparent (m : Method St Arg Out) (st : St) (h : List (Op St Arg)) :
    HistoryIndependent m h → runMemo m ⟨st, []⟩ h = runPure m st h :=
  runMemo_eq_runPure m h ⟨st, []⟩ (fun _ _ hc => nomatch hc)

theorem memo_transparent_from (m : Method St Arg Out) (s : MState St Arg Out)
    (h : List (Op St Arg)) (hs : ∀ a o, (a, o) ∈ s.cache → o = m.pureOut s.st a) :
    HistoryIndependent m h → runMemo m s h = runPure m s.st h :=
  runMemo_eq_runPure m h s hs

/-- If a mutation changes the result at some argument, then "call, mutate, call again" tells the
memoising machine from the reference machine. -/
theorem memo_stale_witness (m : Method St Arg Out) (st : St) (f : St → St) (a : Arg)
    (hne : m.pureOut (f st) a ≠ m.pureOut st a) :
    runMemo m ⟨st, []⟩ [.call a, .mutate f, .call a]
      ≠ runPure m st [.call a, .mutate f, .call a] :=
  fun h => hne (eq_of_stale_agree ⟨m.pureOut, id⟩ st f a
    ((runKeyed_id_eq_runMemo m _ ⟨st, []⟩).trans h))

theorem memo_stale_value (m : Method St Arg Out) (st : St) (f : St → St) (a : Arg) :
    runMemo m ⟨st, []⟩ [.call a, .mutate f, .call a]
      = [some (m.pureOut st a), none, some (m.pureOut st a)] :=
  (runKeyed_id_eq_runMemo m _ ⟨st, []⟩).symm.trans (runKeyed_stale ⟨m.pureOut, id⟩ st f a)

/-- A second call with the same argument returns the same answer and leaves the machine state (in
particular the cache) exactly as the first call left it — whatever the cache was. -/
theorem memo_call_idempotent (m : Method St Arg Out) (s : MState St Arg Out) (a : Arg) :
    stepMemo m (stepMemo m s (.call a)).1 (.call a)
      = ((stepMemo m s (.call a)).1, (stepMemo m s (.call a)).2) := by
  obtain ⟨o, ho, hl⟩ := stepMemo_call_lookup m s a
  rw [stepMemo_call_hit m _ hl, ho]

theorem memo_call_twice (m : Method St Arg Out) (s : MState St Arg Out) (a : Arg) :
    ∃ o, runMemo m s [.call a, .call a] = [some o, some o] ∧
      (stepMemo m (stepMemo m s (.call a)).1 (.call a)).1.cache.length
        = (stepMemo m s (.call a)).1.cache.length := by
  obtain ⟨o, ho, hl⟩ := stepMemo_call_lookup m s a
  refine ⟨o, ?_, by rw [stepMemo_call_hit m _ hl]⟩
  rw [runMemo_cons, runMemo_cons, stepMemo_call_hit m _ hl, ho]
  rfl

/-! ### hand-rolled memos keyed by only PART of the argument

`self.m_wif = ...` (one slot, whatever `pub_key_mode` is), `self.m_addrs[index] = ...` (keyed by
`index`, whatever `change` is): the cache is indexed by `key a`, not by `a`.  The static analysis
reports the arguments the key ignores; these theorems say what that report means: the memo is
transparent exactly when the result is a function of the key (`KeyRespects`), and otherwise two
calls that differ only in an ignored argument tell it from the reference. -/

section Keyed

omit [DecidableEq Arg]
variable {K : Type} [DecidableEq K]

/-- If the result is a function of the key, then from the empty cache, on a history whose mutations
the body does not observe, the keyed machine answers exactly like the always-computing reference
machine. -/
theorem keyed_transparent (m : KMethod St Arg K Out) (st : St) (h : List (Op St Arg))
    (hk : KeyRespects m) :
    HistoryIndependent (⟨m.pureOut⟩ : Method St Arg Out) h →
      runKeyed m ⟨st, []⟩ h = runPure ⟨m.pureOut⟩ st h :=
  runKeyed_eq_runPure m hk h ⟨st, []⟩ (fun _ _ hc => nomatch hc)

theorem keyed_transparent_from (m : KMethod St Arg K Out) (s : KState St K Out)
    (h : List (Op St Arg)) (hk : KeyRespects m)
    (hs : ∀ k o, (k, o) ∈ s.cache → ∀ a, m.key a = k → o = m.pureOut s.st a) :
    HistoryIndependent (⟨m.pureOut⟩ : Method St Arg Out) h →
      runKeyed m s h = runPure ⟨m.pureOut⟩ s.st h :=
  runKeyed_eq_runPure m hk h s hs

theorem keyed_stale_value (m : KMethod St Arg K Out) (st : St) (a b : Arg)
    (hab : m.key a = m.key b) :
    runKeyed m ⟨st, []⟩ [.call a, .call b] = [some (m.pureOut st a), some (m.pureOut st a)] :=
  runKeyed_collide m st hab

theorem keyed_agree_imp_eq (m : KMethod St Arg K Out) (st : St) (a b : Arg)
    (hab : m.key a = m.key b)
    (h : runKeyed m ⟨st, []⟩ [.call a, .call b] = runPure ⟨m.pureOut⟩ st [.call a, .call b]) :
    m.pureOut st a = m.pureOut st b := by
  have h' := (runKeyed_collide m st hab).symm.trans (h.trans (runPure_two_calls m st a b))
  exact Option.some.inj (List.cons.inj (List.cons.inj h').2).1

/-- Two arguments with the same key and different results: calling the method on one and then on
the other tells the keyed machine from the reference machine — no mutation needed. -/
theorem keyed_stale_witness (m : KMethod St Arg K Out) (st : St) (a b : Arg)
    (hab : m.key a = m.key b) (hne : m.pureOut st a ≠ m.pureOut st b) :
    runKeyed m ⟨st, []⟩ [.call a, .call b] ≠ runPure ⟨m.pureOut⟩ st [.call a, .call b] :=
  fun h => hne (keyed_agree_imp_eq m st a b hab h)

/-- For a set `F` of available mutations: (the result is a function of the key AND every mutation of
`F` is invisible to the body) iff the keyed machine is transparent on every history built from `F`.
This is `memo_transparent_iff` plus the key clause. -/
theorem keyed_transparent_iff_builtFrom (m : KMethod St Arg K Out) (F : (St → St) → Prop) :
    (KeyRespects m ∧ ∀ f, F f → Independent (⟨m.pureOut⟩ : Method St Arg Out) f) ↔
      ∀ (st : St) (h : List (Op St Arg)), BuiltFrom F h →
        runKeyed m ⟨st, []⟩ h = runPure ⟨m.pureOut⟩ st h := by
  constructor
  · rintro ⟨hk, hF⟩ st h hb
    exact keyed_transparent m st h hk (historyIndependent_of_builtFrom _ F hF h hb)
  · intro hT
    refine ⟨fun st a b hab => ?_, fun f hf st a => ?_⟩
    · exact keyed_agree_imp_eq m st a b hab (hT st _ (builtFrom_map_call F [a, b]))
    · exact eq_of_stale_agree m st f a (hT st _ (builtFrom_stale F hf a))

/-- Without mutations: the result is a function of the key iff the keyed machine is transparent on
every sequence of calls from every state. -/
theorem keyed_transparent_iff (m : KMethod St Arg K Out) :
    KeyRespects m ↔
      ∀ (st : St) (as : List Arg),
        runKeyed m ⟨st, []⟩ (as.map Op.call) = runPure ⟨m.pureOut⟩ st (as.map Op.call) := by
  constructor
  · intro hk st as
    exact (keyed_transparent_iff_builtFrom m fun _ => False).1 ⟨hk, fun _ hf => hf.elim⟩ st _
      (builtFrom_map_call _ as)
  · intro hT st a b hab
    exact keyed_agree_imp_eq m st a b hab (hT st [a, b])

theorem keyed_id_eq_memo [DecidableEq Arg] (f : St → Arg → Out) (st : St) (c : List (Arg × Out))
    (h : List (Op St Arg)) :
    runKeyed (⟨f, id⟩ : KMethod St Arg Arg Out) ⟨st, c⟩ h = runMemo ⟨f⟩ ⟨st, c⟩ h :=
  runKeyed_id_eq_runMemo ⟨f⟩ h ⟨st, c⟩

/-- with this, `keyed_transparent` at `key := id` is `memo_transparent` -/
theorem keyRespects_id (f : St → Arg → Out) : KeyRespects (⟨f, id⟩ : KMethod St Arg Arg Out) :=
  fun st _ _ hab => congrArg (f st) hab

/-- The single-slot memo (`if self.m_x is None: self.m_x = f(arg)`; `K := Unit`) is transparent iff
the result does not depend on the argument. -/
theorem single_slot_transparent_iff (f : St → Arg → Out) :
    (∀ st a b, f st a = f st b) ↔
      ∀ (st : St) (as : List Arg),
        runKeyed (⟨f, fun _ => ()⟩ : KMethod St Arg Unit Out) ⟨st, []⟩ (as.map Op.call)
          = runPure ⟨f⟩ st (as.map Op.call) := by
  rw [← keyed_transparent_iff]
  exact ⟨fun h st a b _ => h st a b, fun h st a b => h st a b rfl⟩

/-- What a report of the static analysis means.  The argument is a pair (kept part, ignored part)
and the key is the kept part: the memo is transparent iff the result does not depend on the ignored
part. -/
theorem ignored_part_transparent_iff {A B : Type} [DecidableEq A] (f : St → A × B → Out) :
    (∀ st x y y', f st (x, y) = f st (x, y')) ↔
      ∀ (st : St) (as : List (A × B)),
        runKeyed (⟨f, Prod.fst⟩ : KMethod St (A × B) A Out) ⟨st, []⟩ (as.map Op.call)
          = runPure ⟨f⟩ st (as.map Op.call) := by
  rw [← keyed_transparent_iff]
  constructor
  · rintro h st ⟨x, y⟩ ⟨x', y'⟩ hxy
    cases (show x = x' from hxy)
    exact h st x y y'
  · intro h st x y y'
    exact h st (x, y) (x, y') rfl

/-- non-vacuity: `GetAddress(change, index)` memoised under `index` only.  The second call
returns the answer of the first. -/
def exampleKeyed : KMethod Unit (Bool × Nat) Nat Nat :=
  ⟨fun _ a => if a.1 then a.2 + 1 else a.2, Prod.snd⟩

example : runKeyed exampleKeyed ⟨(), []⟩ [.call (false, 5), .call (true, 5)] = [some 5, some 5] := by
  decide

example : runPure (⟨exampleKeyed.pureOut⟩ : Method Unit (Bool × Nat) Nat) ()
    [.call (false, 5), .call (true, 5)] = [some 5, some 6] := by
  decide

example : runKeyed exampleKeyed ⟨(), []⟩ [.call (false, 5), .call (true, 5)]
    ≠ runPure ⟨exampleKeyed.pureOut⟩ () [.call (false, 5), .call (true, 5)] :=
  keyed_stale_witness exampleKeyed () (false, 5) (true, 5) rfl (by decide)

example : ¬ KeyRespects exampleKeyed := fun h => absurd (h () (false, 5) (true, 5) rfl) (by decide)

end Keyed

/-- For a set `F` of available mutations: every mutation of `F` is invisible to the body iff the
memoising machine is transparent on every history built from `F` (from every initial state). -/
theorem memo_transparent_iff (m : Method St Arg Out) (F : (St → St) → Prop) :
    (∀ f, F f → Independent m f) ↔
      ∀ (st : St) (h : List (Op St Arg)), BuiltFrom F h → runMemo m ⟨st, []⟩ h = runPure m st h := by
  have h := keyed_transparent_iff_builtFrom (⟨m.pureOut, id⟩ : KMethod St Arg Arg Out) F
  rw [and_iff_right (keyRespects_id m.pureOut)] at h
  simpa only [keyed_id_eq_memo] using h

theorem cstep_inv (m : Method St Arg Out) (st : St) (s : CState Arg Out) (x : Atom Arg) :
    CInv m st s → CInv m st (cstep m st s x) := by
  rw [cinv_iff_exists_sinv, cinv_iff_exists_sinv]
  exact fun ⟨g, hg⟩ => ⟨_, cstep_preserves_sinv m st g s x hg⟩

/-- From the empty cache with all threads idle, after ANY schedule of atomic steps: every cache
entry, every computed-but-not-yet-stored value and every value returned to a finished call is a
value of the reference function (this covers two threads that both miss, both compute and both
store). -/
theorem interleaving_sound (m : Method St Arg Out) (st : St) (sched : List (Atom Arg)) :
    CInv m st (crun m st (cinit : CState Arg Out) sched) :=
  (cinv_iff_exists_sinv m st _).2 ⟨_, crun_sinv m st sched⟩

/-- The finished call returns the value for *its* argument: if after the schedule thread `t` is
`done o`, then `t` did perform a lookup, and `o` is the reference value at the argument `a` of the
last lookup `t` performed (the call that has just finished), whatever the other threads did. -/
theorem done_value (m : Method St Arg Out) (st : St) (sched : List (Atom Arg)) (t : Nat) (o : Out)
    (h : (crun m st (cinit : CState Arg Out) sched).phase t = .done o) :
    ∃ a, lastLookup t sched = some a ∧ o = m.pureOut st a := by
  have := (crun_sinv m st sched).2 t
  rw [h] at this
  exact this

/-- `done_value` without `lastLookup`, for a schedule split at the last lookup of `t` -/
theorem done_value_of_split (m : Method St Arg Out) (st : St) (t : Nat) (a : Arg)
    (pre post : List (Atom Arg)) (hpost : ∀ b, Atom.lookup t b ∉ post) (o : Out)
    (h : (crun m st (cinit : CState Arg Out) (pre ++ Atom.lookup t a :: post)).phase t = .done o) :
    o = m.pureOut st a := by
  obtain ⟨a', ha', ho⟩ := done_value m st _ t o h
  rw [lastLookup_of_split t a pre post hpost] at ha'
  cases ha'
  exact ho

/-- non-vacuity: the model does allow two threads to miss, compute and store the same argument;
the cache then holds the entry twice and both callers hold the reference value -/
theorem double_miss_example (m : Method St Arg Out) (st : St) (a : Arg) :
    let s := crun m st (cinit : CState Arg Out)
      [.lookup 0 a, .lookup 1 a, .compute 0, .compute 1, .store 0, .store 1]
    s.cache = [(a, m.pureOut st a), (a, m.pureOut st a)] ∧
      s.phase 0 = .done (m.pureOut st a) ∧ s.phase 1 = .done (m.pureOut st a) :=
  ⟨rfl, rfl, rfl⟩

theorem computed_value (m : Method St Arg Out) (st : St) (sched : List (Atom Arg)) (t : Nat)
    (a : Arg) (o : Out)
    (h : (crun m st (cinit : CState Arg Out) sched).phase t = .computed a o) :
    lastLookup t sched = some a ∧ o = m.pureOut st a := by
  have := (crun_sinv m st sched).2 t
  rw [h] at this
  exact this

theorem cache_sound (m : Method St Arg Out) (st : St) (sched : List (Atom Arg)) (a : Arg) (o : Out)
    (h : (a, o) ∈ (crun m st (cinit : CState Arg Out) sched).cache) : o = m.pureOut st a :=
  (interleaving_sound m st sched).1 a o h

/-- A lazily initialised singleton is the case `Arg := Unit`: whatever the interleaving, every caller
that has finished got the one value `pureOut st ()`. -/
theorem singleton_value {St Out : Type} (m : Method St Unit Out) (st : St)
    (sched : List (Atom Unit)) (t : Nat) (o : Out)
    (h : (crun m st (cinit : CState Unit Out) sched).phase t = .done o) : o = m.pureOut st () := by
  obtain ⟨a, _, ho⟩ := done_value m st sched t o h
  exact ho

theorem singleton_idempotent {St Out : Type} (m : Method St Unit Out) (st : St)
    (sched sched' : List (Atom Unit)) (t u : Nat) (o o' : Out)
    (h : (crun m st (cinit : CState Unit Out) sched).phase t = .done o)
    (h' : (crun m st (cinit : CState Unit Out) sched').phase u = .done o') : o = o' := by
  rw [singleton_value m st sched t o h, singleton_value m st sched' u o' h']

/-- Entries of `Gen.cachedMethods` whose reachable-mutable-attribute list is not empty but which are
nevertheless pure.

The static analysis resolves the annotated type `BipCoinConf` of `m_coin_conf` to all its
subclasses, two of which (Bitcoin Cash, Litecoin) have address toggles; the Shelley encoders called
here only read `net_tag`, which no toggle changes. -/
def justified : List (String × String) :=
  [("CardanoShelleyPublicKeys", "ToAddress"), ("CardanoShelleyPublicKeys", "ToStakingAddress")]

/-- every memoised method of the package reads no attribute that is ever assigned outside
`__init__`, or is one of the two justified entries -/
theorem table_all_pure : ∀ m ∈ Gen.cachedMethods, m.2.2 = [] ∨ (m.1, m.2.1) ∈ justified := by
  decide +kernel

/-- the library never mutates caller-supplied inputs (static half): the translator found no in-place
change — mutating method call, item assignment, `del x[…]`, `x += [...]` — of a parameter, or of a
local name that is a plain alias of one, anywhere in the package -/
theorem no_argument_mutation : Gen.argMutations = [] := by
  decide

/-- the generator did find the memoised methods (an empty table would make `table_all_pure` vacuous) -/
theorem cached_methods_nonempty : Gen.cachedMethods ≠ [] := by
  decide

end BipVerif.Props.C15
