/-
C16 — Monero wallets: scalar reduction, key derivation from the spend key / seed, sub-address
derivation, watch-only wallets, address codec round trip, error kinds.
`keccak256` and the Edwards arithmetic (`edMulBase`, `edAdd`, `edMul`) are opaque here: no theorem
unfolds them, and none needs a hypothesis about them: the key-canonicity facts (32 bytes, canonical
keys re-validate) follow from the key layer's own definitions.  The only facts used about the
arithmetic are that `edAdd` returns reduced coordinates, that `edMul` reduces its operand, and the
point-by-point check that the eight small-order points fail the subgroup test of `edMulNoclamp`.
The sub-address step `C = a·D` is libsodium's `crypto_scalarmult_ed25519_noclamp` (`edMulNoclamp`):
it refuses a `D` that is the identity or lies outside the prime-order subgroup (`L·D ≠ (0,1)`), and
an identity product.
The lemmas are in `BipVerif/Lemmas/Monero.lean`.
-/
import BipVerif.Lemmas.Monero
import BipVerif.Lemmas.AddrMisc

namespace BipVerif.Props.C16
open BipVerif BipVerif.Prim BipVerif.Model BipVerif.Model.MoneroLemmas

theorem scReduce_lt (b : Bytes) : Bytes.toNatLE (scReduce b) < edL := MoneroLemmas.scReduce_lt b

theorem scReduce_length (b : Bytes) : (scReduce b).length = 32 := MoneroLemmas.scReduce_length b

theorem scReduce_value (b : Bytes) : Bytes.toNatLE (scReduce b) = Bytes.toNatLE b % edL :=
  MoneroLemmas.scReduce_toNatLE b

/-- so the result of `sc_reduce` is always a valid Monero private key -/
theorem scReduce_valid (b : Bytes) : privValid .ed25519Monero (scReduce b) = true :=
  MoneroLemmas.scReduce_valid b

/-- reduction fixes valid keys (so `FromSeed` on a reduced 32-byte seed uses the seed itself) -/
theorem scReduce_fixes_valid (k : Bytes) (h : privValid .ed25519Monero k = true) : scReduce k = k :=
  MoneroLemmas.scReduce_of_valid k h

/-- the private view key is the reduced Keccak-256 of the private spend key -/
theorem view_is_reduced_keccak_of_spend {k : Bytes} {w : XmrWallet} (h : xmrFromSpend k = .ok w) :
    w.privView = scReduce (keccak256 k) ∧ w.privSpend = some k := by
  obtain ⟨_, h2, h3, _, _⟩ := xmrFromSpend_ok h
  exact ⟨h3, h2⟩

/-- the complete success characterisation of `FromPrivateSpendKey` -/
theorem fromSpend_spec {k : Bytes} {w : XmrWallet} (h : xmrFromSpend k = .ok w) :
    privValid .ed25519Monero k = true ∧
    w.privSpend = some k ∧
    w.privView = scReduce (keccak256 k) ∧
    w.pubSpend = edEncode (edMulBase (edNoClampScalar k)) ∧
    w.pubView = edEncode (edMulBase (edNoClampScalar (scReduce (keccak256 k)))) ∧
    edMulBase (edNoClampScalar k) ≠ edIdentity ∧
    edMulBase (edNoClampScalar (scReduce (keccak256 k))) ≠ edIdentity := by
  obtain ⟨h1, h2, h3, h4, h5⟩ := xmrFromSpend_ok h
  obtain ⟨_, a2, a3⟩ := xmrPubOfPriv_ok h4
  rw [h3] at h5
  obtain ⟨_, b2, b3⟩ := xmrPubOfPriv_ok h5
  exact ⟨h1, h2, h3, a3, b3, a2, b2⟩

/-- `FromSeed`: a 32-byte seed is reduced directly, any other seed is hashed first -/
theorem fromSeed_spec (seed : Bytes) :
    xmrFromSeed seed = xmrFromSpend (scReduce (if seed.length = 32 then seed else keccak256 seed)) :=
  rfl

/-- `FromBip44PrivateKey`: the spend key is the reduced Keccak-256 of the BIP-44 private key -/
theorem fromBip44_spec (k : Bytes) : xmrFromBip44Priv k = xmrFromSpend (scReduce (keccak256 k)) := rfl

/-- wallets built from a seed: the spend key is the reduced seed (hash) -/
theorem fromSeed_keys {seed : Bytes} {w : XmrWallet} (h : xmrFromSeed seed = .ok w) :
    w.privSpend = some (scReduce (if seed.length = 32 then seed else keccak256 seed)) ∧
    w.privView = scReduce (keccak256 (scReduce (if seed.length = 32 then seed else keccak256 seed))) := by
  rw [fromSeed_spec] at h
  obtain ⟨h1, h2⟩ := view_is_reduced_keccak_of_spend h
  exact ⟨h2, h1⟩

theorem subaddr_zero_is_primary_keys (w : XmrWallet) :
    xmrSubaddrKeys w 0 0 = .ok (w.pubSpend, w.pubView) := by
  rw [xmrSubaddrKeys_total, if_neg (by omega), if_pos ⟨rfl, rfl⟩]

theorem subaddr_zero_is_primary (w : XmrWallet) (nv snv : Bytes) :
    xmrSubaddress w nv snv 0 0 = xmrPrimaryAddress w nv := by
  unfold xmrSubaddress
  rw [if_pos (by simp)]

/-- indices beyond 32 bits are refused with `ValueError` -/
theorem subaddr_index_range (w : XmrWallet) (minor major : Nat)
    (h : minor > 2 ^ 32 - 1 ∨ major > 2 ^ 32 - 1) :
    xmrSubaddrKeys w minor major = .error .value := by
  rw [xmrSubaddrKeys_total, if_pos h]

theorem subaddress_index_range (w : XmrWallet) (nv snv : Bytes) (minor major : Nat)
    (h : minor > 2 ^ 32 - 1 ∨ major > 2 ^ 32 - 1) :
    xmrSubaddress w nv snv minor major = .error .value := by
  unfold xmrSubaddress
  have h0 : ¬ (decide (minor = 0) && decide (major = 0)) = true := by
    simp only [Bool.and_eq_true, decide_eq_true_eq]; omega
  rw [if_neg h0, subaddr_index_range w minor major h]
  rfl

/-- the derivation for `(major, minor) ≠ (0,0)`:
`m = sc_reduce(keccak("SubAddr\0" ‖ a ‖ le32 major ‖ le32 minor))`, `D = B + m·G`, `C = a·D`.
A successful derivation has moreover checked that `D` is a non-identity point of the prime-order
subgroup (`L·D = (0,1)`), as libsodium's `crypto_scalarmult_ed25519_noclamp` demands. -/
theorem subaddr_keys_spec (w : XmrWallet) (minor major : Nat) (hm : minor ≤ 2 ^ 32 - 1)
    (hM : major ≤ 2 ^ 32 - 1) (hne : ¬ (minor = 0 ∧ major = 0)) {s v : Bytes}
    (h : xmrSubaddrKeys w minor major = .ok (s, v)) :
    ∃ b, edDecodeLenient w.pubSpend = some b ∧
      let m := Bytes.toNatLE (scReduce (keccak256 (subaddrMsg w.privView major minor)))
      m ≠ 0 ∧ m < edL ∧
      s = edEncode (edAdd b (edMulBase m)) ∧
      v = edEncode (edMul (Bytes.toNatLE w.privView % 2 ^ 255) (edAdd b (edMulBase m))) ∧
      edMul (Bytes.toNatLE w.privView % 2 ^ 255) (edAdd b (edMulBase m)) ≠ edIdentity ∧
      edAdd b (edMulBase m) ≠ edIdentity ∧
      edMul edL (edAdd b (edMulBase m)) = edIdentity ∧
      edMulNoclamp (Bytes.toNatLE w.privView % 2 ^ 255) (edAdd b (edMulBase m)) =
        some (edMul (Bytes.toNatLE w.privView % 2 ^ 255) (edAdd b (edMulBase m))) := by
  rw [xmrSubaddrKeys_eq w minor major hm hM hne] at h
  split at h
  · cases h
  · rename_i b hb
    refine ⟨b, hb, ?_⟩
    dsimp only at h ⊢
    split at h
    · cases h
    · rename_i hm0
      split at h
      · cases h
      · rename_i c hc
        have := Except.ok.inj h
        simp only [Prod.mk.injEq] at this
        obtain ⟨c1, c2, c3, c4⟩ := (edMulNoclamp_eq_some_iff _ _ _).mp hc
        rw [edNorm_edAdd] at c1
        rw [Nat.mod_mod] at c3 c4
        subst c4
        exact ⟨hm0, MoneroLemmas.scReduce_lt _, this.1.symm, this.2.symm, c3, c1, c2, hc⟩

/-- the success case restated on the libsodium primitive: with `D = B + m·G`, the derivation
succeeds exactly when `edMulNoclamp a D` does, and then returns `(enc D, enc C)` -/
theorem subaddr_keys_of_noclamp (w : XmrWallet) (minor major : Nat) (hm : minor ≤ 2 ^ 32 - 1)
    (hM : major ≤ 2 ^ 32 - 1) (hne : ¬ (minor = 0 ∧ major = 0)) {b C : EdPoint}
    (hb : edDecodeLenient w.pubSpend = some b)
    (hm0 : Bytes.toNatLE (scReduce (keccak256 (subaddrMsg w.privView major minor))) ≠ 0)
    (hC : edMulNoclamp (Bytes.toNatLE w.privView % 2 ^ 255)
      (edAdd b (edMulBase (Bytes.toNatLE (scReduce (keccak256 (subaddrMsg w.privView major minor))))))
        = some C) :
    xmrSubaddrKeys w minor major =
      .ok (edEncode (edAdd b (edMulBase
        (Bytes.toNatLE (scReduce (keccak256 (subaddrMsg w.privView major minor)))))), edEncode C) := by
  rw [xmrSubaddrKeys_eq w minor major hm hM hne, hb]
  dsimp only
  rw [if_neg hm0, hC]

/-- … in particular when `D` is a non-identity point of the prime-order subgroup and `a·D` is not
the identity -/
theorem subaddr_keys_of_subgroup (w : XmrWallet) (minor major : Nat) (hm : minor ≤ 2 ^ 32 - 1)
    (hM : major ≤ 2 ^ 32 - 1) (hne : ¬ (minor = 0 ∧ major = 0)) {b : EdPoint}
    (hb : edDecodeLenient w.pubSpend = some b)
    (hm0 : Bytes.toNatLE (scReduce (keccak256 (subaddrMsg w.privView major minor))) ≠ 0)
    (hD : edAdd b (edMulBase (Bytes.toNatLE (scReduce (keccak256 (subaddrMsg w.privView major minor)))))
      ≠ edIdentity)
    (hL : edMul edL (edAdd b (edMulBase
      (Bytes.toNatLE (scReduce (keccak256 (subaddrMsg w.privView major minor)))))) = edIdentity)
    (hC : edMul (Bytes.toNatLE w.privView % 2 ^ 255) (edAdd b (edMulBase
      (Bytes.toNatLE (scReduce (keccak256 (subaddrMsg w.privView major minor)))))) ≠ edIdentity) :
    xmrSubaddrKeys w minor major =
      .ok (edEncode (edAdd b (edMulBase
            (Bytes.toNatLE (scReduce (keccak256 (subaddrMsg w.privView major minor)))))),
           edEncode (edMul (Bytes.toNatLE w.privView % 2 ^ 255) (edAdd b (edMulBase
            (Bytes.toNatLE (scReduce (keccak256 (subaddrMsg w.privView major minor)))))))) := by
  apply subaddr_keys_of_noclamp w minor major hm hM hne hb hm0
  rw [edMulNoclamp_eq_some_iff, edNorm_edAdd, Nat.mod_mod]
  exact ⟨hD, hL, hC, rfl⟩

/-- a sub-address spend point outside the prime-order subgroup is refused (libsodium's
`crypto_scalarmult_ed25519_noclamp` returns `-1`, bip_utils raises `ValueError`): when
`D = B + m·G` is the identity or `L·D ≠ (0,1)` — e.g. a public spend key with a small-order
component handed to a watch-only wallet — no keys are produced, whatever the view key. -/
theorem subaddr_refused_off_subgroup (w : XmrWallet) (minor major : Nat) (hm : minor ≤ 2 ^ 32 - 1)
    (hM : major ≤ 2 ^ 32 - 1) (hne : ¬ (minor = 0 ∧ major = 0)) {b : EdPoint}
    (hb : edDecodeLenient w.pubSpend = some b)
    (hD : edAdd b (edMulBase (Bytes.toNatLE (scReduce (keccak256 (subaddrMsg w.privView major minor)))))
        = edIdentity ∨
      edMul edL (edAdd b (edMulBase
        (Bytes.toNatLE (scReduce (keccak256 (subaddrMsg w.privView major minor)))))) ≠ edIdentity) :
    xmrSubaddrKeys w minor major = .error .value := by
  rw [xmrSubaddrKeys_eq w minor major hm hM hne, hb]
  dsimp only
  split
  · rfl
  · rw [edMulNoclamp_off_subgroup _ (by rw [edNorm_edAdd]; exact hD)]

/-- the same at address level -/
theorem subaddress_refused_off_subgroup (w : XmrWallet) (nv snv : Bytes) (minor major : Nat)
    (hm : minor ≤ 2 ^ 32 - 1) (hM : major ≤ 2 ^ 32 - 1) (hne : ¬ (minor = 0 ∧ major = 0))
    {b : EdPoint} (hb : edDecodeLenient w.pubSpend = some b)
    (hD : edAdd b (edMulBase (Bytes.toNatLE (scReduce (keccak256 (subaddrMsg w.privView major minor)))))
        = edIdentity ∨
      edMul edL (edAdd b (edMulBase
        (Bytes.toNatLE (scReduce (keccak256 (subaddrMsg w.privView major minor)))))) ≠ edIdentity) :
    xmrSubaddress w nv snv minor major = .error .value := by
  unfold xmrSubaddress
  have h0 : ¬ (decide (minor = 0) && decide (major = 0)) = true := by
    simp only [Bool.and_eq_true, decide_eq_true_eq]; exact hne
  rw [if_neg h0, subaddr_refused_off_subgroup w minor major hm hM hne hb hD]
  rfl

/-- no point of small order is ever accepted as the operand of `a·D` / `Ed25519Point.__mul__`:
`L` is odd, so the subgroup test fails for orders 2, 4 and 8 (and the identity is refused first) -/
theorem noclamp_refuses_small_order (k : Nat) {T : EdPoint} (h : T ∈ edSmallOrder) :
    edMulNoclamp k T = none := edMulNoclamp_small_order k h

/-- exact acceptance condition of the libsodium primitive -/
theorem noclamp_spec (k : Nat) (P r : EdPoint) :
    edMulNoclamp k P = some r ↔
      edNorm P ≠ edIdentity ∧ edMul edL P = edIdentity ∧
        edMul (k % 2 ^ 255) P ≠ edIdentity ∧ r = edMul (k % 2 ^ 255) P :=
  edMulNoclamp_eq_some_iff k P r

/-- `"SubAddr" ‖ 0 ‖ a ‖ le32 major ‖ le32 minor` determines `(a, major, minor)` for view keys of
equal length (in particular for a fixed 32-byte view key) and indices in `[0, 2^32)`. -/
theorem subaddr_index_injective {a a' : Bytes} {major minor major' minor' : Nat}
    (hl : a.length = a'.length)
    (hM : major < 2 ^ 32) (hm : minor < 2 ^ 32) (hM' : major' < 2 ^ 32) (hm' : minor' < 2 ^ 32)
    (h : "SubAddr".toUTF8.toList ++ [0] ++ a ++ Bytes.ofNatLE 4 major ++ Bytes.ofNatLE 4 minor
       = "SubAddr".toUTF8.toList ++ [0] ++ a' ++ Bytes.ofNatLE 4 major' ++ Bytes.ofNatLE 4 minor') :
    a = a' ∧ major = major' ∧ minor = minor' :=
  subaddrMsg_inj hl hM hm hM' hm' h

/-- the message really is the one hashed by the model (ties `subaddrMsg` to the text above) -/
theorem subaddrMsg_def (a : Bytes) (major minor : Nat) :
    subaddrMsg a major minor
      = "SubAddr".toUTF8.toList ++ [0] ++ a ++ Bytes.ofNatLE 4 major ++ Bytes.ofNatLE 4 minor := rfl

/-- a watch-only wallet built from the view key and public spend key of a full wallet carries the
same three address-relevant fields.  (No key-layer hypothesis is needed: the public spend key of
a full wallet is a 32-byte encoding, and the Monero key parser returns 32-byte inputs unchanged.) -/
theorem watchOnly_same_keys {k : Bytes} {full wo : XmrWallet} (hf : xmrFromSpend k = .ok full)
    (hw : xmrWatchOnly full.privView full.pubSpend = .ok wo) :
    wo.privView = full.privView ∧ wo.pubSpend = full.pubSpend ∧ wo.pubView = full.pubView := by
  obtain ⟨_, _, _, f4, f5⟩ := xmrFromSpend_ok hf
  obtain ⟨_, _, w3, w4, w5⟩ := xmrWatchOnly_ok hw
  refine ⟨w3, pubFromBytes_monero_of_length (xmrPubOfPriv_length f4) w4, ?_⟩
  rw [f5] at w5
  exact (Except.ok.inj w5).symm

/-- existence: when the full wallet's public spend key re-validates (key-layer fact), the
watch-only constructor succeeds and returns the full wallet minus the private spend key -/
theorem watchOnly_of_full {k : Bytes} {full : XmrWallet} (hf : xmrFromSpend k = .ok full)
    (hcanon : pubFromBytes .ed25519Monero full.pubSpend = some full.pubSpend) :
    xmrWatchOnly full.privView full.pubSpend = .ok { full with privSpend := none } := by
  obtain ⟨_, _, f3, _, f5⟩ := xmrFromSpend_ok hf
  rw [xmrWatchOnly_eq, if_pos (by rw [f3]; exact MoneroLemmas.scReduce_valid _), hcanon]
  dsimp only
  rw [f5]
  rfl

/-- the address functions read only `(privView, pubSpend, pubView)` -/
theorem addresses_depend_on_view_fields {w w' : XmrWallet} (hv : w.privView = w'.privView)
    (hs : w.pubSpend = w'.pubSpend) (hp : w.pubView = w'.pubView) :
    (∀ nv, xmrPrimaryAddress w nv = xmrPrimaryAddress w' nv) ∧
    (∀ nv snv minor major, xmrSubaddress w nv snv minor major = xmrSubaddress w' nv snv minor major) ∧
    (∀ minor major, xmrSubaddrKeys w minor major = xmrSubaddrKeys w' minor major) ∧
    (∀ nv pid, xmrIntegratedAddress w nv pid = xmrIntegratedAddress w' nv pid) :=
  ⟨xmrPrimaryAddress_congr hs hp, xmrSubaddress_congr hv hs hp, xmrSubaddrKeys_congr hv hs hp,
    xmrIntegratedAddress_congr hs hp⟩

/-- a watch-only wallet produces exactly the addresses of the full wallet -/
theorem watchOnly_same_addresses {k : Bytes} {full wo : XmrWallet} (hf : xmrFromSpend k = .ok full)
    (hw : xmrWatchOnly full.privView full.pubSpend = .ok wo) :
    (∀ nv, xmrPrimaryAddress wo nv = xmrPrimaryAddress full nv) ∧
    (∀ nv snv minor major, xmrSubaddress wo nv snv minor major = xmrSubaddress full nv snv minor major) ∧
    (∀ minor major, xmrSubaddrKeys wo minor major = xmrSubaddrKeys full minor major) ∧
    (∀ nv pid, xmrIntegratedAddress wo nv pid = xmrIntegratedAddress full nv pid) := by
  obtain ⟨h1, h2, h3⟩ := watchOnly_same_keys hf hw
  exact addresses_depend_on_view_fields h1 h2 h3

/-- a watch-only wallet has no private spend key: asking for it is a `MoneroKeyError` -/
theorem watchOnly_private_spend_refused {v p : Bytes} {w : XmrWallet}
    (h : xmrWatchOnly v p = .ok w) : xmrPrivateSpend w = .error .key := by
  obtain ⟨_, h2, _⟩ := xmrWatchOnly_ok h
  unfold xmrPrivateSpend
  rw [h2]
  rfl

/-- … whereas a full wallet hands it out -/
theorem full_private_spend {k : Bytes} {w : XmrWallet} (h : xmrFromSpend k = .ok w) :
    xmrPrivateSpend w = .ok k := by
  obtain ⟨_, h2, _⟩ := xmrFromSpend_ok h
  unfold xmrPrivateSpend
  rw [h2]
  rfl

/-- decode ∘ encode: every address the encoder produces (standard, sub-address or integrated,
any network-version bytes) decodes to the concatenation of the two canonical public keys.  The
key-canonicity facts (32 bytes, canonical keys re-validate) are proved, not assumed. -/
theorem addr_decode_encode {netVer : Bytes} {payId : Option Bytes} {spend view : Bytes}
    {a : List Char} (h : xmrAddrEncode netVer payId spend view = .ok a) :
    ∃ s v, addrKey .ed25519Monero spend = .ok s ∧ addrKey .ed25519Monero view = .ok v ∧
      s.length = 32 ∧ v.length = 32 ∧ xmrAddrDecode netVer payId a = .ok (s ++ v) := by
  obtain ⟨s, v, hs, hv, hd⟩ := xmr_decode_encode_addr netVer payId spend view a h
  exact ⟨s, v, hs, hv, (addrKey_monero_inv hs).1, (addrKey_monero_inv hv).1, hd⟩

/-- the same with the two validated keys given -/
theorem addr_decode_encode' {netVer : Bytes} {payId : Option Bytes} {spend view s v : Bytes}
    {a : List Char} (hs : addrKey .ed25519Monero spend = .ok s)
    (hv : addrKey .ed25519Monero view = .ok v)
    (h : xmrAddrEncode netVer payId spend view = .ok a) :
    xmrAddrDecode netVer payId a = .ok (s ++ v) := by
  obtain ⟨s', v', hs', hv', _, _, hd⟩ := addr_decode_encode h
  rw [hs] at hs'; rw [hv] at hv'
  cases Except.ok.inj hs'; cases Except.ok.inj hv'
  exact hd

/-- wallet-level corollary: the primary address of a wallet decodes to its two public keys
whenever these re-validate (always the case for constructor-built wallets, see
`watchOnly_of_full` for the same hypothesis) -/
theorem primary_address_decodes {w : XmrWallet} {nv : Bytes} {a : List Char}
    (hs : pubFromBytes .ed25519Monero w.pubSpend = some w.pubSpend)
    (hv : pubFromBytes .ed25519Monero w.pubView = some w.pubView)
    (h : xmrPrimaryAddress w nv = .ok a) : xmrAddrDecode nv none a = .ok (w.pubSpend ++ w.pubView) :=
  addr_decode_encode' ((addrKey_ok_iff _ _ _).mpr hs) ((addrKey_ok_iff _ _ _).mpr hv) h

/-- the encoder refuses payment ids that are not 8 bytes long -/
theorem addr_encode_payid_length (netVer p spend view : Bytes) (h : p.length ≠ 8) :
    xmrAddrEncode netVer (some p) spend view = .error .value := by
  unfold xmrAddrEncode
  dsimp only
  rw [if_pos h]
  rfl

/-- the payload length a decoder has checked: 64 bytes without, 72 with payment id -/
theorem addr_decode_payload_length {netVer : Bytes} {payId : Option Bytes} {a : List Char} {r : Bytes}
    (h : xmrAddrDecode netVer payId a = .ok r) :
    ∃ dec p, xmrDecode a = .ok dec ∧ removePrefix (dropLast dec 4) netVer = .ok p ∧
      p.length = (match payId with | none => 64 | some _ => 72) := by
  unfold xmrAddrDecode at h
  obtain ⟨dec, hdec, h⟩ := bind_ok_inv h
  dsimp only [splitCkEnd] at h
  obtain ⟨_, h⟩ := guard_ok_inv h
  obtain ⟨p, hp, h⟩ := bind_ok_inv h
  refine ⟨dec, p, hdec, hp, ?_⟩
  cases payId with
  | none =>
    dsimp only at h ⊢
    obtain ⟨u, hu, _⟩ := bind_ok_inv h
    exact (validateLength_ok_iff _ _).mp hu
  | some pid =>
    dsimp only at h ⊢
    obtain ⟨u, hu, _⟩ := bind_ok_inv h
    exact (validateLength_ok_iff _ _).mp hu

/-- standard and integrated decoders are mutually exclusive: an address accepted without payment id
is refused, with `ValueError`, by a decoder that expects one (`XmrIntegratedAddrDecoder.DecodeAddr`
requires the payment id in the address, finding F-xmrint-std) -/
theorem addr_decode_standard_refused_by_integrated {netVer : Bytes} {a : List Char} {r : Bytes}
    (pid : Bytes) (h : xmrAddrDecode netVer none a = .ok r) :
    xmrAddrDecode netVer (some pid) a = .error .value := by
  obtain ⟨dec, p, hdec, hp, hl⟩ := addr_decode_payload_length h
  dsimp only at hl
  unfold xmrAddrDecode at h ⊢
  obtain ⟨dec', hdec', h⟩ := bind_ok_inv h
  rw [hdec] at hdec'; cases Except.ok.inj hdec'
  rw [hdec, ok_bind]
  dsimp only [splitCkEnd] at h ⊢
  obtain ⟨hck, _⟩ := guard_ok_inv h
  rw [guard_neg hck, hp, ok_bind]
  rw [validateLength_error _ _ (by rw [hl]; decide)]
  rfl

theorem fromSpend_errors {k : Bytes} {e : Err} (h : xmrFromSpend k = .error e) :
    e = .key ∨ e = .value := xmrFromSpend_error h

theorem fromSeed_errors {seed : Bytes} {e : Err} (h : xmrFromSeed seed = .error e) :
    e = .key ∨ e = .value := xmrFromSpend_error h

/-- sharper: after `sc_reduce` the key checks cannot fail, so `FromSeed` fails only with the
plain `ValueError` of a zero scalar (identity public key) -/
theorem fromSeed_errors_value {seed : Bytes} {e : Err} (h : xmrFromSeed seed = .error e) :
    e = .value := xmrFromSpend_scReduce_error h

theorem watchOnly_errors {v p : Bytes} {e : Err} (h : xmrWatchOnly v p = .error e) :
    e = .key ∨ e = .value := by
  rw [xmrWatchOnly_eq] at h
  split at h
  · split at h
    · exact Or.inl (Except.error.inj h).symm
    · rcases bind_error_inv h with h | ⟨pv, _, h⟩
      · exact xmrPubOfPriv_error h
      · cases h
  · exact Or.inl (Except.error.inj h).symm

theorem subaddrKeys_errors {w : XmrWallet} {minor major : Nat} {e : Err}
    (h : xmrSubaddrKeys w minor major = .error e) : e = .value := xmrSubaddrKeys_error h

theorem addrEncode_errors {netVer : Bytes} {payId : Option Bytes} {spend view : Bytes} {e : Err}
    (h : xmrAddrEncode netVer payId spend view = .error e) : e = .value :=
  (xmrAddrEncode_ov netVer payId spend view).h e h

/-- an invalid private spend key is a `MoneroKeyError` -/
theorem fromSpend_invalid_key (k : Bytes) (h : privValid .ed25519Monero k = false) :
    xmrFromSpend k = .error .key := by
  rw [xmrFromSpend_eq, if_neg (by rw [h]; decide)]

end BipVerif.Props.C16
