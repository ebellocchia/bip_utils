/-
C18 — Cardano: master key generators (Khovratovich-Law, Icarus, Byron legacy) produce clamped
BIP32-Ed25519 keys; child keys follow the BIP32-Ed25519 formulas (and the Byron-legacy variants);
Shelley and Byron addresses decode back to what was encoded.
The lemmas the proofs rest on are in `BipVerif/Lemmas/Cardano.lean`.
Of the hashes and PBKDF2 only the output lengths are used.  The AEAD enters through the law `AeadLaw`,
which `chacha_aead_law` proves for the ChaCha20-Poly1305 of `Prim`; the point-layer law `KholawLaw`
assumed by `child_key_public_agrees` is proved in `Props/C12Ed` (`kholawLaw`).
-/
import BipVerif.Lemmas.Cardano
import BipVerif.Lemmas.Ecc
import BipVerif.Driver.Cardano

namespace BipVerif.Props.C18
open BipVerif BipVerif.Prim BipVerif.Model BipVerif.Model.CardanoLemmas

theorem tweak_bits (mask : Nat) (k : Bytes) (hk : 32 ≤ k.length) :
    (tweakMasterBits mask k).length = k.length ∧
    ((tweakMasterBits mask k).getD 0 0).toNat % 8 = 0 ∧
    ((tweakMasterBits mask k).getD 0 0).toNat / 8 = (k.getD 0 0).toNat / 8 ∧
    ((tweakMasterBits mask k).getD 31 0).toNat =
      (((k.getD 31 0).toNat % 256 - ((k.getD 31 0).toNat &&& mask)) ||| 64) % 256 ∧
    ∀ j, j ≠ 0 → j ≠ 31 → (tweakMasterBits mask k).getD j 0 = k.getD j 0 := by
  refine ⟨tweak_length mask k, ?_, ?_, tweak_getD_31 mask k hk, tweak_getD_other mask k⟩
  · rw [tweak_getD_zero mask k (by omega)]; exact Nat.mul_mod_left _ _
  · rw [tweak_getD_zero mask k (by omega)]; exact Nat.mul_div_cancel _ (by decide)

/-- mask `0x80` (Khovratovich-Law, Byron legacy): same length; byte 0 loses its 3 low bits;
byte 31: bit 7 clear, bit 6 set, bits 0–5 unchanged; all other bytes unchanged -/
theorem tweak_bits_128 (k : Bytes) (hk : 32 ≤ k.length) :
    (tweakMasterBits 128 k).length = k.length ∧
    ((tweakMasterBits 128 k).getD 0 0).toNat % 8 = 0 ∧
    ((tweakMasterBits 128 k).getD 0 0).toNat / 8 = (k.getD 0 0).toNat / 8 ∧
    64 ≤ ((tweakMasterBits 128 k).getD 31 0).toNat ∧ ((tweakMasterBits 128 k).getD 31 0).toNat < 128 ∧
    ((tweakMasterBits 128 k).getD 31 0).toNat % 64 = (k.getD 31 0).toNat % 64 ∧
    ((tweakMasterBits 128 k).getD 31 0).toNat &&& 32 = (k.getD 31 0).toNat &&& 32 ∧
    ∀ j, j ≠ 0 → j ≠ 31 → (tweakMasterBits 128 k).getD j 0 = k.getD j 0 := by
  obtain ⟨h1, h2, h3, -, h5⟩ := tweak_bits 128 k hk
  obtain ⟨a, b, c, d, _⟩ := tweakByte_128 _ (k.getD 31 0).toNat_lt
  rw [← tweak_getD_31 128 k hk] at a b c d
  exact ⟨h1, h2, h3, a, b, c, d, h5⟩

/-- mask `0xE0` (Icarus): byte 31 has bits 7 and 5 clear, bit 6 set (`64 ≤ · < 96`), bits 0–4
unchanged -/
theorem tweak_bits_224 (k : Bytes) (hk : 32 ≤ k.length) :
    (tweakMasterBits 224 k).length = k.length ∧
    ((tweakMasterBits 224 k).getD 0 0).toNat % 8 = 0 ∧
    ((tweakMasterBits 224 k).getD 0 0).toNat / 8 = (k.getD 0 0).toNat / 8 ∧
    64 ≤ ((tweakMasterBits 224 k).getD 31 0).toNat ∧ ((tweakMasterBits 224 k).getD 31 0).toNat < 96 ∧
    ((tweakMasterBits 224 k).getD 31 0).toNat % 32 = (k.getD 31 0).toNat % 32 ∧
    ∀ j, j ≠ 0 → j ≠ 31 → (tweakMasterBits 224 k).getD j 0 = k.getD j 0 := by
  obtain ⟨h1, h2, h3, -, h5⟩ := tweak_bits 224 k hk
  obtain ⟨a, b, c⟩ := tweakByte_224 _ (k.getD 31 0).toNat_lt
  rw [← tweak_getD_31 224 k hk] at a b c
  exact ⟨h1, h2, h3, a, b, c, h5⟩

theorem master_clamped_kholaw (seed k cc : Bytes) (h : kholawMasterKey seed = .ok (k, cc)) :
    Bytes.toNatLE (k.take 32) % 8 = 0 ∧ 2 ^ 254 ≤ Bytes.toNatLE (k.take 32) ∧
    Bytes.toNatLE (k.take 32) < 2 ^ 255 ∧ Bytes.toNatLE (k.take 32) / 2 ^ 253 % 2 = 0 ∧
    k.length = 64 ∧ cc.length = 32 ∧ 16 ≤ seed.length := by
  obtain ⟨a, b, c, d, _⟩ := kholawMasterKey_ok seed k cc h
  exact ⟨d.low, d.ge254, d.lt255, d.bit253, b, c, a⟩

theorem master_clamped_icarus (seed k cc : Bytes) (h : icarusMasterKey seed = .ok (k, cc)) :
    Bytes.toNatLE (k.take 32) % 8 = 0 ∧ 2 ^ 254 ≤ Bytes.toNatLE (k.take 32) ∧
    Bytes.toNatLE (k.take 32) < 2 ^ 255 ∧ Bytes.toNatLE (k.take 32) / 2 ^ 253 % 2 = 0 ∧
    k.length = 64 ∧ cc.length = 32 ∧ 16 ≤ seed.length := by
  obtain ⟨a, b, c, d⟩ := icarusMasterKey_ok seed k cc h
  exact ⟨d.low, d.ge254, d.lt255, d.bit253, b, c, a⟩

theorem master_clamped_byron_legacy (seed k cc : Bytes) (h : byronLegacyMasterKey seed = .ok (k, cc)) :
    Bytes.toNatLE (k.take 32) % 8 = 0 ∧ 2 ^ 254 ≤ Bytes.toNatLE (k.take 32) ∧
    Bytes.toNatLE (k.take 32) < 2 ^ 255 ∧ Bytes.toNatLE (k.take 32) / 2 ^ 253 % 2 = 0 ∧
    k.length = 64 ∧ cc.length = 32 ∧ seed.length = 32 := by
  obtain ⟨a, b, c, d⟩ := byronLegacyMasterKey_ok seed k cc h
  exact ⟨d.low, d.ge254, d.lt255, d.bit253, b, c, a⟩

theorem master_kholaw_chain_code (seed k cc : Bytes) (h : kholawMasterKey seed = .ok (k, cc)) :
    cc = hmacSha256 kholawHmacKey ([1] ++ seed) := (kholawMasterKey_ok seed k cc h).2.2.2.2

theorem master_seed_too_short_kholaw (seed : Bytes) (h : seed.length < 16) :
    kholawMasterKey seed = .error .value := guard_pos h

theorem master_seed_too_short_icarus (seed : Bytes) (h : seed.length < 16) :
    icarusMasterKey seed = .error .value := guard_pos h

theorem master_seed_wrong_length_byron_legacy (seed : Bytes) (h : seed.length ≠ 32) :
    byronLegacyMasterKey seed = .error .value := guard_pos h

/-- a seed of admissible length is refused only when the model's re-hash loop runs out of fuel (the
library's loop has no bound; the exhaustion was never observed) -/
theorem master_error_kinds_kholaw (seed : Bytes) (e : Err) (h : kholawMasterKey seed = .error e) :
    (e = .value ∧ seed.length < 16) ∨ (e = .fuel ∧ 16 ≤ seed.length) := kholawMasterKey_error seed e h

theorem master_icarus_total (seed : Bytes) (h : 16 ≤ seed.length) :
    ∃ k cc, icarusMasterKey seed = .ok (k, cc) :=
  ⟨_, _, guard_neg (Nat.not_lt.mpr h)⟩

theorem master_error_kinds_byron_legacy (seed : Bytes) (e : Err) (h : byronLegacyMasterKey seed = .error e) :
    (e = .value ∧ seed.length ≠ 32) ∨ (e = .fuel ∧ seed.length = 32) :=
  byronLegacyMasterKey_error seed e h

/-- BIP32-Ed25519: `kL' = 8·zL[:28] + kL` as a 32-byte little-endian integer -/
theorem kholaw_child_left_spec (zl kl r : Bytes) (h : kholawNewLeft .kholaw zl kl = .ok r) :
    Bytes.toNatLE r = Bytes.toNatLE (zl.take 28) * 8 + Bytes.toNatLE kl ∧ r.length = 32 :=
  (kholaw_child_left_ok zl kl r h).2.2

/-- `_NewPrivateKeyLeftPart` raises `Bip32KeyError` iff the sum is `≡ 0 (mod L)` or is `≥ 2^255`
(bit 255 set, or more than 32 bytes); `2^255` is the range of scalars of libsodium's no-clamp
base-point multiplication, from which the public key is computed -/
theorem kholaw_child_left_key_iff (zl kl : Bytes) :
    kholawNewLeft .kholaw zl kl = .error .key ↔
      (Bytes.toNatLE (zl.take 28) * 8 + Bytes.toNatLE kl) % edL = 0 ∨
        2 ^ 255 ≤ Bytes.toNatLE (zl.take 28) * 8 + Bytes.toNatLE kl :=
  (kholaw_child_left_error_iff zl kl .key).trans (and_iff_right rfl)

/-- `OverflowError` is never raised: a sum `≥ 2^255` (a fortiori one `≥ 2^256`, too long for
`int.to_bytes(32)`) is refused before `int.to_bytes` is reached -/
theorem kholaw_child_left_never_overflow (zl kl : Bytes) :
    kholawNewLeft .kholaw zl kl ≠ .error .overflow :=
  fun h => nomatch ((kholaw_child_left_error_iff zl kl _).mp h).1

/-- both reasons can hold at once: the sum `8·L` is `≥ 2^255` and `≡ 0 (mod L)`, reported as
`Bip32KeyError` (witness `zL = L - 2^252 + 1`, `kL = 2^255 - 8`) -/
theorem kholaw_child_left_key_above_2_256 :
    ∃ zl kl : Bytes, zl.length = 32 ∧ kl.length = 32 ∧
      2 ^ 255 ≤ Bytes.toNatLE (zl.take 28) * 8 + Bytes.toNatLE kl ∧
      (Bytes.toNatLE (zl.take 28) * 8 + Bytes.toNatLE kl) % edL = 0 ∧
      kholawNewLeft .kholaw zl kl = .error .key := by
  -- `zL = L - 2^252 + 1`: `8·zL + kL = (8·L - 2^255 + 8) + (2^255 - 8) = 8·L`
  have hv : Bytes.toNatLE ((Bytes.ofNatLE 32 27742317777372353535851937790883648494).take 28) * 8 +
      Bytes.toNatLE (Bytes.ofNatLE 32 (2 ^ 255 - 8)) = 8 * edL := by decide +kernel
  have hmod := Nat.mul_mod_left 8 edL
  rw [← hv] at hmod
  refine ⟨_, _, length_ofNatLE _ _, length_ofNatLE _ _, ?_, hmod,
    (kholaw_child_left_error_iff _ _ _).mpr ⟨rfl, Or.inl hmod⟩⟩
  rw [hv]; decide

/-- the size refusal on its own, read from the parent's side (witness: `zL = 1`, `kL = 2^255 - 8`,
sum exactly `2^255`): a hand-supplied parent scalar that is a multiple of 8 and below `2^255` but
has bit 253 set (no master key generator produces one) can meet the size refusal at its first
child; this is why the chain theorems below assume `kL < 2^254 + 2^253` (what `master_clamped_*`
give): `kL < 2^255` would not do -/
theorem kholaw_size_refusal_below_2_255 :
    ∃ zl kl : Bytes, zl.length = 32 ∧ kl.length = 32 ∧ Bytes.toNatLE kl < 2 ^ 255 ∧
      8 ∣ Bytes.toNatLE kl ∧
      (Bytes.toNatLE (zl.take 28) * 8 + Bytes.toNatLE kl) % edL ≠ 0 ∧
      2 ^ 255 ≤ Bytes.toNatLE (zl.take 28) * 8 + Bytes.toNatLE kl ∧
      kholawNewLeft .kholaw zl kl = .error .key := by
  have hk : Bytes.toNatLE (Bytes.ofNatLE 32 (2 ^ 255 - 8)) = 2 ^ 255 - 8 :=
    toNatLE_ofNatLE (by decide)
  have hv : Bytes.toNatLE ((Bytes.ofNatLE 32 1).take 28) * 8 +
      Bytes.toNatLE (Bytes.ofNatLE 32 (2 ^ 255 - 8)) = 2 ^ 255 := by decide +kernel
  refine ⟨_, _, length_ofNatLE _ _, length_ofNatLE _ _, ?_, ?_, ?_, Nat.le_of_eq hv.symm,
    (kholaw_child_left_error_iff _ _ _).mpr ⟨rfl, Or.inr (Nat.le_of_eq hv.symm)⟩⟩
  · rw [hk]; decide
  · rw [hk]; decide
  · rw [hv]; decide

/-- the same witness as a statement about the sum: one `≥ 2^255` that is not a multiple of `L` is
reported as `Bip32KeyError` (exactly `2^255` here) -/
theorem kholaw_child_left_key_size_only :
    ∃ zl kl : Bytes, zl.length = 32 ∧ kl.length = 32 ∧
      2 ^ 255 ≤ Bytes.toNatLE (zl.take 28) * 8 + Bytes.toNatLE kl ∧
      (Bytes.toNatLE (zl.take 28) * 8 + Bytes.toNatLE kl) % edL ≠ 0 ∧
      kholawNewLeft .kholaw zl kl = .error .key := by
  obtain ⟨zl, kl, a, b, _, _, c, d, e⟩ := kholaw_size_refusal_below_2_255
  exact ⟨zl, kl, a, b, d, c, e⟩

theorem kholaw_child_left_ok_iff (zl kl : Bytes) :
    (∃ r, kholawNewLeft .kholaw zl kl = .ok r) ↔
      (Bytes.toNatLE (zl.take 28) * 8 + Bytes.toNatLE kl) % edL ≠ 0 ∧
        Bytes.toNatLE (zl.take 28) * 8 + Bytes.toNatLE kl < 2 ^ 255 := by
  rw [kholawNewLeft_kholaw]
  split
  · next hb =>
    exact ⟨fun ⟨_, h⟩ => (nomatch h), fun hn => absurd hb (not_or.mpr ⟨hn.1, Nat.not_le.mpr hn.2⟩)⟩
  · next hn => exact ⟨fun _ => ⟨(not_or.mp hn).1, Nat.lt_of_not_le (not_or.mp hn).2⟩, fun _ => ⟨_, rfl⟩⟩

/-- What the `2^255` bound is for: a successful new left half `r` has bit 255 clear.  libsodium's
no-clamp base-point multiplication takes its 32-byte scalar mod `2^255` (`edNoClampScalar`), so with
`r < 2^255` the public key of the private child is the true multiple `r·B = (kL + 8·zL[:28])·B` —
the same point the public derivation computes as `A + (8·zL[:28])·B`.  Private and public derivation
therefore agree for every parent key, hand-supplied ones included (a child with bit 255 set would
have the public key `(r - 2^255)·B`). -/
theorem new_left_below_2_255 (zl kl r : Bytes) (h : kholawNewLeft .kholaw zl kl = .ok r) :
    Bytes.toNatLE r < 2 ^ 255 := by
  obtain ⟨_, hlt, hv, _⟩ := kholaw_child_left_ok zl kl r h
  rw [hv]; exact hlt

/-- the scalar libsodium multiplies by is the stored left half itself, whatever 32 bytes
`kr` are appended as the right half (`Scheme` has no separate Icarus constructor: Cardano Icarus
derivation is scheme `.kholaw` too, only its master key generator differs) -/
theorem new_left_no_clamp_scalar (zl kl r kr : Bytes) (h : kholawNewLeft .kholaw zl kl = .ok r) :
    edNoClampScalar (r ++ kr) = Bytes.toNatLE r ∧
      edNoClampScalar (r ++ kr) = Bytes.toNatLE (zl.take 28) * 8 + Bytes.toNatLE kl := by
  obtain ⟨_, hlt, hv, hl⟩ := kholaw_child_left_ok zl kl r h
  have he := EccLemmas.edNoClampScalar_eq (r ++ kr)
  rw [List.take_left' hl, hv] at he
  exact ⟨(he hlt).trans hv.symm, he hlt⟩

/-- the same on real nodes: every child `c` that `ChildKey` derives from a private Khovratovich-Law
(or Icarus) node — nothing is assumed about the parent key — holds a private key `k'` whose left
half is below `2^255`, so the no-clamp scalar is that left half and the child's public key is the
encoding of `kL'·B` -/
theorem child_key_left_below_2_255 (nd c : Node) (idx : Nat) (k : Bytes)
    (hs : nd.scheme = .kholaw) (hp : nd.priv = some k) (h : kholawChildKey nd idx = .ok c) :
    ∃ k', c.priv = some k' ∧ Bytes.toNatLE (k'.take 32) < 2 ^ 255 ∧
      edNoClampScalar k' = Bytes.toNatLE (k'.take 32) ∧
      pubOfPriv .ed25519Kholaw k' =
        (if edMulBase (Bytes.toNatLE (k'.take 32)) = edIdentity then none
         else some (0 :: edEncode (edMulBase (Bytes.toNatLE (k'.take 32))))) := by
  obtain ⟨k', hk', _, hleft⟩ := kholawChildKey_kholaw_priv_ok nd c idx k hs hp h
  obtain ⟨_, hlt, hv, _⟩ := kholaw_child_left_ok _ _ _ hleft
  rw [← hv] at hlt
  exact ⟨k', hk', hlt, Nat.mod_eq_of_lt hlt, pubOfPriv_kholaw_eq k' hlt⟩

/-- private/public commutation in its success form: under the point-layer law `KholawLaw` (proved
in `Props/C12Ed`), whenever a private `.kholaw` node whose `pub` belongs to its private key has a
non-hardened child `c`, the neutered node has the child `c.neuter` — no range hypothesis on `kL` is
needed, the size test implies it -/
theorem child_key_public_agrees (law : KholawLaw) (nd : Node) (k : Bytes) (idx : Nat)
    (hcur : nd.curve = .ed25519Kholaw) (hsch : nd.scheme = .kholaw)
    (hp : nd.priv = some k) (hpub : pubOfPriv .ed25519Kholaw k = some nd.pub)
    (hh : isHardened idx = false) (c : Node) (hc : kholawChildKey nd idx = .ok c) :
    kholawChildKey nd.neuter idx = .ok c.neuter :=
  Model.kholaw_ckdPub_comm_of_ok law nd k idx hcur hsch hp hpub hh c hc

theorem kholaw_child_left_error_kinds (zl kl : Bytes) (e : Err)
    (h : kholawNewLeft .kholaw zl kl = .error e) : e = .key :=
  ((kholaw_child_left_error_iff zl kl e).mp h).1

/-- multiples of 8 stay multiples of 8; each level adds less than `2^227` (`zL[:28] < 2^224`); the
conclusion of the last clause holds without its hypothesis (`new_left_below_2_255`) -/
theorem kholaw_child_invariant (zl kl r : Bytes) (h : kholawNewLeft .kholaw zl kl = .ok r) :
    (8 ∣ Bytes.toNatLE kl → 8 ∣ Bytes.toNatLE r) ∧
    Bytes.toNatLE kl ≤ Bytes.toNatLE r ∧
    Bytes.toNatLE r < Bytes.toNatLE kl + 2 ^ 227 ∧
    (Bytes.toNatLE kl < 2 ^ 255 - 2 ^ 227 → Bytes.toNatLE r < 2 ^ 255) := by
  obtain ⟨_, hlt, hv, _⟩ := kholaw_child_left_ok zl kl r h
  rw [hv]
  exact ⟨dvd_childLeftVal zl kl, le_childLeftVal zl kl, childLeftVal_lt zl kl, fun _ => hlt⟩

/-- after `d` levels from a master scalar `< 2^255`: `kL < 2^255 + d·2^227` -/
theorem kholaw_depth_bound (zs : List Bytes) (kl r : Bytes) (hm : Bytes.toNatLE kl < 2 ^ 255)
    (h : kholawLeftChain zs kl = .ok r) : Bytes.toNatLE r < 2 ^ 255 + zs.length * 2 ^ 227 :=
  Nat.lt_of_le_of_lt (CardanoLemmas.kholaw_depth_bound zs kl r h).2.1 (Nat.add_lt_add_right hm _)

/-- a chain that succeeds ends `< 2^255`: every successful level is below `2^255` by the size test
itself, so the depth limit `hd` is not used -/
theorem kholaw_depth_bound_256 (zs : List Bytes) (kl r : Bytes) (hm : Bytes.toNatLE kl < 2 ^ 255)
    (hd : zs.length ≤ 255) (h : kholawLeftChain zs kl = .ok r) : Bytes.toNatLE r < 2 ^ 255 := by
  clear hd
  induction zs generalizing kl with
  | nil => rw [← Except.ok.inj h]; exact hm
  | cons z zs ih =>
    rw [kholawLeftChain_cons] at h
    obtain ⟨k1, h1, h2⟩ := bind_ok_inv h
    exact ih k1 (new_left_below_2_255 z kl k1 h1) h2

/-- the size refusal (sum `≥ 2^255`, `Bip32KeyError`) never happens along a chain of at most 255
levels from a master scalar, i.e. from `kL < 2^254 + 2^253` (bit 255 clear, bit 253 clear, as
`master_clamped_kholaw` / `master_clamped_icarus` give): at every level — after any prefix `pre` of
the chain that succeeded with `r`, for the next `z` — the sum `8·z[:28] + r` is below `2^255`.
`kL < 2^255` is not enough (`kholaw_size_refusal_below_2_255`): the invariant `kL < kL₀ + d·2^227`
needs the `2^253` of room a master key leaves. -/
theorem kholaw_no_overflow (zs : List Bytes) (kl : Bytes)
    (hm : Bytes.toNatLE kl < 2 ^ 254 + 2 ^ 253)
    (hd : zs.length ≤ 255)
    (pre : List Bytes) (z : Bytes) (post : List Bytes) (hzs : zs = pre ++ z :: post) (r : Bytes)
    (hr : kholawLeftChain pre kl = .ok r) :
    Bytes.toNatLE (z.take 28) * 8 + Bytes.toNatLE r < 2 ^ 255 :=
  CardanoLemmas.kholaw_no_overflow zs kl (master_room _ _ hm hd) pre z post hzs r hr

/-- so such a chain fails only with `Bip32KeyError`, at a level whose sum is `≡ 0 (mod L)` -/
theorem kholaw_chain_error (zs : List Bytes) (kl : Bytes)
    (hm : Bytes.toNatLE kl < 2 ^ 254 + 2 ^ 253)
    (hd : zs.length ≤ 255) (e : Err) (h : kholawLeftChain zs kl = .error e) :
    e = .key ∧ ∃ pre z post r, zs = pre ++ z :: post ∧ kholawLeftChain pre kl = .ok r ∧
      (Bytes.toNatLE (z.take 28) * 8 + Bytes.toNatLE r) % edL = 0 ∧
      Bytes.toNatLE (z.take 28) * 8 + Bytes.toNatLE r < 2 ^ 255 :=
  CardanoLemmas.kholaw_chain_error zs kl (master_room _ _ hm hd) e h

/-- the general form: any start scalar and any chain with `kL + d·2^227 ≤ 2^255` -/
theorem kholaw_no_overflow_general (zs : List Bytes) (kl : Bytes)
    (hm : Bytes.toNatLE kl + zs.length * 2 ^ 227 ≤ 2 ^ 255)
    (pre : List Bytes) (z : Bytes) (post : List Bytes) (hzs : zs = pre ++ z :: post) (r : Bytes)
    (hr : kholawLeftChain pre kl = .ok r) :
    Bytes.toNatLE (z.take 28) * 8 + Bytes.toNatLE r < 2 ^ 255 :=
  CardanoLemmas.kholaw_no_overflow zs kl hm pre z post hzs r hr

/-- the same on real nodes: a Khovratovich-Law master built by `kholawMasterKey` / `icarusMasterKey`
followed by any derivation path of at most 255 indices never meets the size refusal.  At every node
`n` reached by a prefix `pre` of the path (private, with key `k'`), the left half the next step
(index `i`) computes is below `2^255` — a master scalar is below `2^254 + 2^253` and 255 levels add
less than `255·2^227 < 2^253` — so that step's `CKDpriv`
can fail only with `Bip32KeyError` and only because the new left half is `≡ 0 (mod L)`
(`ckdZ n k' i` is the HMAC output `Z` of that step). -/
theorem kholaw_master_path_no_overflow (seed : Bytes) (m : Node)
    (h : kholawMaster .kholaw kholawMasterKey seed = .ok m) (l : List Nat) (hl : l.length ≤ 255)
    (pre : List Nat) (i : Nat) (post : List Nat) (hsplit : l = pre ++ i :: post) (n : Node)
    (hn : pre.foldlM kholawChildKey m = .ok n) :
    ∃ k', n.priv = some k' ∧ n.scheme = .kholaw ∧
      (Bytes.toNatLE (((ckdZ n k' i).take 32).take 28) * 8 + Bytes.toNatLE (k'.take 32)) < 2 ^ 255 ∧
      ∀ e, kholawCkdPriv n k' i = .error e ↔
        e = .key ∧ (Bytes.toNatLE (((ckdZ n k' i).take 32).take 28) * 8 + Bytes.toNatLE (k'.take 32)) % edL = 0 := by
  obtain ⟨k, cc, hg, hp, _, hs, _⟩ := kholawMaster_ok _ _ _ _ h
  exact kholaw_path_no_overflow l m k hs hp
    (master_room _ _ (kholawMasterKey_ok seed k cc hg).2.2.2.1.lt hl) pre i post hsplit n hn

theorem icarus_master_path_no_overflow (seed : Bytes) (m : Node)
    (h : kholawMaster .kholaw icarusMasterKey seed = .ok m) (l : List Nat) (hl : l.length ≤ 255)
    (pre : List Nat) (i : Nat) (post : List Nat) (hsplit : l = pre ++ i :: post) (n : Node)
    (hn : pre.foldlM kholawChildKey m = .ok n) :
    ∃ k', n.priv = some k' ∧ n.scheme = .kholaw ∧
      (Bytes.toNatLE (((ckdZ n k' i).take 32).take 28) * 8 + Bytes.toNatLE (k'.take 32)) < 2 ^ 255 ∧
      ∀ e, kholawCkdPriv n k' i = .error e ↔
        e = .key ∧ (Bytes.toNatLE (((ckdZ n k' i).take 32).take 28) * 8 + Bytes.toNatLE (k'.take 32)) % edL = 0 := by
  obtain ⟨k, cc, hg, hp, _, hs, _⟩ := kholawMaster_ok _ _ _ _ h
  exact kholaw_path_no_overflow l m k hs hp
    (master_room _ _ (icarusMasterKey_ok seed k cc hg).2.2.2.lt hl) pre i post hsplit n hn

/-- `OverflowError` is never raised along any path (of any length) from such masters -/
theorem kholaw_master_path_never_overflow (seed : Bytes) (m : Node)
    (h : kholawMaster .kholaw kholawMasterKey seed = .ok m) (l : List Nat) :
    l.foldlM kholawChildKey m ≠ .error .overflow := by
  obtain ⟨k, _, _, hp, _, hs, _⟩ := kholawMaster_ok _ _ _ _ h
  exact kholaw_path_never_overflow l m k hs hp

theorem icarus_master_path_never_overflow (seed : Bytes) (m : Node)
    (h : kholawMaster .kholaw icarusMasterKey seed = .ok m) (l : List Nat) :
    l.foldlM kholawChildKey m ≠ .error .overflow := by
  obtain ⟨k, _, _, hp, _, hs, _⟩ := kholawMaster_ok _ _ _ _ h
  exact kholaw_path_never_overflow l m k hs hp

theorem kholaw_path_bound (l : List Nat) (nd c : Node) (k : Bytes)
    (hs : nd.scheme = .kholaw) (hp : nd.priv = some k) (h : l.foldlM kholawChildKey nd = .ok c) :
    ∃ k', c.priv = some k' ∧ c.scheme = .kholaw ∧
      Bytes.toNatLE (k.take 32) ≤ Bytes.toNatLE (k'.take 32) ∧
      Bytes.toNatLE (k'.take 32) < Bytes.toNatLE (k.take 32) + l.length * 2 ^ 227 + 1 ∧
      (8 ∣ Bytes.toNatLE (k.take 32) → 8 ∣ Bytes.toNatLE (k'.take 32)) := by
  obtain ⟨k', zs, p', s', hlen, hch⟩ := kholaw_path_chain l nd c k hs hp h
  obtain ⟨a, b, d⟩ := CardanoLemmas.kholaw_depth_bound zs _ _ hch
  rw [hlen] at b
  exact ⟨k', p', s', a, Nat.lt_succ_of_le b, d⟩

/-- Byron legacy: `(8 ⊙ zL + kL) mod L` with byte-wise (carry-less) multiplication; never fails -/
theorem legacy_variant_spec (zl kl r : Bytes) (h : kholawNewLeft .byronLegacy zl kl = .ok r) :
    Bytes.toNatLE r = (Bytes.toNatLE (mulNoCarry8 zl) + Bytes.toNatLE kl) % edL ∧ r.length = 32 := by
  rw [kholawNewLeft_legacy_eq] at h; exact toBytesLE_toNatLE h

theorem legacy_variant_total (zl kl : Bytes) : ∃ r, kholawNewLeft .byronLegacy zl kl = .ok r := by
  rw [kholawNewLeft_legacy_eq, toBytesLE_ok_iff]
  exact Nat.lt_trans (Nat.mod_lt _ EccLemmas.edL_pos) EccLemmas.edL_lt

theorem legacy_mul_bytewise (b : Bytes) (i : Nat) :
    (mulNoCarry8 b).length = b.length ∧
    ((mulNoCarry8 b).getD i 0).toNat = (b.getD i 0).toNat * 8 % 256 :=
  ⟨mulNoCarry8_length b, mulNoCarry8_getD b i⟩

/-- right half: `(zR + kR) mod 2^256`; Byron legacy adds byte-wise instead (`legacy_right_spec`), which
is not the same (`legacy_right_not_modular`) -/
theorem kholaw_right_spec (zr kr : Bytes) :
    ∃ r, kholawNewRight .kholaw zr kr = .ok r ∧
      Bytes.toNatLE r = (Bytes.toNatLE zr + Bytes.toNatLE kr) % 2 ^ 256 ∧ r.length = 32 :=
  ⟨_, kholawNewRight_kholaw zr kr, toNatLE_ofNatLE (Nat.mod_lt _ (by decide)), length_ofNatLE _ _⟩

theorem legacy_right_spec (zr kr : Bytes) :
    kholawNewRight .byronLegacy zr kr = .ok (addNoCarry zr kr) ∧
    (addNoCarry zr kr).length = min zr.length kr.length ∧
    ∀ i, i < zr.length → i < kr.length →
      ((addNoCarry zr kr).getD i 0).toNat = ((zr.getD i 0).toNat + (kr.getD i 0).toNat) % 256 :=
  ⟨kholawNewRight_legacy_eq zr kr, addNoCarry_length zr kr, addNoCarry_getD zr kr⟩

theorem legacy_right_not_modular :
    ∃ zr kr : Bytes, zr.length = 32 ∧ kr.length = 32 ∧
      Bytes.toNatLE (addNoCarry zr kr) ≠ (Bytes.toNatLE zr + Bytes.toNatLE kr) % 2 ^ 256 :=
  ⟨255 :: List.replicate 31 0, 1 :: List.replicate 31 0, by decide, by decide, by decide +kernel⟩

/-- index serialisation: 4 bytes, little-endian (Khovratovich-Law/Icarus) vs big-endian (legacy) -/
theorem index_bytes_spec (s : Scheme) (idx : Nat) :
    (kholawIndexBytes s idx).length = 4 ∧
    (s = .byronLegacy → kholawIndexBytes s idx = Bytes.ofNatBE 4 idx) ∧
    (s ≠ .byronLegacy → kholawIndexBytes s idx = Bytes.ofNatLE 4 idx) ∧
    (idx < 2 ^ 32 → s = .byronLegacy → Bytes.toNatBE (kholawIndexBytes s idx) = idx) ∧
    (idx < 2 ^ 32 → s ≠ .byronLegacy → Bytes.toNatLE (kholawIndexBytes s idx) = idx) := by
  unfold kholawIndexBytes
  refine ⟨by split <;> simp, fun h => by rw [if_pos h], fun h => by rw [if_neg h], ?_, ?_⟩
  · intro hi h; rw [if_pos h]; exact toNatBE_ofNatBE (by norm_num; omega)
  · intro hi h; rw [if_neg h]; exact toNatLE_ofNatLE (by norm_num; omega)

/-- payment address: Bech32 of `netTag ‖ H(pub) ‖ H(stake)` (57 bytes); decodes to the two hashes.
`k`, `s` are the validated (33-byte, `0x00`-prefixed) keys. -/
theorem shelley_decode_encode (hrp : List Char) (hv : ValidHrp hrp) (netTag : Nat) (hn : netTag ≤ 15)
    (pub stake : Bytes) (a : List Char) (h : shelleyEncode hrp netTag pub stake = .ok a) :
    ∃ k s, addrKey .ed25519 pub = .ok k ∧ addrKey .ed25519 stake = .ok s ∧
      bech32Encode hrp ([UInt8.ofNat netTag] ++ blake2b224 (k.drop 1) ++ blake2b224 (s.drop 1)) = .ok a ∧
      shelleyDecode hrp netTag a = .ok (blake2b224 (k.drop 1) ++ blake2b224 (s.drop 1)) :=
  CardanoLemmas.shelley_decode_encode hrp hv netTag (by omega) pub stake a h

/-- staking address: header `0xE0 + netTag`, 29-byte payload -/
theorem staking_decode_encode (hrp : List Char) (hv : ValidHrp hrp) (netTag : Nat) (hn : netTag ≤ 15)
    (pub : Bytes) (a : List Char) (h : shelleyStakingEncode hrp netTag pub = .ok a) :
    ∃ k, addrKey .ed25519 pub = .ok k ∧
      bech32Encode hrp ([UInt8.ofNat (0xE0 + netTag)] ++ blake2b224 (k.drop 1)) = .ok a ∧
      shelleyStakingDecode hrp netTag a = .ok (blake2b224 (k.drop 1)) :=
  CardanoLemmas.staking_decode_encode hrp hv netTag (by omega) pub a h

/-- `82 d8 18 ‖ bytes(payload) ‖ uint(crc32 payload)` with payload `83 58 1c ‖ rootHash ‖ attrs ‖ 00` -/
theorem byron_addr_structure (pub cc : Bytes) (hdEnc : Option Bytes) :
    byronAddrBytes pub cc hdEnc =
      [0x82, 0xd8, 0x18] ++ cborBytesItem (byronPayload pub cc hdEnc) ++
        cborHead 0 (crc32 (byronPayload pub cc hdEnc)) ∧
    cborUint (crc32 (byronPayload pub cc hdEnc)) = .ok (cborHead 0 (crc32 (byronPayload pub cc hdEnc))) ∧
    byronPayload pub cc hdEnc =
      [0x83, 0x58, 0x1c] ++ byronRootHash pub cc hdEnc ++ byronAttrs hdEnc ++ [0x00] := by
  refine ⟨?_, ?_, byronPayload_layout _ _ (byronRootHash_length pub cc hdEnc)⟩
  · rw [byronAddrBytes_eq]
    generalize byronPayload pub cc hdEnc = payload
    rfl
  · rw [cborUint_ok (by have := crc32_lt (byronPayload pub cc hdEnc); omega), cborBytes_eq_cborHead]

/-- decode ∘ encode = root hash ‖ encrypted path (stated for any `pub`, `cc`; in particular the
32-byte ones) -/
theorem byron_decode_encode (pub cc : Bytes) (hdEnc : Option Bytes)
    (hl : (hdEnc.getD []).length < 2 ^ 16) :
    byronDecode (b58Encode btcAlphabet (byronAddrBytes pub cc hdEnc)) =
      .ok (blake2b224 (sha3_256 (byronRoot pub cc hdEnc)) ++ hdEnc.getD []) :=
  CardanoLemmas.byron_decode_encode pub cc hdEnc (by omega)

/-- the CRC is really checked: any other trailing CRC value is refused with `ValueError` -/
theorem byron_crc_verifies (payload : Bytes) (crc : Nat) (hp : payload.length < 2 ^ 64)
    (hc : crc < 2 ^ 64) (hne : crc ≠ crc32 payload) :
    byronDecode (b58Encode btcAlphabet
      (cborHead 4 2 ++ (cborHead 6 24 ++ cborBytesItem payload) ++ cborHead 0 crc)) = .error .value :=
  byronDecode_crc_ne (byronWrapped_encode payload crc hp hc) hne

theorem byron_icarus_decode_encode (pub cc : Bytes) (a : List Char) (h : byronIcarusEncode pub cc = .ok a) :
    ∃ k, pubFromBytes .ed25519 pub = some k ∧ byronDecode a = .ok (byronRootHash (k.drop 1) cc none) := by
  obtain ⟨k, hk, _, rfl⟩ := byronIcarusEncode_ok pub cc a h
  refine ⟨k, hk, ?_⟩
  rw [CardanoLemmas.byron_decode_encode (k.drop 1) cc none (by decide), Option.getD_none,
    List.append_nil]

/-- without an HD-path key the legacy encoder is the Icarus encoder -/
theorem byron_legacy_encode_no_key (aead : Aead) (pub cc : Bytes) (path : List Nat) :
    byronLegacyEncode aead pub cc path none = byronIcarusEncode pub cc := by
  unfold byronLegacyEncode byronIcarusEncode
  simp only [bind, Except.bind, pure, Except.pure]

/-- Byron-legacy addresses decode to `rootHash ‖ AEAD(cbor path)` -/
theorem byron_legacy_decode_encode (aead : Aead) (pub cc : Bytes) (path : List Nat) (key : Bytes)
    (a : List Char) (h : byronLegacyEncode aead pub cc path (some key) = .ok a)
    (hlen : ∀ p, (aead key byronNonce [] p).length + 200 < 2 ^ 64) :
    ∃ k plain, pubFromBytes .ed25519 pub = some k ∧ cborIndefEncode path = .ok plain ∧
      key.length = 32 ∧ cc.length = 32 ∧
      byronDecode a = .ok (byronRootHash (k.drop 1) cc (some (aead key byronNonce [] plain)) ++
        aead key byronNonce [] plain) := by
  obtain ⟨k, plain, hk, hplain, hkl, hcl, rfl⟩ := byronLegacyEncode_ok aead pub cc path key a h
  exact ⟨k, plain, hk, hplain, hkl, hcl,
    CardanoLemmas.byron_decode_encode (k.drop 1) cc (some _) (hlen plain)⟩

/-- path recovery under the AEAD law (`dec (ct[:-16]) (ct[-16:]) = plaintext`, `|ct| = |p| + 16`) -/
theorem byron_path_recover (aead : Aead) (dec : AeadDec) (law : AeadLaw aead dec) (master : Node)
    (first second : Nat) (addr : List Char)
    (h : byronLegacyAddress aead master first second = .ok addr) :
    byronRecoverPathWith dec master addr = .ok [harden first, harden second] := by
  obtain ⟨hf, hs, nd, _, henc⟩ := byronLegacyAddress_ok aead master first second addr h
  obtain ⟨k, plain, _, hplain, _, _, rfl⟩ := byronLegacyEncode_ok _ _ _ _ _ _ henc
  have hrange : ∀ n ∈ [harden first, harden second], n ≤ 2 ^ 32 - 1 := by
    intro n hn
    rcases List.mem_pair.mp hn with rfl | rfl
    · exact Nat.le_sub_one_of_lt (harden_lt first (by omega))
    · exact Nat.le_sub_one_of_lt (harden_lt second (by omega))
  have hlt : ∀ n ∈ [harden first, harden second], n < 2 ^ 64 := fun n hn => by
    have := hrange n hn; omega
  have hrt := cborIndef_roundtrip (List.cons_ne_nil _ _) hlt
  rw [hplain, ok_bind] at hrt
  have hpl : plain.length ≤ 20 := by
    rw [cborIndefEncode_ok hlt] at hplain
    cases hplain
    have := flatten_cborBytes_length_le [harden first, harden second]
    simp only [List.length_append, List.length_cons, List.length_nil] at this ⊢; omega
  have hct := law.length (byronHdPathKey master) byronNonce [] plain
  refine byronRecoverPathWith_ok
    (CardanoLemmas.byron_decode_encode (k.drop 1) nd.chainCode (some _) (by rw [Option.getD_some, hct]; omega))
    ?_ hrt hrange
  rw [Option.getD_some, List.drop_left' (byronRootHash_length _ _ _)]
  exact law.dec_enc _ _ _ _

/-- the AEAD law holds of the reference ChaCha20-Poly1305 of `Prim` (xor with a key stream is an
involution; the tag is recomputed from the same ciphertext; the tag has 16 bytes) -/
theorem chacha_aead_law : AeadLaw chachaAead chacha20Poly1305Decrypt := chacha_aeadLaw

theorem chacha20_involutive (key : Bytes) (counter : Nat) (nonce data : Bytes) :
    chacha20Xor key counter nonce (chacha20Xor key counter nonce data) = data :=
  chacha20Xor_involutive key counter nonce data

theorem driver_aead_eq : Driver.chachaAead = chachaAead := by
  funext key nonce aad plain
  simp only [Driver.chachaAead, chachaAead, chacha20Poly1305Encrypt]

theorem driver_recover_eq (master : Node) (addr : List Char) :
    Driver.byronRecoverPath master addr = byronRecoverPathWith chacha20Poly1305Decrypt master addr := by
  unfold Driver.byronRecoverPath byronRecoverPathWith
  rfl

/-- with no hypothesis, the driver's AEAD and path recovery being the functions the law was proved of
(`driver_aead_eq`, `driver_recover_eq`): the wallet's own addresses give the derivation path back -/
theorem byron_path_recover_chacha (master : Node) (first second : Nat) (addr : List Char)
    (h : byronLegacyAddress Driver.chachaAead master first second = .ok addr) :
    Driver.byronRecoverPath master addr = .ok [harden first, harden second] := by
  rw [driver_recover_eq]; rw [driver_aead_eq] at h
  exact byron_path_recover chachaAead _ chacha_aeadLaw master first second addr h

end BipVerif.Props.C18
