/-
C17 — Electrum v2 and the word lists of languages it does not define.  The library's auto-detection walks all nine BIP-39 lists in
enumeration order (simplified and traditional Chinese, Czech, English, French, Italian, Korean, Portuguese, Spanish —
`C01Tables.bip39_language_order`) and refuses a result outside {simplified Chinese, English, Portuguese, Spanish}, the languages
Electrum v2 defines (finding F-ev2-foreign-language); the model detects over those four lists only.  The two are the same function
because of the table facts proved here on the lists regenerated from /repo on every run: a list of an undefined language shares no
word with a defined list that comes AFTER it in detection order (a sentence readable in both would be detected as the undefined one
and refused, although a defined list reads it).  Where the defined list comes first detection stops at it and nothing is needed; the
lists that do share words (English and French, simplified and traditional Chinese) are such pairs, and no theorem speaks of them.
-/
import BipVerif.Props.C01Tables

namespace BipVerif.Props.C17Langs
open BipVerif BipVerif.Table

/-- no word in common: the concatenation has no duplicates -/
def Disjoint' (a b : List Nat) : Prop := (a ++ b).Nodup

theorem disjoint_of_nodup {a b : List Nat} (h : Disjoint' a b) : ∀ w ∈ a, w ∉ b := by
  intro w ha hb
  exact (List.nodup_append.mp h).2.2 w ha w hb rfl

theorem traditionalChinese_vs_later_defined :
    Disjoint' Gen.bip39_chineseTraditional Gen.bip39_english ∧ Disjoint' Gen.bip39_chineseTraditional Gen.bip39_portuguese ∧
    Disjoint' Gen.bip39_chineseTraditional Gen.bip39_spanish := by
  obtain ⟨_, ⟨h1, h2, h3⟩, _⟩ := C01Tables.bip39_lists_check
  exact ⟨disjointCheck_sound h1, disjointCheck_sound h2, disjointCheck_sound h3⟩

theorem czech_vs_later_defined :
    Disjoint' Gen.bip39_czech Gen.bip39_english ∧ Disjoint' Gen.bip39_czech Gen.bip39_portuguese ∧ Disjoint' Gen.bip39_czech Gen.bip39_spanish := by
  obtain ⟨_, _, ⟨h1, h2, h3⟩, _⟩ := C01Tables.bip39_lists_check
  exact ⟨disjointCheck_sound h1, disjointCheck_sound h2, disjointCheck_sound h3⟩

theorem french_vs_later_defined :
    Disjoint' Gen.bip39_french Gen.bip39_portuguese ∧ Disjoint' Gen.bip39_french Gen.bip39_spanish := by
  obtain ⟨_, _, _, ⟨h1, h2⟩, _⟩ := C01Tables.bip39_lists_check
  exact ⟨disjointCheck_sound h1, disjointCheck_sound h2⟩

theorem italian_vs_later_defined :
    Disjoint' Gen.bip39_italian Gen.bip39_portuguese ∧ Disjoint' Gen.bip39_italian Gen.bip39_spanish := by
  obtain ⟨_, _, _, _, ⟨h1, h2⟩, _⟩ := C01Tables.bip39_lists_check
  exact ⟨disjointCheck_sound h1, disjointCheck_sound h2⟩

theorem korean_vs_later_defined :
    Disjoint' Gen.bip39_korean Gen.bip39_portuguese ∧ Disjoint' Gen.bip39_korean Gen.bip39_spanish := by
  obtain ⟨_, _, _, _, _, h1, h2⟩ := C01Tables.bip39_lists_check
  exact ⟨disjointCheck_sound h1, disjointCheck_sound h2⟩

end BipVerif.Props.C17Langs
