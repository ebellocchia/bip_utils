/-
C07 — "purpose and coin type fixed by the standard and the coin": the hierarchy constants of every
registered coin (SLIP-44 coin type, default path, BIP-32 class) in the table regenerated from /repo on
this run equal the pinned registry.  Only the fields the hierarchy discipline depends on are projected,
so a change to an address or version constant (C08's business) does not touch this theorem.
-/
import BipVerif.Gen.Coins
import BipVerif.Golden.Coins
import BipVerif.Lemmas.Registry

namespace BipVerif.Props.C07Tables
open BipVerif BipVerif.Model

/-- the fields of a coin row the BIP-44 level discipline reads -/
def hier (r : CoinRow) : String × String × String × Nat × String × String :=
  (r.family, r.member, r.variant, r.coinIdx, r.defPath, r.bip32)

/-- every registered member is configured with its registered coin type, default path and key scheme -/
theorem coin_types_registered : ∀ g ∈ Golden.coinRows.map hier, g ∈ Gen.coinRows.map hier := by
  first
  | exact Table.subset_of_eq rfl
  | exact Table.subset_of_check (by decide +kernel)

/-- the registry is not empty (the statement above is not vacuous) -/
theorem registry_nonempty : Golden.coinRows ≠ [] := by decide

end BipVerif.Props.C07Tables
