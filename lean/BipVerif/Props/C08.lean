/-
C08 — constants pinned: table theorems re-checked on every run over the coin table regenerated
from /repo (`Gen.coinRows`) against the pinned registry (`Golden.coinRows`).
-/
import BipVerif.Gen.Coins
import BipVerif.Golden.Coins
import BipVerif.Model.Bip44
import BipVerif.Lemmas.Registry

namespace BipVerif.Props.C08
open BipVerif BipVerif.Model

/-- every registered member is present with exactly its registered constants (SLIP-44 index, key and WIF
version bytes, address format and parameters, default path, curve, alias class); new members are allowed -/
theorem consts_eq_registry : ∀ g ∈ Golden.coinRows, g ∈ Gen.coinRows := by
  first
  | exact Table.subset_of_eq rfl
  | exact Table.subset_of_check (by decide +kernel)

/-- the same for the Substrate and Monero coins, which are not BIP-44 members: coin name, abbreviation
and parameters -/
theorem other_consts_eq_registry : ∀ g ∈ Golden.otherCoins, g ∈ Gen.otherCoins := by
  first
  | exact Table.subset_of_eq rfl
  | decide +kernel

/-- well-formedness of every configured member: version words are 4 bytes, the WIF version is one
byte, the BIP-32 class is known, the default path parses as a relative path, the SLIP-44 index is
below `2^31` (it is used hardened) -/
def rowWf (r : CoinRow) : Bool :=
  r.keyNetPub.length == 4 && r.keyNetPriv.length == 4 && (match r.wifNetVer with | some v => v.length == 1 | none => true)
    && (bip32ClassOf r.bip32).isSome
    && (match parsePath r.defPath.toList with | .ok p => !p.absolute | .error _ => false)
    && decide (r.coinIdx < 2 ^ 31)

theorem table_wf : ∀ r ∈ Gen.coinRows, rowWf r = true := by
  -- `parsePath` is by far the dearest conjunct and the rows share a handful of default paths
  have hpath := Table.all_of_dedup_check (f := (·.defPath)) (l := Gen.coinRows)
    (q := fun s => match parsePath s.toList with | .ok p => !p.absolute | .error _ => false) (by decide +kernel)
  have hrest : ∀ r ∈ Gen.coinRows, (r.keyNetPub.length == 4 && r.keyNetPriv.length == 4
      && (match r.wifNetVer with | some v => v.length == 1 | none => true)
      && (bip32ClassOf r.bip32).isSome && decide (r.coinIdx < 2 ^ 31)) = true := by decide +kernel
  intro r hr
  have h := hrest r hr
  simp only [Bool.and_eq_true] at h
  simp only [rowWf, Bool.and_eq_true]
  exact ⟨⟨h.1, hpath r hr⟩, h.2⟩

/-- members denoting one configuration object (aliases) agree on every constant -/
theorem aliases_same_conf : ∀ a ∈ Gen.coinRows, ∀ b ∈ Gen.coinRows,
    a.family = b.family → a.confId = b.confId → a.variant = b.variant →
      { a with member := "" } = { b with member := "" } := by
  intro a ha b hb hf hc hv
  exact Table.forall_pairs_of_check (key := (·.confId)) (l := Gen.coinRows)
    (R := fun a b => a.family = b.family → a.variant = b.variant → { a with member := "" } = { b with member := "" })
    (fun _ _ _ => rfl) (fun _ _ h hf hv => (h hf.symm hv.symm).symm) (by decide +kernel) a ha b hb hc hf hv

end BipVerif.Props.C08
