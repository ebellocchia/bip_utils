/-
C14 for the address classes — GENERATED by tools/gen_c14addr.py from the error-kind theorems of Props/C09.lean:
every failure of an address encoder or decoder of the model is a `ValueError`, hence inside the documented family.
-/
import BipVerif.Props.C09

namespace BipVerif.Props.C14Addr
open BipVerif BipVerif.Model

theorem p2pkh_encode (netVer : Bytes) (alph : List Char) (compressed : Bool) (pub : Bytes) (e : Err) (h : p2pkhEncode netVer alph compressed pub = .error e) : e.documented = true :=
  C09.P2pkh.encode_error_kind netVer alph compressed pub e h ▸ rfl

theorem p2pkh_decode (netVer : Bytes) (alph addr : List Char) (e : Err) (h : p2pkhDecode netVer alph addr = .error e) : e.documented = true :=
  C09.P2pkh.decode_error_kind netVer alph addr e h ▸ rfl

theorem xrp_encode (netVer pub : Bytes) (e : Err) (h : p2pkhEncode netVer xrpAlphabet true pub = .error e) : e.documented = true :=
  C09.Xrp.encode_error_kind netVer pub e h ▸ rfl

theorem xrp_decode (netVer : Bytes) (addr : List Char) (e : Err) (h : p2pkhDecode netVer xrpAlphabet addr = .error e) : e.documented = true :=
  C09.Xrp.decode_error_kind netVer addr e h ▸ rfl

theorem p2sh_encode (netVer pub : Bytes) (e : Err) (h : p2shEncode netVer pub = .error e) : e.documented = true :=
  C09.P2sh.encode_error_kind netVer pub e h ▸ rfl

theorem p2sh_decode (netVer : Bytes) (addr : List Char) (e : Err) (h : p2pkhDecode netVer btcAlphabet addr = .error e) : e.documented = true :=
  C09.P2sh.decode_error_kind netVer addr e h ▸ rfl

theorem bchP2pkh_encode (hrp : List Char) (netVer pub : Bytes) (e : Err) (h : bchP2pkhEncode hrp netVer pub = .error e) : e.documented = true :=
  C09.BchP2pkh.encode_error_kind hrp netVer pub e h ▸ rfl

theorem bchP2pkh_decode (hrp : List Char) (netVer : Bytes) (addr : List Char) (e : Err) (h : bchAddrDecode hrp netVer addr = .error e) : e.documented = true :=
  C09.BchP2pkh.decode_error_kind hrp netVer addr e h ▸ rfl

theorem bchP2sh_encode (hrp : List Char) (netVer pub : Bytes) (e : Err) (h : bchP2shEncode hrp netVer pub = .error e) : e.documented = true :=
  C09.BchP2sh.encode_error_kind hrp netVer pub e h ▸ rfl

theorem bchP2sh_decode (hrp : List Char) (netVer : Bytes) (addr : List Char) (e : Err) (h : bchAddrDecode hrp netVer addr = .error e) : e.documented = true :=
  C09.BchP2sh.decode_error_kind hrp netVer addr e h ▸ rfl

theorem p2wpkh_encode (hrp : List Char) (pub : Bytes) (e : Err) (h : p2wpkhEncode hrp pub = .error e) : e.documented = true :=
  C09.P2wpkh.encode_error_kind hrp pub e h ▸ rfl

theorem p2wpkh_decode (hrp addr : List Char) (e : Err) (h : p2wpkhDecode hrp addr = .error e) : e.documented = true :=
  C09.P2wpkh.decode_error_kind hrp addr e h ▸ rfl

theorem p2tr_encode (hrp : List Char) (pub : Bytes) (e : Err) (h : p2trEncode hrp pub = .error e) : e.documented = true :=
  C09.P2tr.encode_error_kind hrp pub e h ▸ rfl

theorem p2tr_decode (hrp addr : List Char) (e : Err) (h : p2trDecode hrp addr = .error e) : e.documented = true :=
  C09.P2tr.decode_error_kind hrp addr e h ▸ rfl

theorem atom_encode (hrp : List Char) (pub : Bytes) (e : Err) (h : atomEncode hrp pub = .error e) : e.documented = true :=
  C09.Atom.encode_error_kind hrp pub e h ▸ rfl

theorem atom_decode (hrp addr : List Char) (e : Err) (h : atomDecode hrp addr = .error e) : e.documented = true :=
  C09.Atom.decode_error_kind hrp addr e h ▸ rfl

theorem avax_encode (pfx hrp : List Char) (pub : Bytes) (e : Err) (h : avaxEncode pfx hrp pub = .error e) : e.documented = true :=
  C09.Avax.encode_error_kind pfx hrp pub e h ▸ rfl

theorem avax_decode (pfx hrp addr : List Char) (e : Err) (h : avaxDecode pfx hrp addr = .error e) : e.documented = true :=
  C09.Avax.decode_error_kind pfx hrp addr e h ▸ rfl

theorem zil_encode (hrp : List Char) (pub : Bytes) (e : Err) (h : zilEncode hrp pub = .error e) : e.documented = true :=
  C09.Zil.encode_error_kind hrp pub e h ▸ rfl

theorem zil_decode (hrp addr : List Char) (e : Err) (h : atomDecode hrp addr = .error e) : e.documented = true :=
  C09.Zil.decode_error_kind hrp addr e h ▸ rfl

theorem egld_encode (hrp : List Char) (pub : Bytes) (e : Err) (h : egldEncode hrp pub = .error e) : e.documented = true :=
  C09.Egld.encode_error_kind hrp pub e h ▸ rfl

theorem egld_decode (hrp addr : List Char) (e : Err) (h : egldDecode hrp addr = .error e) : e.documented = true :=
  C09.Egld.decode_error_kind hrp addr e h ▸ rfl

theorem eth_encode (pfx : List Char) (skipChk : Bool) (pub : Bytes) (e : Err) (h : ethEncode pfx skipChk pub = .error e) : e.documented = true :=
  C09.Eth.encode_error_kind pfx skipChk pub e h ▸ rfl

theorem eth_decode (pfx : List Char) (skipChk : Bool) (addr : List Char) (e : Err) (h : ethDecode pfx skipChk addr = .error e) : e.documented = true :=
  C09.Eth.decode_error_kind pfx skipChk addr e h ▸ rfl

theorem trx_encode (pfx pub : Bytes) (e : Err) (h : trxEncode pfx pub = .error e) : e.documented = true :=
  C09.Trx.encode_error_kind pfx pub e h ▸ rfl

theorem trx_decode (pfx : Bytes) (addr : List Char) (e : Err) (h : trxDecode pfx addr = .error e) : e.documented = true :=
  C09.Trx.decode_error_kind pfx addr e h ▸ rfl

theorem ethBech32_encode (hrp : List Char) (pub : Bytes) (e : Err) (h : ethBech32Encode hrp pub = .error e) : e.documented = true :=
  C09.EthBech32.encode_error_kind hrp pub e h ▸ rfl

theorem ethBech32_decode (hrp addr : List Char) (e : Err) (h : ethBech32Decode hrp addr = .error e) : e.documented = true :=
  C09.EthBech32.decode_error_kind hrp addr e h ▸ rfl

theorem inj_encode (hrp : List Char) (pub : Bytes) (e : Err) (h : ethBech32Encode hrp pub = .error e) : e.documented = true :=
  C09.Inj.encode_error_kind hrp pub e h ▸ rfl

theorem inj_decode (hrp addr : List Char) (e : Err) (h : injDecode hrp addr = .error e) : e.documented = true :=
  C09.Inj.decode_error_kind hrp addr e h ▸ rfl

theorem icx_encode (pfx : List Char) (pub : Bytes) (e : Err) (h : icxEncode pfx pub = .error e) : e.documented = true :=
  C09.Icx.encode_error_kind pfx pub e h ▸ rfl

theorem icx_decode (pfx addr : List Char) (e : Err) (h : icxDecode pfx addr = .error e) : e.documented = true :=
  C09.Icx.decode_error_kind pfx addr e h ▸ rfl

theorem sui_encode (pfx : List Char) (pub : Bytes) (e : Err) (h : suiEncode pfx pub = .error e) : e.documented = true :=
  C09.Sui.encode_error_kind pfx pub e h ▸ rfl

theorem sui_decode (pfx addr : List Char) (e : Err) (h : suiDecode pfx addr = .error e) : e.documented = true :=
  C09.Sui.decode_error_kind pfx addr e h ▸ rfl

theorem aptos_encode (pfx : List Char) (trim : Bool) (pub : Bytes) (e : Err) (h : aptosEncode pfx trim pub = .error e) : e.documented = true :=
  C09.Aptos.encode_error_kind pfx trim pub e h ▸ rfl

theorem aptos_decode (pfx addr : List Char) (e : Err) (h : aptosDecode pfx addr = .error e) : e.documented = true :=
  C09.Aptos.decode_error_kind pfx addr e h ▸ rfl

theorem near_encode (pub : Bytes) (e : Err) (h : nearEncode pub = .error e) : e.documented = true :=
  C09.Near.encode_error_kind pub e h ▸ rfl

theorem near_decode (addr : List Char) (e : Err) (h : nearDecode addr = .error e) : e.documented = true :=
  C09.Near.decode_error_kind addr e h ▸ rfl

theorem eos_encode (pfx : List Char) (pub : Bytes) (e : Err) (h : eosEncode pfx pub = .error e) : e.documented = true :=
  C09.Eos.encode_error_kind pfx pub e h ▸ rfl

theorem eos_decode (pfx addr : List Char) (e : Err) (h : eosDecode pfx addr = .error e) : e.documented = true :=
  C09.Eos.decode_error_kind pfx addr e h ▸ rfl

theorem ergo_encode (netType : Nat) (pub : Bytes) (e : Err) (h : ergoEncode netType pub = .error e) : e.documented = true :=
  C09.Ergo.encode_error_kind netType pub e h ▸ rfl

theorem ergo_decode (netType : Nat) (addr : List Char) (e : Err) (h : ergoDecode netType addr = .error e) : e.documented = true :=
  C09.Ergo.decode_error_kind netType addr e h ▸ rfl

theorem sol_encode (pub : Bytes) (e : Err) (h : solEncode pub = .error e) : e.documented = true :=
  C09.Sol.encode_error_kind pub e h ▸ rfl

theorem sol_decode (addr : List Char) (e : Err) (h : solDecode addr = .error e) : e.documented = true :=
  C09.Sol.decode_error_kind addr e h ▸ rfl

theorem xtz_encode (pfx pub : Bytes) (e : Err) (h : xtzEncode pfx pub = .error e) : e.documented = true :=
  C09.Xtz.encode_error_kind pfx pub e h ▸ rfl

theorem xtz_decode (pfx : Bytes) (addr : List Char) (e : Err) (h : xtzDecode pfx addr = .error e) : e.documented = true :=
  C09.Xtz.decode_error_kind pfx addr e h ▸ rfl

theorem neo_encode (ver pfx sfx pub : Bytes) (e : Err) (h : neoEncode ver pfx sfx pub = .error e) : e.documented = true :=
  C09.Neo.encode_error_kind ver pfx sfx pub e h ▸ rfl

theorem neo_decode (ver : Bytes) (addr : List Char) (e : Err) (h : neoDecode ver addr = .error e) : e.documented = true :=
  C09.Neo.decode_error_kind ver addr e h ▸ rfl

theorem algo_encode (pub : Bytes) (e : Err) (h : algoEncodeAddr pub = .error e) : e.documented = true :=
  C09.Algo.encode_error_kind pub e h ▸ rfl

theorem algo_decode (addr : List Char) (e : Err) (h : algoDecodeAddr addr = .error e) : e.documented = true :=
  C09.Algo.decode_error_kind addr e h ▸ rfl

theorem xlm_encode (addrType : Nat) (pub : Bytes) (e : Err) (h : xlmEncode addrType pub = .error e) : e.documented = true :=
  C09.Xlm.encode_error_kind addrType pub e h ▸ rfl

theorem xlm_decode (addrType : Nat) (addr : List Char) (e : Err) (h : xlmDecode addrType addr = .error e) : e.documented = true :=
  C09.Xlm.decode_error_kind addrType addr e h ▸ rfl

theorem fil_encode (pfx : List Char) (pub : Bytes) (e : Err) (h : filEncode pfx pub = .error e) : e.documented = true :=
  C09.Fil.encode_error_kind pfx pub e h ▸ rfl

theorem fil_decode (pfx addr : List Char) (e : Err) (h : filDecode pfx addr = .error e) : e.documented = true :=
  C09.Fil.decode_error_kind pfx addr e h ▸ rfl

theorem nano_encode (pfx : List Char) (pub : Bytes) (e : Err) (h : nanoEncode pfx pub = .error e) : e.documented = true :=
  C09.Nano.encode_error_kind pfx pub e h ▸ rfl

theorem nano_decode (pfx addr : List Char) (e : Err) (h : nanoDecode pfx addr = .error e) : e.documented = true :=
  C09.Nano.decode_error_kind pfx addr e h ▸ rfl

theorem nim_encode (pfx : List Char) (pub : Bytes) (e : Err) (h : nimEncode pfx pub = .error e) : e.documented = true :=
  C09.Nim.encode_error_kind pfx pub e h ▸ rfl

theorem nim_decode (isDigitNonAscii : Char → Bool) (pfx addr : List Char) (e : Err) (h : nimDecode isDigitNonAscii pfx addr = .error e) : e.documented = true :=
  C09.Nim.decode_error_kind isDigitNonAscii pfx addr e h ▸ rfl

theorem substrateEd_encode (fmt : Nat) (pub : Bytes) (e : Err) (h : substrateEdEncode fmt pub = .error e) : e.documented = true :=
  C09.SubstrateEd.encode_error_kind fmt pub e h ▸ rfl

theorem substrateEd_decode (fmt : Nat) (addr : List Char) (e : Err) (h : substrateEdDecode fmt addr = .error e) : e.documented = true :=
  C09.SubstrateEd.decode_error_kind fmt addr e h ▸ rfl

theorem xmr_encode (netVer : Bytes) (payId : Option Bytes) (spend view : Bytes) (e : Err) (h : xmrAddrEncode netVer payId spend view = .error e) : e.documented = true :=
  C09.Xmr.encode_error_kind netVer payId spend view e h ▸ rfl

theorem xmr_decode (netVer : Bytes) (payId : Option Bytes) (addr : List Char) (e : Err) (h : xmrAddrDecode netVer payId addr = .error e) : e.documented = true :=
  C09.Xmr.decode_error_kind netVer payId addr e h ▸ rfl

end BipVerif.Props.C14Addr
