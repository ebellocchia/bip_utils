/-
C04 — watch-only derivation on the two ECDSA curves without the key-layer hypothesis:
`EcdsaLaw`/`EcdsaInfLaw` are theorems for secp256k1 and NIST P-256 (`Props/C12Group.lean`, via
Mathlib's group law), so the commutation theorems of `Props/C04.lean` hold for the executable
model as it stands.  What remains as a hypothesis is only `NoZeroSum` (the 2^-256 event in which
the public side meets the point at infinity; `ckdPub_comm_iff` shows it is exactly the obstruction).
Likewise for BIP32-Ed25519 with `KholawLaw` (`Props/C12Ed.lean`); the Electrum v1 and Monero sub-address
identities of `Lemmas/GroupModel.lean` are restated on the executable curve functions.
-/
import BipVerif.Props.C04
import BipVerif.Props.C12Group
import BipVerif.Props.C12Ed

namespace BipVerif.Props.C04Group
open BipVerif BipVerif.Prim BipVerif.Model BipVerif.GroupModel

/-- the law for whichever ECDSA curve the node is on -/
theorem ecdsaLaw_of_isEcdsa (c : CurveT) (hc : c.isEcdsa = true) : EcdsaLaw c ∧ EcdsaInfLaw c := by
  obtain rfl | rfl := (CurveT.isEcdsa_iff c).mp hc
  · exact ⟨C12Group.ecdsaLaw_secp256k1, C12Group.ecdsaInfLaw_secp256k1⟩
  · exact ⟨C12Group.ecdsaLaw_nist256p1, C12Group.ecdsaInfLaw_nist256p1⟩

/-- Commutation with no hypothesis about the curve arithmetic: deriving the non-hardened child from the
neutered parent gives the neutered child (same public key, chain code, depth, index, parent
fingerprint, or the same error) on secp256k1 and P-256 -/
theorem ckdPub_comm (nd : Node) (idx : Nat) (hc : nd.curve.isEcdsa = true) (hs : nd.Sound)
    (hh : isHardened idx = false) (hz : NoZeroSum nd idx) :
    slip10ChildKey nd.neuter idx = (slip10ChildKey nd idx).map Node.neuter :=
  C04.ckdPub_comm nd (ecdsaLaw_of_isEcdsa _ hc).1 idx hc hs hh hz

/-- commutation holds iff the public loop does not stop at a zero sum -/
theorem ckdPub_comm_iff (nd : Node) (idx : Nat) (hc : nd.curve.isEcdsa = true) (hs : nd.Sound)
    (hh : isHardened idx = false) (hi : idx < 2 ^ 32) :
    slip10ChildKey nd.neuter idx = (slip10ChildKey nd idx).map Node.neuter ↔ NoZeroSum nd idx :=
  C04.ckdPub_comm_iff nd (ecdsaLaw_of_isEcdsa _ hc).1 (ecdsaLaw_of_isEcdsa _ hc).2 idx hc hs hh hi

/-- along any path without hardened elements -/
theorem derivePath_comm (nd : Node) (hc : nd.curve.isEcdsa = true) (p : Path)
    (hl : ∀ i ∈ p.elems, isHardened i = false) (hs : nd.Sound) (hz : PathNoZeroSum nd p.elems) :
    derivePathWith slip10ChildKey nd.neuter p =
      (derivePathWith slip10ChildKey nd p).map Node.neuter :=
  C04.derivePath_comm nd (ecdsaLaw_of_isEcdsa _ hc).1 hc p hl hs hz

/-- from the master key of any seed -/
theorem master_derivePath_comm (c : CurveT) (hc : c.isEcdsa = true) (seed : Bytes) (m : Node)
    (hm : slip10Master c seed = .ok m) (p : Path) (hl : ∀ i ∈ p.elems, isHardened i = false)
    (hz : PathNoZeroSum m p.elems) :
    derivePathWith slip10ChildKey m.neuter p =
      (derivePathWith slip10ChildKey m p).map Node.neuter :=
  C04.master_derivePath_comm c (ecdsaLaw_of_isEcdsa _ hc).1 hc seed m hm p hl hz

/-! BIP32-Ed25519 (Khovratovich–Law, Cardano Icarus/Ledger): `KholawLaw` is a theorem
(`Props/C12Ed.lean`: the Edwards arithmetic of `Prim` is a group in which `B` has order `L`) -/

/-- commutation under the explicit range hypothesis on the child's left scalar -/
theorem kholaw_ckdPub_comm (nd : Node) (k : Bytes) (idx : Nat)
    (hcur : nd.curve = .ed25519Kholaw) (hsch : nd.scheme = .kholaw)
    (hp : nd.priv = some k) (hpub : pubOfPriv .ed25519Kholaw k = some nd.pub)
    (hh : isHardened idx = false)
    (hrange : Bytes.toNatLE (k.take 32) +
        kholawPubScalar .kholaw
          ((hmacSha512 nd.chainCode ([2] ++ nd.pub.drop 1 ++ kholawIndexBytes nd.scheme idx)).take 32)
        < 2 ^ 255) :
    kholawChildKey nd.neuter idx = (kholawChildKey nd idx).map Node.neuter :=
  C04.kholaw_ckdPub_comm C12Ed.kholawLaw nd k idx hcur hsch hp hpub hh hrange

/-- Success form, with no hypothesis about the arithmetic and none about the size of `kL`: whenever
the private node has a non-hardened child `c`, the watch-only node has the child `c.neuter` -/
theorem kholaw_ckdPub_comm_of_ok (nd : Node) (k : Bytes) (idx : Nat)
    (hcur : nd.curve = .ed25519Kholaw) (hsch : nd.scheme = .kholaw)
    (hp : nd.priv = some k) (hpub : pubOfPriv .ed25519Kholaw k = some nd.pub)
    (hh : isHardened idx = false) (c : Node) (hc : kholawChildKey nd idx = .ok c) :
    kholawChildKey nd.neuter idx = .ok c.neuter :=
  C04.kholaw_ckdPub_comm_of_ok C12Ed.kholawLaw nd k idx hcur hsch hp hpub hh c hc

/-- Electrum v1 (secp256k1): the public key of `(m + s) mod n` is `m·G + s·G`, on the executable
functions -/
theorem electrumV1_pub_secp256k1 (m s : ℕ) :
    secp256k1.mulG ((m + s) % secp256k1.n) = secp256k1.add (secp256k1.mulG m) (secp256k1.mulG s) := by
  have hG := C12Group.secp256k1_G_onCurve
  rw [← WGroup.ofM_nsmul_G hG, ← WGroup.ofM_add_nsmul_G hG]
  exact congrArg WGroup.ofM (GroupModel.electrumV1_pub WGroup.secp256k1_hasOrder m s)

/-- Monero sub-address keys on the executable Edwards functions: `D = B_spend + m·B` is the public
key of `(b + m) mod L`, and `C = a·D` the public key of `a·((b+m) mod L) mod L` -/
theorem monero_subaddr_ed (a b m : ℕ) :
    edAdd (edMulBase b) (edMulBase m) = edMulBase ((b + m) % edL) ∧
      edMul a (edAdd (edMulBase b) (edMulBase m)) = edMulBase (a * ((b + m) % edL) % edL) := by
  simp only [← EdGroup.ofE_nsmul_edB, ← EdGroup.ofE_add, ← EdGroup.ofE_nsmul]
  exact (GroupModel.monero_subaddr EdGroup.edB_hasOrder a b m).imp (congrArg _) (congrArg _)

end BipVerif.Props.C04Group
