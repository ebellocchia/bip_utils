/-
Table theorems for the Monero and Electrum-v1 word lists (regenerated from /repo on every run):
1626 entries, no repeated word, equal to the pinned list, and pairwise distinct `k`-code-point
prefixes (what makes the Monero checksum word well defined).
-/
import BipVerif.Gen.Words
import BipVerif.Golden.Words
import BipVerif.Lemmas.Table

namespace BipVerif.Props.C17Tables
open BipVerif BipVerif.Table

theorem monero_chineseSimplified_length : Gen.monero_chineseSimplified.length = 1626 := by
  rw [← lengthR_eq]; decide +kernel

theorem monero_chineseSimplified_pinned : Gen.monero_chineseSimplified = Golden.monero_chineseSimplified := rfl

theorem monero_chineseSimplified_prefix_unique :
    (Gen.monero_chineseSimplified.map (fun w => utf8Prefix 1 (wordBytesNat w))).Nodup := prefixSortedOrNodupCheck_sound 1 _ (by decide +kernel)

theorem monero_chineseSimplified_nodup : Gen.monero_chineseSimplified.Nodup := nodup_of_nodup_map _ _ monero_chineseSimplified_prefix_unique

theorem monero_dutch_length : Gen.monero_dutch.length = 1626 := by
  rw [← lengthR_eq]; decide +kernel

theorem monero_dutch_pinned : Gen.monero_dutch = Golden.monero_dutch := rfl

theorem monero_dutch_prefix_unique :
    (Gen.monero_dutch.map (fun w => utf8Prefix 4 (wordBytesNat w))).Nodup := prefixSortedOrNodupCheck_sound 4 _ (by decide +kernel)

theorem monero_dutch_nodup : Gen.monero_dutch.Nodup := nodup_of_nodup_map _ _ monero_dutch_prefix_unique

theorem monero_english_length : Gen.monero_english.length = 1626 := by
  rw [← lengthR_eq]; decide +kernel

theorem monero_english_pinned : Gen.monero_english = Golden.monero_english := rfl

theorem monero_english_prefix_unique :
    (Gen.monero_english.map (fun w => utf8Prefix 3 (wordBytesNat w))).Nodup := prefixSortedOrNodupCheck_sound 3 _ (by decide +kernel)

theorem monero_english_nodup : Gen.monero_english.Nodup := nodup_of_nodup_map _ _ monero_english_prefix_unique

theorem monero_french_length : Gen.monero_french.length = 1626 := by
  rw [← lengthR_eq]; decide +kernel

theorem monero_french_pinned : Gen.monero_french = Golden.monero_french := rfl

theorem monero_french_prefix_unique :
    (Gen.monero_french.map (fun w => utf8Prefix 4 (wordBytesNat w))).Nodup := prefixSortedOrNodupCheck_sound 4 _ (by decide +kernel)

theorem monero_french_nodup : Gen.monero_french.Nodup := nodup_of_nodup_map _ _ monero_french_prefix_unique

theorem monero_german_length : Gen.monero_german.length = 1626 := by
  rw [← lengthR_eq]; decide +kernel

theorem monero_german_pinned : Gen.monero_german = Golden.monero_german := rfl

theorem monero_german_prefix_unique :
    (Gen.monero_german.map (fun w => utf8Prefix 4 (wordBytesNat w))).Nodup := prefixSortedOrNodupCheck_sound 4 _ (by decide +kernel)

theorem monero_german_nodup : Gen.monero_german.Nodup := nodup_of_nodup_map _ _ monero_german_prefix_unique

theorem monero_italian_length : Gen.monero_italian.length = 1626 := by
  rw [← lengthR_eq]; decide +kernel

theorem monero_italian_pinned : Gen.monero_italian = Golden.monero_italian := rfl

theorem monero_italian_prefix_unique :
    (Gen.monero_italian.map (fun w => utf8Prefix 4 (wordBytesNat w))).Nodup := prefixSortedOrNodupCheck_sound 4 _ (by decide +kernel)

theorem monero_italian_nodup : Gen.monero_italian.Nodup := nodup_of_nodup_map _ _ monero_italian_prefix_unique

theorem monero_japanese_length : Gen.monero_japanese.length = 1626 := by
  rw [← lengthR_eq]; decide +kernel

theorem monero_japanese_pinned : Gen.monero_japanese = Golden.monero_japanese := rfl

theorem monero_japanese_prefix_unique :
    (Gen.monero_japanese.map (fun w => utf8Prefix 4 (wordBytesNat w))).Nodup := prefixSortedOrNodupCheck_sound 4 _ (by decide +kernel)

theorem monero_japanese_nodup : Gen.monero_japanese.Nodup := nodup_of_nodup_map _ _ monero_japanese_prefix_unique

theorem monero_portuguese_length : Gen.monero_portuguese.length = 1626 := by
  rw [← lengthR_eq]; decide +kernel

theorem monero_portuguese_pinned : Gen.monero_portuguese = Golden.monero_portuguese := rfl

theorem monero_portuguese_prefix_unique :
    (Gen.monero_portuguese.map (fun w => utf8Prefix 4 (wordBytesNat w))).Nodup := prefixSortedOrNodupCheck_sound 4 _ (by decide +kernel)

theorem monero_portuguese_nodup : Gen.monero_portuguese.Nodup := nodup_of_nodup_map _ _ monero_portuguese_prefix_unique

theorem monero_spanish_length : Gen.monero_spanish.length = 1626 := by
  rw [← lengthR_eq]; decide +kernel

theorem monero_spanish_pinned : Gen.monero_spanish = Golden.monero_spanish := rfl

theorem monero_spanish_prefix_unique :
    (Gen.monero_spanish.map (fun w => utf8Prefix 4 (wordBytesNat w))).Nodup := prefixSortedOrNodupCheck_sound 4 _ (by decide +kernel)

theorem monero_spanish_nodup : Gen.monero_spanish.Nodup := nodup_of_nodup_map _ _ monero_spanish_prefix_unique

theorem monero_russian_length : Gen.monero_russian.length = 1626 := by
  rw [← lengthR_eq]; decide +kernel

theorem monero_russian_pinned : Gen.monero_russian = Golden.monero_russian := rfl

theorem monero_russian_prefix_unique :
    (Gen.monero_russian.map (fun w => utf8Prefix 4 (wordBytesNat w))).Nodup := prefixSortedOrNodupCheck_sound 4 _ (by decide +kernel)

theorem monero_russian_nodup : Gen.monero_russian.Nodup := nodup_of_nodup_map _ _ monero_russian_prefix_unique

theorem electrumV1_english_length : Gen.electrumV1_english.length = 1626 := by
  rw [← lengthR_eq]; decide +kernel

theorem electrumV1_english_nodup : Gen.electrumV1_english.Nodup := nodupCheck_sound _ (by decide +kernel)

theorem electrumV1_english_pinned : Gen.electrumV1_english = Golden.electrumV1_english := rfl

/-- the unique-prefix lengths the library uses, per language -/
theorem monero_prefix_lengths :
    Gen.moneroPrefixLen = [("CHINESE_SIMPLIFIED", 1), ("DUTCH", 4), ("ENGLISH", 3), ("FRENCH", 4), ("GERMAN", 4),
      ("ITALIAN", 4), ("JAPANESE", 4), ("PORTUGUESE", 4), ("RUSSIAN", 4), ("SPANISH", 4)] := rfl

end BipVerif.Props.C17Tables
