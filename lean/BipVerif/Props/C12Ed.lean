/-
C12 — the group-law half for ed25519: Mathlib has no Edwards curves, so the group is *constructed*
(`Lemmas/EdGroup/Curve.lean`: completeness of the twisted-Edwards addition law from "−1 is a square,
d is a non-square", closure, and associativity as a polynomial identity modulo the three curve
equations, checked by `linear_combination` with cofactors found by computer algebra) over
`ZMod (2^255-19)` — prime by a Pratt certificate, `d` a non-square by Euler's criterion evaluated
in the kernel — and the executable arithmetic of `Prim/Edwards.lean` (affine law, extended
coordinates, MSB-first double-and-add, RFC 8032 encoding/decoding with the p ≡ 5 (mod 8) square
root) is proved to compute in it.  `KholawLaw`, which the BIP32-Ed25519 commutation theorems of C04 and C18
take as a hypothesis, is proved in `Lemmas/EdGroup/Law.lean` and restated here.
-/
import BipVerif.Lemmas.EdGroup

namespace BipVerif.Props.C12Ed
open BipVerif BipVerif.Prim BipVerif.Model BipVerif.EdGroup

theorem p25519_prime : Nat.Prime edP := Pratt.p25519_prime
theorem edL_prime : Nat.Prime edL := Pratt.edL_prime

/-! `d` a non-square and `-1` a square modulo `p`: exactly what makes the addition law complete. -/

theorem d_nonsquare (z : F) : z * z ≠ dF := dF_nonsq z
theorem minus_one_square : iF * iF = -1 := iF_sq

/-- completeness: the two denominators of the addition law never vanish on curve points -/
theorem add_denominators_ne_zero {x1 y1 x2 y2 : F} (e1 : edC.On x1 y1) (e2 : edC.On x2 y2) :
    1 + edC.d * x1 * x2 * y1 * y2 ≠ 0 ∧ 1 - edC.d * x1 * x2 * y1 * y2 ≠ 0 :=
  ⟨edC.one_add_t_ne e1 e2, edC.one_sub_t_ne e1 e2⟩

/-- the points of the curve form a commutative group under the Edwards law -/
noncomputable example : AddCommGroup EdPt := inferInstance

theorem toE_injective {P Q : EdPoint} (hP : edOnCurve P = true) (hQ : edOnCurve Q = true)
    (h : toE P = toE Q) : P = Q := toE_injOn hP hQ h

/-- `edAdd` stays on the curve and is the group law -/
theorem add_is_group_add {P Q : EdPoint} (hP : edOnCurve P = true) (hQ : edOnCurve Q = true) :
    edOnCurve (edAdd P Q) = true ∧ toE (edAdd P Q) = toE P + toE Q := edAdd_correct hP hQ

theorem neg_is_group_neg {P : EdPoint} (hP : edOnCurve P = true) :
    edOnCurve (edNeg P) = true ∧ toE (edNeg P) = -toE P := edNeg_correct hP

/-- the extended-coordinate double-and-add `edMul` is `k • ·` for every `k : ℕ` -/
theorem mul_is_nsmul (k : ℕ) {P : EdPoint} (hP : edOnCurve P = true) :
    toE (edMul k P) = k • toE P ∧ edOnCurve (edMul k P) = true := edMul_correct k hP

theorem mulBase_is_nsmul_B (k : ℕ) : toE (edMulBase k) = k • edB := toE_edMulBase k

/-! `toE` being injective on curve points, the executable functions satisfy the group laws themselves. -/

theorem add_comm' {P Q : EdPoint} (hP : edOnCurve P = true) (hQ : edOnCurve Q = true) :
    edAdd P Q = edAdd Q P :=
  toE_injOn (edAdd_correct hP hQ).1 (edAdd_correct hQ hP).1
    (by rw [(edAdd_correct hP hQ).2, (edAdd_correct hQ hP).2, add_comm])

theorem add_assoc' {P Q R : EdPoint} (hP : edOnCurve P = true) (hQ : edOnCurve Q = true)
    (hR : edOnCurve R = true) : edAdd (edAdd P Q) R = edAdd P (edAdd Q R) := by
  have hPQ := edAdd_correct hP hQ
  have hQR := edAdd_correct hQ hR
  exact toE_injOn (edAdd_correct hPQ.1 hR).1 (edAdd_correct hP hQR.1).1
    (by rw [(edAdd_correct hPQ.1 hR).2, hPQ.2, (edAdd_correct hP hQR.1).2, hQR.2, add_assoc])

theorem mul_add_scalar (a b : ℕ) {P : EdPoint} (hP : edOnCurve P = true) :
    edMul (a + b) P = edAdd (edMul a P) (edMul b P) := by
  have ha := edMul_correct a hP
  have hb := edMul_correct b hP
  have hab := edMul_correct (a + b) hP
  exact toE_injOn hab.2 (edAdd_correct ha.2 hb.2).1
    (by rw [hab.1, (edAdd_correct ha.2 hb.2).2, ha.1, hb.1, add_nsmul])

theorem mul_mul_scalar (a b : ℕ) {P : EdPoint} (hP : edOnCurve P = true) :
    edMul a (edMul b P) = edMul (a * b) P := by
  have hb := edMul_correct b hP
  exact toE_injOn (edMul_correct a hb.2).2 (edMul_correct (a * b) hP).2
    (by rw [(edMul_correct a hb.2).1, hb.1, (edMul_correct (a * b) hP).1, mul_comm a b, mul_nsmul])

theorem base_onCurve : edOnCurve edBase = true := edBase_onCurve

/-- `B` has order exactly `L`: `k·B = 0 ↔ L ∣ k` -/
theorem base_order (k : ℕ) : k • edB = 0 ↔ edL ∣ k := edB_hasOrder k

/-- on the executable side: `k·B` is the identity `(0, 1)` exactly for multiples of `L` -/
theorem mulBase_identity_iff (k : ℕ) : edMulBase k = edIdentity ↔ edL ∣ k := by
  rw [← edB_hasOrder k, ← toE_edMulBase k, toE_eq_zero_iff (edOnCurve_edMulBase k)]

theorem mulBase_mod (k : ℕ) : edMulBase (k % edL) = edMulBase k :=
  toE_injOn (edOnCurve_edMulBase _) (edOnCurve_edMulBase _)
    (by rw [toE_edMulBase, toE_edMulBase, GroupModel.mod_nsmul edB_hasOrder])

/-- RFC 8032: decoding the 32-byte encoding of an on-curve point returns that point (correctness of
the x-recovery: `x² = (y²−1)/(dy²+1)`, the p ≡ 5 (mod 8) square root and the sign selection) -/
theorem decode_encode {P : EdPoint} (hP : edOnCurve P = true) :
    edDecodeLenient (edEncode P) = some P := edDecodeLenient_edEncode hP

theorem encoding_accepted_by_on_curve_test {P : EdPoint} (hP : edOnCurve P = true) :
    edBytesOnCurve (edEncode P) = some true := edBytesOnCurve_edEncode hP

theorem groupModel : GroupModel.EdGroupModel edB ofE := edGroupModel

/-- `KholawLaw` (the hypothesis of C04's and C18's BIP32-Ed25519 commutation theorems) holds -/
theorem kholawLaw : KholawLaw := EdGroup.kholawLaw

example : edMulBase 1 = edBase := by decide +kernel
example : edMulBase 2 = edAdd edBase edBase := by decide +kernel
example : edMulBase (edL + 1) = edBase := by decide +kernel

/-- an encoded on-curve point, with the library's `0x00` prefix, is accepted by the prefixed public-key
classes (ed25519, ed25519-blake2b, Khovratovich–Law) and is its own canonical form -/
theorem prefixed_pub_canonical (c : CurveT) (hc : c = .ed25519 ∨ c = .ed25519Blake2b ∨ c = .ed25519Kholaw)
    {P : EdPoint} (hP : edOnCurve P = true) :
    pubFromBytes c (0 :: edEncode P) = some (0 :: edEncode P) := by
  have hlen : (edEncode P).length = 32 := EccLemmas.edEncode_length P
  have hstrip : edStripPrefix (0 :: edEncode P) = edEncode P := by
    unfold edStripPrefix; simp [hlen]
  have hon := edBytesOnCurve_edEncode hP
  rcases hc with rfl | rfl | rfl <;>
    simp [pubFromBytes, hstrip, hon, hlen]

/-- the Monero flavour carries no prefix -/
theorem monero_pub_canonical {P : EdPoint} (hP : edOnCurve P = true) :
    pubFromBytes .ed25519Monero (edEncode P) = some (edEncode P) := by
  have hlen : (edEncode P).length = 32 := EccLemmas.edEncode_length P
  have hstrip : edStripPrefix (edEncode P) = edEncode P := by
    unfold edStripPrefix; simp [hlen]
  have hon := edBytesOnCurve_edEncode hP
  simp [pubFromBytes, hstrip, hon, hlen]

/-- Every ed25519 / ed25519-blake2b private key has a public key, it is `clamp(H(k))·B` encoded, and the
public-key class accepts it unchanged. -/
theorem ed25519_pub_of_priv (k : Bytes) :
    ∃ P, pubOfPriv .ed25519 k = some P ∧ pubFromBytes .ed25519 P = some P ∧
      P = 0 :: edEncode (edMulBase (edClamp (sha512 k))) :=
  ⟨_, rfl, prefixed_pub_canonical .ed25519 (Or.inl rfl) (edOnCurve_edMulBase _), rfl⟩

theorem ed25519Blake2b_pub_of_priv (k : Bytes) :
    ∃ P, pubOfPriv .ed25519Blake2b k = some P ∧ pubFromBytes .ed25519Blake2b P = some P ∧
      P = 0 :: edEncode (edMulBase (edClamp (blake2b512 k))) :=
  ⟨_, rfl, prefixed_pub_canonical .ed25519Blake2b (Or.inr (Or.inl rfl)) (edOnCurve_edMulBase _), rfl⟩

/-- a clamped scalar is never a multiple of `L` (it lies in `[2^254, 2^255)` and is a multiple of 8 … the
relevant fact here: it is below `8·L` and not `0`), so the public point is never the identity — stated
through the order theorem: the identity appears exactly at multiples of `L` -/
theorem clamped_pub_identity_iff (h : Bytes) :
    edMulBase (edClamp h) = edIdentity ↔ edL ∣ edClamp h := mulBase_identity_iff _

end BipVerif.Props.C12Ed
