/-
C13 (WIF part) — `WifEncoder.Encode` / `WifDecoder.Decode` for secp256k1 private keys: round trip
in both modes, canonicity, error kinds.  `H` is an arbitrary checksum hash; the round trip and
canonicity need it to have at least 4 output bytes (`hH`), and `sha256d`, the library's, has.  The lemmas are in `BipVerif/Lemmas/Wif.lean`.
-/
import BipVerif.Lemmas.Except
import BipVerif.Lemmas.Wif
import BipVerif.Prim.Sha256

namespace BipVerif.Props.C13Wif
open BipVerif BipVerif.Model

theorem wif_encode_invalid (H : Bytes → Bytes) (k netVer : Bytes) (c : Bool)
    (hk : privValid .secp256k1 k = false) : wifEncode H k netVer c = .error .value := by
  unfold wifEncode; simp [hk, throw, throwThe, MonadExceptOf.throw]

theorem wif_encode_valid (H : Bytes → Bytes) (k netVer : Bytes) (c : Bool)
    (hk : privValid .secp256k1 k = true) :
    wifEncode H k netVer c
      = .ok (b58CheckEncode H btcAlphabet (netVer ++ k ++ (if c then [1] else []))) := by
  unfold wifEncode; simp [hk, pure, Except.pure]

theorem wif_encode_ok_iff (H : Bytes → Bytes) (k netVer : Bytes) (c : Bool) :
    (∃ s, wifEncode H k netVer c = .ok s) ↔ privValid .secp256k1 k = true := by
  cases hk : privValid .secp256k1 k
  · rw [wif_encode_invalid H k netVer c hk]; simp
  · rw [wif_encode_valid H k netVer c hk]; simp

/-- WIF round trip: `WifDecoder.Decode(WifEncoder.Encode(k, v, mode), v)` returns the key and the
mode, for every valid key, every version byte, compressed and uncompressed. -/
theorem wif_roundtrip (H : Bytes → Bytes) (hH : ∀ x, (H x).length ≥ 4) (k : Bytes)
    (hk : privValid .secp256k1 k = true) (v : UInt8) (c : Bool) :
    (wifEncode H k [v] c >>= fun s => wifDecode H s v) = .ok (k, c) := by
  rw [wif_encode_valid H k [v] c hk, ok_bind, XK.wifDecode_eq, b58CheckDecode_btc_encode H hH, ok_bind]
  exact (XK.wifParse_ok_iff ..).mpr ⟨hk, rfl⟩

/-- `WifDecoder.Decode` raises `ValueError` or `Base58ChecksumError`, nothing else. -/
theorem wif_decode_errors (H : Bytes → Bytes) (s : List Char) (v : UInt8) (e : Err)
    (h : wifDecode H s v = .error e) : e = .value ∨ e = .checksum := by
  rw [XK.wifDecode_eq] at h
  rcases bind_error_inv h with h | ⟨dec, -, h⟩
  · exact b58CheckDecode_error H btcAlphabet s e h
  · exact .inl (XK.wifParse_error v dec e h)

theorem wif_decode_checksum_iff (H : Bytes → Bytes) (s : List Char) (v : UInt8) :
    wifDecode H s v = .error .checksum ↔
      ∃ dec, b58Decode btcAlphabet s = .ok dec ∧ takeLast dec 4 ≠ (H (dropLast dec 4)).take 4 := by
  rw [XK.wifDecode_eq, bind_eq_error_iff_left (e := .checksum) (fun dec h => nomatch XK.wifParse_error v dec _ h),
    b58CheckDecode_checksum_iff]

theorem wif_decode_ok (H : Bytes → Bytes) (s : List Char) (v : UInt8) (k : Bytes) (c : Bool)
    (h : wifDecode H s v = .ok (k, c)) :
    privValid .secp256k1 k = true ∧
      b58CheckDecode H btcAlphabet s = .ok ([v] ++ k ++ (if c then [1] else [])) := by
  rw [XK.wifDecode_eq] at h
  obtain ⟨dec, hdec, h⟩ := bind_ok_inv h
  obtain ⟨hk, rfl⟩ := (XK.wifParse_ok_iff ..).mp h
  exact ⟨hk, hdec⟩

/-- Canonicity: a string `WifDecoder.Decode` accepts is exactly what `WifEncoder.Encode` gives for
the key and mode it decodes to. -/
theorem wif_canon (H : Bytes → Bytes) (hH : ∀ x, (H x).length ≥ 4) (s : List Char) (v : UInt8)
    (k : Bytes) (c : Bool) (h : wifDecode H s v = .ok (k, c)) :
    wifEncode H k [v] c = .ok s := by
  obtain ⟨hk, hdec⟩ := wif_decode_ok H s v k c h
  rw [wif_encode_valid H k [v] c hk]
  have hb58 := (b58CheckDecode_ok_iff H btcAlphabet hH s _).mp hdec
  exact congrArg Except.ok (b58Encode_of_b58Decode btcAlphabet btcAlphabet_length hb58)

/-! ### the library's instance: `H` = double SHA-256 -/

theorem wif_roundtrip_sha256d (k : Bytes) (hk : privValid .secp256k1 k = true) (v : UInt8) (c : Bool) :
    (wifEncode Prim.sha256d k [v] c >>= fun s => wifDecode Prim.sha256d s v) = .ok (k, c) :=
  wif_roundtrip Prim.sha256d sha256d_ge4 k hk v c

theorem wif_canon_sha256d (s : List Char) (v : UInt8) (k : Bytes) (c : Bool)
    (h : wifDecode Prim.sha256d s v = .ok (k, c)) : wifEncode Prim.sha256d k [v] c = .ok s :=
  wif_canon Prim.sha256d sha256d_ge4 s v k c h

end BipVerif.Props.C13Wif
