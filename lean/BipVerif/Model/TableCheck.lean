/-
Kernel-fast checkers for large generated tables of natural numbers (word lists of 2048 / 1626
entries, every entry a big `Nat` literal that encodes the UTF-8 bytes of a word).

Everything in this file is Mathlib-free and written with *raw recursors* (`List.rec`, `Nat.rec`,
`Bool.rec`, `Prod.rec`) instead of the equation compiler: under `decide +kernel` a function compiled
by structural recursion (`brecOn` + matchers) is several times slower per recursion step than the
same loop over a raw recursor.  The price is that the definitions are `noncomputable` (the code
generator has no recursor support) - they are meant to be evaluated by the kernel only - and that
they read a little unusual; the `rfl` equation lemmas below give the readable recursive equations
and are what the soundness proofs (`BipVerif.Lemmas.Table`) use.

Small non-recursive helpers such as `bsel` are deliberately ordinary definitions: the kernel's
`whnf_core` handles beta/iota steps by C++ recursion but returns to the iterative `whnf` loop
for every delta step, so one definition unfolding per loop iteration keeps the kernel's stack
flat ("deep recursion detected" otherwise at a few thousand iterations).

Word encoding (fixed by the table generator): a word `w` is the `Nat` whose big-endian bytes are
`0x01 ‖ utf8(w)`; see `encodeBytes` / `wordBytesNat`.
-/
namespace BipVerif.Table

noncomputable def bsel (c : Bool) (a b : List Nat) : List Nat := @Bool.rec (fun _ => List Nat) b a c

/-- `c && a`, lazy in `a` -/
noncomputable def band (c : Bool) (a : Bool) : Bool := @Bool.rec (fun _ => Bool) false a c

@[simp] theorem bsel_true (a b : List Nat) : bsel true a b = a := rfl
@[simp] theorem bsel_false (a b : List Nat) : bsel false a b = b := rfl
@[simp] theorem band_true (a : Bool) : band true a = a := rfl
@[simp] theorem band_false (a : Bool) : band false a = false := rfl
theorem band_eq_and (c a : Bool) : band c a = (c && a) := by cases c <;> rfl
theorem bsel_eq_cond (c : Bool) (a b : List Nat) : bsel c a b = bif c then a else b := by
  cases c <;> rfl

/-- merge of two lists (lazy stream merge; for sorted inputs the output is sorted, but the
soundness proof only needs that it is a permutation of `xs ++ ys`) -/
noncomputable def merge : List Nat → List Nat → List Nat :=
  @List.rec Nat (fun _ => List Nat → List Nat) (fun ys => ys)
    (fun x xs ihxs ys =>
      @List.rec Nat (fun _ => List Nat) (x :: xs)
        (fun y ys' ihys => bsel (Nat.ble x y) (x :: ihxs (y :: ys')) (y :: ihys)) ys)

theorem merge_nil (ys : List Nat) : merge [] ys = ys := rfl
theorem merge_cons_nil (x : Nat) (xs : List Nat) : merge (x :: xs) [] = x :: xs := rfl
theorem merge_cons_cons (x : Nat) (xs : List Nat) (y : Nat) (ys : List Nat) :
    merge (x :: xs) (y :: ys) =
      bsel (Nat.ble x y) (x :: merge xs (y :: ys)) (y :: merge (x :: xs) ys) := rfl

/-- `sortD d l` sorts (at most) the first `2^d` elements of `l` and returns them together with
the untouched rest -/
noncomputable def sortD : Nat → List Nat → List Nat × List Nat :=
  @Nat.rec (fun _ => List Nat → List Nat × List Nat)
    (fun l => @List.rec Nat (fun _ => List Nat × List Nat) ([], []) (fun x xs _ => (x :: [], xs)) l)
    (fun _ ih l =>
      @Prod.rec (List Nat) (List Nat) (fun _ => List Nat × List Nat)
        (fun a r =>
          @List.rec Nat (fun _ => List Nat × List Nat) (a, [])
            (fun y ys _ =>
              @Prod.rec (List Nat) (List Nat) (fun _ => List Nat × List Nat)
                (fun b r' => (merge a b, r')) (ih (y :: ys))) r)
        (ih l))

theorem sortD_zero_nil : sortD 0 [] = ([], []) := rfl
theorem sortD_zero_cons (x : Nat) (xs : List Nat) : sortD 0 (x :: xs) = ([x], xs) := rfl
theorem sortD_succ (d : Nat) (l : List Nat) :
    sortD (d + 1) l =
      match (sortD d l).2 with
      | [] => ((sortD d l).1, [])
      | y :: ys => (merge (sortD d l).1 (sortD d (y :: ys)).1, (sortD d (y :: ys)).2) := by
  show
    @Prod.rec (List Nat) (List Nat) (fun _ => List Nat × List Nat)
        (fun a r =>
          @List.rec Nat (fun _ => List Nat × List Nat) (a, [])
            (fun y ys _ =>
              @Prod.rec (List Nat) (List Nat) (fun _ => List Nat × List Nat)
                (fun b r' => (merge a b, r')) (sortD d (y :: ys))) r)
        (sortD d l) = _
  rcases sortD d l with ⟨a, r⟩
  cases r with
  | nil => rfl
  | cons y ys => rcases h : sortD d (y :: ys) with ⟨b, r'⟩; simp [h]

/-- `sortGo fuel d a r`: `a` holds the `2^d` elements sorted so far; sort the next `2^d`
elements of `r`, merge, double.  `fuel` bounds the number of doublings (64 in `msort`); when it
runs out the rest is merged in unsorted, which keeps the result a permutation, so soundness does
not depend on the fuel. -/
noncomputable def sortGo : Nat → Nat → List Nat → List Nat → List Nat :=
  @Nat.rec (fun _ => Nat → List Nat → List Nat → List Nat)
    (fun _ a r => merge a r)
    (fun _ ih d a r =>
      @List.rec Nat (fun _ => List Nat) a
        (fun y ys _ =>
          @Prod.rec (List Nat) (List Nat) (fun _ => List Nat)
            (fun b r' => ih (Nat.succ d) (merge a b) r') (sortD d (y :: ys))) r)

theorem sortGo_zero (d : Nat) (a r : List Nat) : sortGo 0 d a r = merge a r := rfl
theorem sortGo_succ_nil (f d : Nat) (a : List Nat) : sortGo (f + 1) d a [] = a := rfl
theorem sortGo_succ_cons (f d : Nat) (a : List Nat) (y : Nat) (ys : List Nat) :
    sortGo (f + 1) d a (y :: ys) =
      sortGo f (d + 1) (merge a (sortD d (y :: ys)).1) (sortD d (y :: ys)).2 := by
  show
    @Prod.rec (List Nat) (List Nat) (fun _ => List Nat)
        (fun b r' => sortGo f (Nat.succ d) (merge a b) r') (sortD d (y :: ys)) = _
  rcases sortD d (y :: ys) with ⟨b, r'⟩; rfl

/-- merge sort (bottom-up by doubling, no length computation, at most `2^64` elements sorted) -/
noncomputable def msort (l : List Nat) : List Nat :=
  @List.rec Nat (fun _ => List Nat) [] (fun x xs _ => sortGo 64 0 (x :: []) xs) l

theorem msort_nil : msort [] = [] := rfl
theorem msort_cons (x : Nat) (xs : List Nat) : msort (x :: xs) = sortGo 64 0 [x] xs := rfl

/-- `strictFrom l a`: `a < l₀ < l₁ < …` -/
noncomputable def strictFrom : List Nat → Nat → Bool :=
  @List.rec Nat (fun _ => Nat → Bool) (fun _ => true)
    (fun b _ ih a => band (Nat.blt a b) (ih b))

theorem strictFrom_nil (a : Nat) : strictFrom [] a = true := rfl
theorem strictFrom_cons (b : Nat) (t : List Nat) (a : Nat) :
    strictFrom (b :: t) a = band (Nat.blt a b) (strictFrom t b) := rfl

noncomputable def strictSorted : List Nat → Bool :=
  @List.rec Nat (fun _ => Bool) true (fun a t _ => strictFrom t a)

theorem strictSorted_nil : strictSorted [] = true := rfl
theorem strictSorted_cons (a : Nat) (t : List Nat) : strictSorted (a :: t) = strictFrom t a := rfl

/-- duplicate-freeness checker: sort, then test that the result is strictly increasing -/
noncomputable def nodupCheck (l : List Nat) : Bool := strictSorted (msort l)

/-- `a ++ b` is duplicate-free, tested on the two sorted lists.  Evaluated in the same declaration
as `nodupCheck a` and `nodupCheck b` this costs one merge: the kernel keeps the weak head normal
forms it has computed, so `msort a` and `msort b` are not sorted again. -/
noncomputable def disjointCheck (a b : List Nat) : Bool := strictSorted (merge (msort a) (msort b))

noncomputable def allB (p : Nat → Bool) : List Nat → Bool :=
  @List.rec Nat (fun _ => Bool) true (fun x _ ih => band (p x) ih)

theorem allB_nil (p : Nat → Bool) : allB p [] = true := rfl
theorem allB_cons (p : Nat → Bool) (x : Nat) (t : List Nat) :
    allB p (x :: t) = band (p x) (allB p t) := rfl

noncomputable def allLt (bound : Nat) (l : List Nat) : Bool := allB (fun x => Nat.blt x bound) l

/-- length, raw recursor version of `List.length` -/
noncomputable def lengthR : List Nat → Nat :=
  @List.rec Nat (fun _ => Nat) 0 (fun _ _ ih => Nat.succ ih)

/-- `List.map`, raw recursor version -/
noncomputable def mapR (f : Nat → Nat) : List Nat → List Nat :=
  @List.rec Nat (fun _ => List Nat) [] (fun x _ ih => f x :: ih)

theorem mapR_nil (f : Nat → Nat) : mapR f [] = [] := rfl
theorem mapR_cons (f : Nat → Nat) (x : Nat) (t : List Nat) : mapR f (x :: t) = f x :: mapR f t := rfl

noncomputable def listEqCheck : List Nat → List Nat → Bool :=
  @List.rec Nat (fun _ => List Nat → Bool)
    (fun b => @List.rec Nat (fun _ => Bool) true (fun _ _ _ => false) b)
    (fun x _ ih b => @List.rec Nat (fun _ => Bool) false (fun y ys _ => band (Nat.beq x y) (ih ys)) b)

theorem listEqCheck_nil_nil : listEqCheck [] [] = true := rfl
theorem listEqCheck_nil_cons (y : Nat) (ys : List Nat) : listEqCheck [] (y :: ys) = false := rfl
theorem listEqCheck_cons_nil (x : Nat) (xs : List Nat) : listEqCheck (x :: xs) [] = false := rfl
theorem listEqCheck_cons_cons (x : Nat) (xs : List Nat) (y : Nat) (ys : List Nat) :
    listEqCheck (x :: xs) (y :: ys) = band (Nat.beq x y) (listEqCheck xs ys) := rfl

/-- `encodeFrom a bs`: append the base-256 digits `bs` (big-endian) to the number `a` -/
noncomputable def encodeFrom : List Nat → Nat → Nat :=
  @List.rec Nat (fun _ => Nat → Nat) (fun a => a) (fun b _ ih a => ih (Nat.add (Nat.mul a 256) b))

theorem encodeFrom_nil (a : Nat) : encodeFrom [] a = a := rfl
theorem encodeFrom_cons (b : Nat) (t : List Nat) (a : Nat) :
    encodeFrom (b :: t) a = encodeFrom t (a * 256 + b) := rfl

/-- the table encoding of a byte string: big-endian value of `0x01 ‖ bs`
(Python: `int.from_bytes(b"\x01" + bs, "big")`) -/
noncomputable def encodeBytes (bs : List Nat) : Nat := encodeFrom bs 1

/-- `bytesAux fuel n acc`: push the base-256 digits of `n` (most significant first) in front of
`acc`, stopping at the `0x01` marker (`n ≤ 1`).  `fuel` only has to be at least the number of
digits; `wordBytesNat` uses `n` itself (the kernel peels one `Nat.succ` off a literal per step,
and the loop stops long before the fuel matters). -/
noncomputable def bytesAux : Nat → Nat → List Nat → List Nat :=
  @Nat.rec (fun _ => Nat → List Nat → List Nat) (fun _ acc => acc)
    (fun _ ih n acc => bsel (Nat.ble n 1) acc (ih (Nat.div n 256) (Nat.mod n 256 :: acc)))

theorem bytesAux_zero (n : Nat) (acc : List Nat) : bytesAux 0 n acc = acc := rfl
theorem bytesAux_succ (f n : Nat) (acc : List Nat) :
    bytesAux (f + 1) n acc = bsel (Nat.ble n 1) acc (bytesAux f (n / 256) (n % 256 :: acc)) := rfl

/-- decoding of a table entry: the big-endian bytes of `n` without the leading `0x01` marker
(`Nat.log2` is *not* accelerated by the kernel and is slow on numbers of this size, hence the
marker-terminated loop instead of a length computation) -/
noncomputable def wordBytesNat (n : Nat) : List Nat := bytesAux n n []

/-- `utf8PrefixAux bytes k`: the bytes of the first `k` code points of a UTF-8 byte string.
A code point starts at every byte that is not a continuation byte `10xxxxxx` (`b / 64 ≠ 2`);
continuation bytes belong to the code point in progress.  (Only for input that is not UTF-8:
continuation bytes in front of the first start byte are kept as well.) -/
noncomputable def utf8PrefixAux : List Nat → Nat → List Nat :=
  @List.rec Nat (fun _ => Nat → List Nat) (fun _ => [])
    (fun b _ ih k =>
      bsel (Nat.beq (Nat.div b 64) 2) (b :: ih k)
        (@Nat.rec (fun _ => List Nat) [] (fun k' _ => b :: ih k') k))

/-- the bytes of the first `k` code points -/
noncomputable def utf8Prefix (k : Nat) (bytes : List Nat) : List Nat := utf8PrefixAux bytes k

theorem utf8Prefix_nil (k : Nat) : utf8Prefix k [] = [] := rfl
theorem utf8Prefix_cons_cont (k b : Nat) (t : List Nat) (h : b / 64 = 2) :
    utf8Prefix k (b :: t) = b :: utf8Prefix k t := by
  show bsel (Nat.beq (b / 64) 2) _ _ = _
  rw [h]; rfl
theorem utf8Prefix_zero_cons_start (b : Nat) (t : List Nat) (h : b / 64 ≠ 2) :
    utf8Prefix 0 (b :: t) = [] := by
  show bsel (Nat.beq (b / 64) 2) _ _ = _
  have : Nat.beq (b / 64) 2 = false := by
    cases hb : Nat.beq (b / 64) 2 with
    | false => rfl
    | true => exact absurd (Nat.eq_of_beq_eq_true hb) h
  rw [this]; rfl
theorem utf8Prefix_succ_cons_start (k b : Nat) (t : List Nat) (h : b / 64 ≠ 2) :
    utf8Prefix (k + 1) (b :: t) = b :: utf8Prefix k t := by
  show bsel (Nat.beq (b / 64) 2) _ _ = _
  have : Nat.beq (b / 64) 2 = false := by
    cases hb : Nat.beq (b / 64) 2 with
    | false => rfl
    | true => exact absurd (Nat.eq_of_beq_eq_true hb) h
  rw [this]; rfl

/-- `prefEnc bytes k a`: fused `encodeFrom (utf8Prefix k bytes) a` (one pass, no intermediate
list; see `prefEnc_eq` in `BipVerif.Lemmas.Table`) -/
noncomputable def prefEnc : List Nat → Nat → Nat → Nat :=
  @List.rec Nat (fun _ => Nat → Nat → Nat) (fun _ a => a)
    (fun b _ ih k a =>
      @Bool.rec (fun _ => Nat)
        (@Nat.rec (fun _ => Nat) a (fun k' _ => ih k' (Nat.add (Nat.mul a 256) b)) k)
        (ih k (Nat.add (Nat.mul a 256) b))
        (Nat.beq (Nat.div b 64) 2))

theorem prefEnc_nil (k a : Nat) : prefEnc [] k a = a := rfl
theorem prefEnc_cons (b : Nat) (t : List Nat) (k a : Nat) :
    prefEnc (b :: t) k a =
      @Bool.rec (fun _ => Nat)
        (@Nat.rec (fun _ => Nat) a (fun k' _ => prefEnc t k' (a * 256 + b)) k)
        (prefEnc t k (a * 256 + b))
        (Nat.beq (b / 64) 2) := rfl

/-- sort key: the table encoding of the first `k` code points of the word encoded by `w`,
i.e. `encodeBytes (utf8Prefix k (wordBytesNat w))` (`prefixKey_eq`) -/
noncomputable def prefixKey (k : Nat) (w : Nat) : Nat := prefEnc (wordBytesNat w) k 1

/-- the first `k` code points of the words are pairwise distinct -/
noncomputable def prefixNodupCheck (k : Nat) (l : List Nat) : Bool := nodupCheck (mapR (prefixKey k) l)

/-- `prefixNodupCheck` with a linear test first.  The Monero lists are alphabetical, and where the `k`-point
prefixes all have the same number of bytes (Dutch, English, French, Italian, Russian) the sort keys come
out increasing as they stand, so no sort is needed; the complete test is evaluated only if they do not
(`||` is lazy in the kernel, and within one declaration the keys are computed once). -/
noncomputable def prefixSortedOrNodupCheck (k : Nat) (l : List Nat) : Bool :=
  strictSorted (mapR (prefixKey k) l) || prefixNodupCheck k l

end BipVerif.Table
