-- root of the library: every property module (their imports pull in models, lemmas, tables)
import BipVerif.Props.C01
import BipVerif.Props.C01Tables
import BipVerif.Props.C02
import BipVerif.Props.C03
import BipVerif.Props.C04
import BipVerif.Props.C05
import BipVerif.Props.C06
import BipVerif.Props.C07
import BipVerif.Props.C07Tables
import BipVerif.Props.C08
import BipVerif.Props.C09
import BipVerif.Props.C09Tables
import BipVerif.Props.C10Codec
import BipVerif.Props.C10Addr
import BipVerif.Props.C11
import BipVerif.Props.C13Wif
import BipVerif.Props.C14
import BipVerif.Props.C15
import BipVerif.Props.C17
import BipVerif.Props.C17Tables
import BipVerif.Props.C12
import BipVerif.Props.C18
import BipVerif.Props.C19
import BipVerif.Props.C13
import BipVerif.Props.C16
import BipVerif.Props.C20
import BipVerif.Props.C14Addr
import BipVerif.Props.C05Tables
import BipVerif.Props.C14Wallets
import BipVerif.Props.C12Group
import BipVerif.Props.C12Ed
import BipVerif.Props.C04Group
import BipVerif.Props.C12Tables
import BipVerif.Props.C09Group
import BipVerif.Props.C03Group
import BipVerif.Props.C13Group
import BipVerif.Props.C10Distance
import BipVerif.Props.C17Langs
import BipVerif.Props.C14More
